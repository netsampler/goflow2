import Goflow.Spec.Frame
import Goflow.Producer.Packet
import Proofs.Lemmas.Bytes
/-!
  C10 — each layer parser of the dissector on the encoding of its header (`Goflow.Spec.Frame`): reading fields out
  of encoded segments; the parser on the complete header in normal and in encapsulated mode (`parseX_spec`,
  `parseX_enc`); on a header cut short (`runParser_short`, `parseX_take`: nothing beyond the guard is read); a routing
  header cut inside its segment list and an MPLS label stack cut inside (`parseRoute_cut`, `parseMPLS_cut`).
-/
set_option linter.unusedSimpArgs false

namespace Goflow.C10
open Goflow Goflow.Producer Goflow.Spec.Frame

theorem be_skip (x r : Bytes) (i n : Nat) (h : x.length ≤ i) : be (x ++ r) i n = be r (i - x.length) n := by
  simp [be, List.drop_append, List.drop_of_length_le h]

theorem be_here (x r : Bytes) (n : Nat) (h : x.length = n) : be (x ++ r) 0 n = beNat x := by
  simp [be, List.take_left' h]

theorem be_last (x : Bytes) (n : Nat) (h : x.length = n) : be x 0 n = beNat x := by
  simp [be, ← h]

theorem sl_skip (x r : Bytes) (i j : Nat) (h : x.length ≤ i) : sl (x ++ r) i j = sl r (i - x.length) (j - x.length) := by
  simp only [sl, List.drop_append, List.drop_of_length_le h, List.nil_append]
  congr 1; omega

theorem sl_here (x r : Bytes) (j : Nat) (h : x.length = j) : sl (x ++ r) 0 j = x := by
  simp [sl, List.take_left' h]

theorem u8_skip (x r : Bytes) (i : Nat) (h : x.length ≤ i) : Producer.u8 (x ++ r) i = Producer.u8 r (i - x.length) := by
  simp [Producer.u8, List.getD_eq_getElem?_getD, List.getElem?_append_right h]

theorem u8_here (x r : Bytes) (h : x.length = 1) : Producer.u8 (x ++ r) 0 = beNat x := by
  match x, h with
  | [b], _ => simp [Producer.u8, beNat]

theorem u8_cons_zero (b : UInt8) (r : Bytes) : Producer.u8 (b :: r) 0 = b.toNat := by simp [Producer.u8]
theorem u8_cons_succ (b : UInt8) (r : Bytes) (i : Nat) : Producer.u8 (b :: r) (i + 1) = Producer.u8 r i := by
  simp [Producer.u8]

theorem u8_enc1_zero (a : Nat) (r : Bytes) (h : a < 256) : Producer.u8 (encBE 1 a ++ r) 0 = a := by
  rw [u8_here _ _ (encBE_length 1 a), beNat_encBE_of_lt (n := 1) h]

theorem u8_enc1_succ (a : Nat) (r : Bytes) (i : Nat) : Producer.u8 (encBE 1 a ++ r) (i + 1) = Producer.u8 r i := by
  rw [u8_skip _ _ _ (by rw [encBE_length]; omega), encBE_length, Nat.add_sub_cancel]

theorem encBE_add (a b v : Nat) : encBE (a + b) v = encBE a (v / 256 ^ b) ++ encBE b v := by
  induction b generalizing v with
  | zero => simp [encBE]
  | succ b ih =>
    rw [← Nat.add_assoc]
    simp only [encBE]
    rw [ih, List.append_assoc, Nat.div_div_eq_div_mul, Nat.pow_succ, Nat.mul_comm 256]

theorem encBE_two (v : Nat) : encBE 2 v = [UInt8.ofNat (v / 256 % 256), UInt8.ofNat (v % 256)] := by
  simp [encBE]

theorem u8_take {g k : Nat} (h : g ≤ k) (d : Bytes) (i : Nat) (hi : i < g) :
    Producer.u8 (d.take k) i = Producer.u8 d i := by
  have : i < k := by omega
  simp [Producer.u8, List.getD_eq_getElem?_getD, List.getElem?_take, this]

theorem be_take {g k : Nat} (h : g ≤ k) (d : Bytes) (i n : Nat) (hi : i + n ≤ g) :
    be (d.take k) i n = be d i n := by
  simp only [be, List.drop_take, List.take_take]
  rw [Nat.min_eq_left (by omega)]

theorem sl_take {g k : Nat} (h : g ≤ k) (d : Bytes) (i j : Nat) (hj : j ≤ g) :
    sl (d.take k) i j = sl d i j := by
  simp only [sl, List.drop_take, List.take_take]
  rw [Nat.min_eq_left (by omega)]

theorem lt_take {g k : Nat} (h : g ≤ k) (n : Nat) : (min k n < g) ↔ n < g := by omega

theorem lsv : layerStackValue "Ethernet" = 0 ∧ layerStackValue "Dot1Q" = 6 ∧ layerStackValue "IPv4" = 1 ∧
    layerStackValue "IPv6" = 2 ∧ layerStackValue "TCP" = 3 ∧ layerStackValue "UDP" = 4 ∧
    layerStackValue "ICMP" = 7 ∧ layerStackValue "ICMPv6" = 8 := by decide

theorem parseEthernet_spec (m : FlowMsg) (dm sm : Bytes) (e0 e1 : UInt8) (rest : Bytes) (pc : PC)
    (hdm : dm.length = 6) (hsm : sm.length = 6) (henc : pc.encapsulated = false) :
    parseEthernet m (dm ++ (sm ++ (e0 :: e1 :: rest))) pc =
      ⟨{ m with layerStack := m.layerStack ++ [0], srcMac := beNat sm, dstMac := beNat dm,
                etype := e0.toNat * 256 + e1.toNat },
        nextParserEtype e0.toNat e1.toNat, 14⟩ := by
  have hlen : ¬ (dm ++ (sm ++ (e0 :: e1 :: rest))).length < 14 := by simp [hdm, hsm]; omega
  unfold parseEthernet
  simp only [hlen, if_false, henc, addLayer, lsv]
  simp [be_skip, be_here, u8_skip, hdm, hsm]
  simp [be, beNat, Producer.u8]

theorem parse8021Q_spec (m : FlowMsg) (tci : Bytes) (e0 e1 : UInt8) (rest : Bytes) (pc : PC)
    (htci : tci.length = 2) (henc : pc.encapsulated = false) :
    parse8021Q m (tci ++ (e0 :: e1 :: rest)) pc =
      ⟨{ m with layerStack := m.layerStack ++ [6], vlanId := beNat tci, etype := e0.toNat * 256 + e1.toNat },
        nextParserEtype e0.toNat e1.toNat, 4⟩ := by
  have hlen : ¬ (tci ++ (e0 :: e1 :: rest)).length < 4 := by simp [htci]; omega
  unfold parse8021Q
  simp only [hlen, if_false, henc, addLayer, lsv]
  simp [be_skip, be_here, u8_skip, htci]
  simp [be, beNat, Producer.u8]

theorem parseIPv4_spec (m : FlowMsg) (vihl tos len ident frag ttl proto ck : Nat) (src dst body : Bytes) (pc : PC)
    (htos : tos < 256) (hident : ident < 65536) (hfrag : frag < 65536) (httl : ttl < 256) (hproto : proto < 256)
    (hsrc : src.length = 4) (hdst : dst.length = 4) (henc : pc.encapsulated = false) :
    parseIPv4 m (encBE 1 vihl ++ (encBE 1 tos ++ (encBE 2 len ++ (encBE 2 ident ++ (encBE 2 frag ++ (encBE 1 ttl ++
        (encBE 1 proto ++ (encBE 2 ck ++ (src ++ (dst ++ body)))))))))) pc =
      ⟨{ m with layerStack := m.layerStack ++ [1], srcAddr := src, dstAddr := dst, ipTos := tos, ipTtl := ttl,
                fragmentId := ident, fragmentOffset := frag % 8192, ipFlags := frag / 8192, proto := proto },
        nextParserProto proto, 20⟩ := by
  unfold parseIPv4
  rw [if_neg (by simp [hsrc, hdst]; omega)]
  simp only [henc, addLayer, lsv]
  simp [be_skip, be_here, u8_skip, u8_here, sl_skip, sl_here, beNat_encBE_of_lt, *]

theorem be_enc4_2 (w : Nat) (r : Bytes) : be (encBE 4 w ++ r) 0 2 = w / 65536 % 65536 := by
  rw [show encBE 4 w = encBE 2 (w / 256 ^ 2) ++ encBE 2 w from encBE_add 2 2 w, List.append_assoc,
    be_here _ _ _ (by simp), beNat_encBE]

theorem parseIPv6_spec (m : FlowMsg) (w len nh hl : Nat) (src dst body : Bytes) (pc : PC)
    (hnh : nh < 256) (hhl : hl < 256)
    (hsrc : src.length = 16) (hdst : dst.length = 16) (henc : pc.encapsulated = false) :
    parseIPv6 m (encBE 4 w ++ (encBE 2 len ++ (encBE 1 nh ++ (encBE 1 hl ++ (src ++ (dst ++ body)))))) pc =
      ⟨{ m with layerStack := m.layerStack ++ [2], srcAddr := src, dstAddr := dst,
                ipTos := w / 65536 % 65536 % 4096 / 16, ipTtl := hl,
                ipv6FlowLabel := w % 2 ^ 32 % 2 ^ 20, proto := nh },
        nextParserProto nh, 40⟩ := by
  unfold parseIPv6
  rw [if_neg (by simp [hsrc, hdst]; omega)]
  simp only [henc, addLayer, lsv, be_enc4_2]
  simp [be_skip, be_here, u8_skip, u8_here, sl_skip, sl_here, beNat_encBE_of_lt, beNat_encBE, *]

theorem parseTCP_spec (m : FlowMsg) (sp dp seq ack off flags win ck urg : Nat) (opts : Bytes) (pc : PC)
    (hsp : sp < 65536) (hdp : dp < 65536) (hoff5 : 5 ≤ off) (hoff : off < 16) (hflags : flags < 256)
    (henc : pc.encapsulated = false) :
    parseTCP m (encBE 2 sp ++ (encBE 2 dp ++ (encBE 4 seq ++ (encBE 4 ack ++ (encBE 1 (off * 16) ++ (encBE 1 flags ++
        (encBE 2 win ++ (encBE 2 ck ++ (encBE 2 urg ++ opts))))))))) pc =
      ⟨{ m with layerStack := m.layerStack ++ [3], srcPort := sp, dstPort := dp, tcpFlags := flags },
        nextParserPort pc.ports "tcp" sp dp, off * 4⟩ := by
  unfold parseTCP
  rw [if_neg (by simp; omega)]
  have h16 : off * 16 < 256 := by omega
  simp only [henc, addLayer, lsv]
  simp [be_skip, be_here, u8_skip, u8_here, beNat_encBE_of_lt, *]
  omega

theorem parseUDP_spec (m : FlowMsg) (sp dp : Nat) (rest : Bytes) (pc : PC)
    (hsp : sp < 65536) (hdp : dp < 65536) (hrest : 4 ≤ rest.length) (henc : pc.encapsulated = false) :
    parseUDP m (encBE 2 sp ++ (encBE 2 dp ++ rest)) pc =
      ⟨{ m with layerStack := m.layerStack ++ [4], srcPort := sp, dstPort := dp },
        nextParserPort pc.ports "udp" sp dp, 8⟩ := by
  unfold parseUDP
  rw [if_neg (by simp; omega)]
  simp only [henc, addLayer, lsv]
  simp [be_skip, be_here, beNat_encBE_of_lt, *]

theorem parseICMP_spec (m : FlowMsg) (t c : Nat) (rest : Bytes) (pc : PC)
    (ht : t < 256) (hc : c < 256) (hcalls : pc.calls = 0) :
    parseICMP m (encBE 1 t ++ (encBE 1 c ++ rest)) pc =
      ⟨{ m with layerStack := m.layerStack ++ [7], icmpType := t, icmpCode := c }, Next.none, 8⟩ := by
  unfold parseICMP
  rw [if_neg (by simp; omega)]
  simp only [hcalls, addLayer, lsv]
  simp [u8_skip, u8_here, beNat_encBE_of_lt, *]

theorem parseICMPv6_spec (m : FlowMsg) (t c : Nat) (rest : Bytes) (pc : PC)
    (ht : t < 256) (hc : c < 256) (hcalls : pc.calls = 0) :
    parseICMPv6 m (encBE 1 t ++ (encBE 1 c ++ rest)) pc =
      ⟨{ m with layerStack := m.layerStack ++ [8], icmpType := t, icmpCode := c }, Next.none, 8⟩ := by
  unfold parseICMPv6
  rw [if_neg (by simp; omega)]
  simp only [hcalls, addLayer, lsv]
  simp [u8_skip, u8_here, beNat_encBE_of_lt, *]

theorem lsv2 : layerStackValue "IPv6HeaderFragment" = 11 ∧ layerStackValue "IPv6HeaderRouting" = 10 ∧
    layerStackValue "MPLS" = 5 ∧ layerStackValue "GRE" = 9 := by decide

theorem parseFrag_spec (m : FlowMsg) (nh res frag ident : Nat) (rest : Bytes) (pc : PC)
    (hnh : nh < 256) (hfrag : frag < 65536) (hident : ident < 4294967296) (henc : pc.encapsulated = false) :
    parseIPv6HeaderFragment m (encBE 1 nh ++ (encBE 1 res ++ (encBE 2 frag ++ (encBE 4 ident ++ rest)))) pc =
      ⟨{ m with layerStack := m.layerStack ++ [11], fragmentId := ident, fragmentOffset := frag / 8,
                ipFlags := frag % 8 }, nextParserProto nh, 8⟩ := by
  unfold parseIPv6HeaderFragment
  rw [if_neg (by simp; omega)]
  simp only [henc, addLayer, lsv2]
  simp [be_skip, be_here, u8_here, beNat_encBE_of_lt, *]

theorem flat_length (segs : List Bytes) (h : ∀ s ∈ segs, s.length = 16) : (segs.flatMap id).length = 16 * segs.length := by
  induction segs with
  | nil => rfl
  | cons s segs ih =>
    simp only [List.flatMap_cons, id, List.length_append, List.length_cons]
    rw [ih (fun x hx => h x (by simp [hx])), h s (by simp)]; omega

/-- `pre`: the header and the segments already read; `k` bytes are captured -/
theorem srv6Loop_cut (rest : Bytes) (le k : Nat) (todo : List Bytes) :
    ∀ (pre : Bytes) (size entry fuel : Nat) (acc : List Bytes),
    (∀ s ∈ todo, s.length = 16) → size = pre.length + 16 * todo.length → entry + todo.length ≤ le + 1 →
    min ((k - pre.length) / 16) todo.length + 1 ≤ fuel → 8 ≤ pre.length → pre.length ≤ k →
    srv6Loop ((pre ++ (todo.flatMap id ++ rest)).take k) size le fuel (pre.length - 8) entry acc =
      acc ++ todo.take ((k - pre.length) / 16) := by
  induction todo with
  | nil =>
    intro pre size entry fuel acc _ hsize _ hf h8 hk
    obtain ⟨fuel, rfl⟩ : ∃ f, fuel = f + 1 := ⟨fuel - 1, by omega⟩
    rw [List.length_nil] at hsize
    rw [srv6Loop, if_neg (by omega), List.take_nil, List.append_nil]
  | cons s todo ih =>
    intro pre size entry fuel acc hlen hsize hle hf h8 hk
    rw [List.length_cons] at hsize hle hf
    obtain ⟨fuel, rfl⟩ : ∃ f, fuel = f + 1 := ⟨fuel - 1, by omega⟩
    have hs : s.length = 16 := hlen s (List.mem_cons_self ..)
    by_cases hfit : pre.length + 16 ≤ k
    · have hsl : sl ((pre ++ ((s :: todo).flatMap id ++ rest)).take k) (8 + (pre.length - 8)) (8 + (pre.length - 8) + 16) = s := by
        rw [show 8 + (pre.length - 8) = pre.length by omega, sl_take (Nat.le_refl k) _ _ _ hfit,
          sl_skip _ _ _ _ (Nat.le_refl _), Nat.sub_self, Nat.add_sub_cancel_left, List.flatMap_cons, id,
          List.append_assoc, sl_here _ _ _ hs]
      rw [srv6Loop, if_pos ⟨by omega, by
        simp only [List.length_take, List.length_append, List.flatMap_cons, id, hs]; omega, by omega⟩, hsl]
      have := ih (pre ++ s) size (entry + 1) fuel (acc ++ [s]) (fun x hx => hlen x (List.mem_cons_of_mem _ hx))
        (by rw [List.length_append, hs]; omega) (by omega) (by rw [List.length_append, hs]; omega)
        (by rw [List.length_append]; omega) (by rw [List.length_append, hs]; omega)
      rw [List.length_append, hs, List.append_assoc] at this
      rw [List.flatMap_cons, id, List.append_assoc, show pre.length - 8 + 16 = pre.length + 16 - 8 by omega, this]
      obtain ⟨j, hj⟩ : ∃ j, (k - pre.length) / 16 = j + 1 := ⟨(k - pre.length) / 16 - 1, by omega⟩
      have hj' : (k - (pre.length + 16)) / 16 = j := by omega
      rw [hj, hj', List.take_succ_cons, List.append_assoc, List.singleton_append]
    · rw [srv6Loop, if_neg (by
        intro h
        have := h.2.1
        rw [List.length_take] at this; omega)]
      rw [show (k - pre.length) / 16 = 0 by omega, List.take_zero, List.append_nil]

/-- the five header bytes the parser reads lie within the capture (`h0` … `h4`); the segment loop is `srv6Loop_cut` -/
theorem parseRoute_cut (m : FlowMsg) (nh sleft le r1 r2 : Nat) (segs : List Bytes) (rest : Bytes) (pc : PC) (k : Nat)
    (hnh : nh < 256) (hsl : sleft < 256) (hle : le < 256) (hn : segs.length < 128)
    (hsegs : ∀ s ∈ segs, s.length = 16) (hlast : segs.length ≤ le + 1) (henc : pc.encapsulated = false)
    (hk : 8 ≤ k) :
    parseIPv6HeaderRouting m ((encBE 1 nh ++ (encBE 1 (2 * segs.length) ++ (encBE 1 4 ++ (encBE 1 sleft ++
        (encBE 1 le ++ (encBE 1 r1 ++ (encBE 2 r2 ++ (segs.flatMap id ++ rest)))))))).take k) pc =
      ⟨{ m with layerStack := m.layerStack ++ [10], ipv6RoutingHeaderSegLeft := sleft,
                ipv6RoutingHeaderAddresses := m.ipv6RoutingHeaderAddresses ++ segs.take ((k - 8) / 16) },
        nextParserProto nh, 8 + 16 * segs.length⟩ := by
  have h2n : 2 * segs.length < 256 := by omega
  generalize hd : encBE 1 nh ++ (encBE 1 (2 * segs.length) ++ (encBE 1 4 ++ (encBE 1 sleft ++
        (encBE 1 le ++ (encBE 1 r1 ++ (encBE 2 r2 ++ (segs.flatMap id ++ rest))))))) = d
  have hlen : d.length = 8 + 16 * segs.length + rest.length := by
    rw [← hd]; simp only [List.length_append, encBE_length, flat_length segs hsegs]; omega
  have h0 : Producer.u8 (d.take k) 0 = nh := by
    rw [u8_take hk _ _ (by omega), ← hd, u8_enc1_zero _ _ hnh]
  have h1 : Producer.u8 (d.take k) 1 = 2 * segs.length := by
    rw [u8_take hk _ _ (by omega), ← hd, u8_enc1_succ, u8_enc1_zero _ _ h2n]
  have h2 : Producer.u8 (d.take k) 2 = 4 := by
    rw [u8_take hk _ _ (by omega), ← hd, u8_enc1_succ, u8_enc1_succ, u8_enc1_zero _ _ (by omega)]
  have h3 : Producer.u8 (d.take k) 3 = sleft := by
    rw [u8_take hk _ _ (by omega), ← hd, u8_enc1_succ, u8_enc1_succ, u8_enc1_succ, u8_enc1_zero _ _ hsl]
  have h4 : Producer.u8 (d.take k) 4 = le := by
    rw [u8_take hk _ _ (by omega), ← hd, u8_enc1_succ, u8_enc1_succ, u8_enc1_succ, u8_enc1_succ, u8_enc1_zero _ _ hle]
  have hloop : ∀ acc, srv6Loop (d.take k) (8 + 8 * (2 * segs.length)) le ((d.take k).length / 16 + 1) 0 0 acc =
      acc ++ segs.take ((k - 8) / 16) := by
    intro acc
    have hd3 : (encBE 1 nh ++ (encBE 1 (2 * segs.length) ++ (encBE 1 4 ++ (encBE 1 sleft ++ (encBE 1 le ++ (encBE 1 r1 ++ encBE 2 r2)))))) ++ (segs.flatMap id ++ rest) = d := by
      rw [← hd]; simp only [List.append_assoc]
    have hpre : (encBE 1 nh ++ (encBE 1 (2 * segs.length) ++ (encBE 1 4 ++ (encBE 1 sleft ++ (encBE 1 le ++ (encBE 1 r1 ++ encBE 2 r2)))))).length = 8 := by
      simp only [List.length_append, encBE_length]
    have := srv6Loop_cut rest le k segs _ (8 + 8 * (2 * segs.length)) 0 ((d.take k).length / 16 + 1) acc hsegs
      (by rw [hpre]; omega) (by omega) (by rw [hpre, List.length_take, hlen]; omega) (by rw [hpre]; omega)
      (by rw [hpre]; exact hk)
    rwa [hpre, hd3, Nat.sub_self] at this
  unfold parseIPv6HeaderRouting
  rw [if_neg (by rw [List.length_take]; omega)]
  simp only [henc, addLayer, lsv2, h0, h1, h2, h3, h4, hloop]
  simp
  omega

theorem parseRoute_spec (m : FlowMsg) (nh sleft le r1 r2 : Nat) (segs : List Bytes) (rest : Bytes) (pc : PC)
    (hnh : nh < 256) (hsl : sleft < 256) (hle : le < 256) (hn : segs.length < 128)
    (hsegs : ∀ s ∈ segs, s.length = 16) (hlast : segs.length ≤ le + 1) (henc : pc.encapsulated = false) :
    parseIPv6HeaderRouting m (encBE 1 nh ++ (encBE 1 (2 * segs.length) ++ (encBE 1 4 ++ (encBE 1 sleft ++
        (encBE 1 le ++ (encBE 1 r1 ++ (encBE 2 r2 ++ (segs.flatMap id ++ rest)))))))) pc =
      ⟨{ m with layerStack := m.layerStack ++ [10], ipv6RoutingHeaderSegLeft := sleft,
                ipv6RoutingHeaderAddresses := m.ipv6RoutingHeaderAddresses ++ segs },
        nextParserProto nh, 8 + 16 * segs.length⟩ := by
  have h := parseRoute_cut m nh sleft le r1 r2 segs rest pc (8 + 16 * segs.length + rest.length) hnh hsl hle hn hsegs
    hlast henc (by omega)
  rwa [List.take_of_length_le (by simp only [List.length_append, encBE_length, flat_length segs hsegs]; omega),
    List.take_of_length_le (by omega)] at h

theorem u8_enc3_2 (w : Nat) (r : Bytes) : Producer.u8 (encBE 3 w ++ r) 2 = w % 256 := by
  rw [show encBE 3 w = encBE 2 (w / 256 ^ 1) ++ encBE 1 w from encBE_add 2 1 w, List.append_assoc,
    u8_skip _ _ _ (by simp)]
  simp [u8_here, beNat_encBE]

theorem u8_enc4_0 (w : Nat) (r : Bytes) : Producer.u8 (encBE 4 w ++ r) 0 = w / 16777216 % 256 := by
  rw [show encBE 4 w = encBE 1 (w / 256 ^ 3) ++ encBE 3 w from encBE_add 1 3 w, List.append_assoc,
    u8_here _ _ (by simp), beNat_encBE]

/-- the ethertype ParseMPLS derives from the version nibble after the label stack -/
def peekEt (tail : Bytes) : Option (Nat × Nat) :=
  if tail.length > 0 then
    if Producer.u8 tail 0 / 16 = 4 then some (0x08, 0x00)
    else if Producer.u8 tail 0 / 16 = 6 then some (0x86, 0xdd)
    else none
  else none

/-- labels within 20 bits and above the reserved range 0–15 (`mplsLoop` ends the stack at a label ≤ 15 as it does
    at the bottom-of-stack bit), TTLs within 8 bits -/
def LabelsWF (labels : List (Nat × Nat)) : Prop := ∀ lt ∈ labels, 15 < lt.1 ∧ lt.1 < 2 ^ 20 ∧ lt.2 < 2 ^ 8

theorem mplsBytes_length (labels : List (Nat × Nat)) : (mplsBytes labels).length = 4 * labels.length := by
  induction labels with
  | nil => rfl
  | cons x xs ih =>
    obtain ⟨l, t⟩ := x
    cases xs with
    | nil => simp [mplsBytes, Spec.Frame.u8]
    | cons y ys => simp [mplsBytes, Spec.Frame.u8] at ih ⊢; omega

/-- one label stack entry: label and flags in three bytes, TTL in one -/
theorem mpls_entry (pre r : Bytes) (w t : Nat) (hw : w < 256 ^ 3) (ht : t < 256) :
    be (pre ++ (encBE 3 w ++ (encBE 1 t ++ r))) pre.length 3 = w ∧
    Producer.u8 (pre ++ (encBE 3 w ++ (encBE 1 t ++ r))) (pre.length + 2) = w % 256 ∧
    Producer.u8 (pre ++ (encBE 3 w ++ (encBE 1 t ++ r))) (pre.length + 3) = t ∧
    Producer.u8 (pre ++ (encBE 3 w ++ (encBE 1 t ++ r))) (pre.length + 4) = Producer.u8 r 0 := by
  refine ⟨?_, ?_, ?_, ?_⟩
  · rw [be_skip _ _ _ _ (Nat.le_refl _), Nat.sub_self, be_here _ _ _ (by simp), beNat_encBE_of_lt hw]
  · rw [u8_skip _ _ _ (by omega), Nat.add_sub_cancel_left, u8_enc3_2]
  · rw [u8_skip _ _ _ (by omega), Nat.add_sub_cancel_left, u8_skip _ _ _ (by simp)]
    simp [u8_here, beNat_encBE_of_lt, ht]
  · rw [u8_skip _ _ _ (by omega), Nat.add_sub_cancel_left, u8_skip _ _ _ (by simp), u8_skip _ _ _ (by simp)]
    simp

/-- one round of the label loop on the entry of `mpls_entry`: it ends at the bottom-of-stack bit or a reserved label
    and peeks behind the entry -/
theorem mplsLoop_entry (pre r : Bytes) (w t fuel : Nat) (ls ts : List Nat) (hw : w < 256 ^ 3) (ht : t < 256) :
    mplsLoop (pre ++ (encBE 3 w ++ (encBE 1 t ++ r))) (fuel + 1) pre.length ls ts =
      if w % 256 % 2 = 1 ∨ w / 16 ≤ 15 then (ls ++ [w / 16], ts ++ [t], pre.length + 4, peekEt r)
      else mplsLoop (pre ++ (encBE 3 w ++ (encBE 1 t ++ r))) fuel (pre.length + 4) (ls ++ [w / 16]) (ts ++ [t]) := by
  obtain ⟨hlabel, hbot, httl, hpeek⟩ := mpls_entry pre r w t hw ht
  have hlen : (pre ++ (encBE 3 w ++ (encBE 1 t ++ r))).length = pre.length + 4 + r.length := by
    simp only [List.length_append, encBE_length]; omega
  have e1 : (pre.length + 4 > pre.length + 4 + r.length) = False := eq_false (by omega)
  have e2 : (pre.length + 4 + r.length > pre.length + 4) = (r.length > 0) := propext (by omega)
  rw [mplsLoop, if_neg (by omega)]
  simp only [hlabel, hbot, httl, hpeek, hlen, e1, e2, or_false, peekEt]

theorem mplsLoop_spec (tail : Bytes) (todo : List (Nat × Nat)) :
    ∀ (pre : Bytes) (fuel : Nat) (ls ts : List Nat), todo ≠ [] → LabelsWF todo → todo.length ≤ fuel →
    mplsLoop (pre ++ (mplsBytes todo ++ tail)) fuel pre.length ls ts =
      (ls ++ todo.map (·.1), ts ++ todo.map (·.2), pre.length + 4 * todo.length, peekEt tail) := by
  induction todo with
  | nil => intro _ _ _ _ h; exact absurd rfl h
  | cons x xs ih =>
    intro pre fuel ls ts _ hwf hf
    obtain ⟨l, t⟩ := x
    obtain ⟨fuel, rfl⟩ : ∃ f, fuel = f + 1 := ⟨fuel - 1, by simp at hf; omega⟩
    obtain ⟨hl15, hl20, ht⟩ := hwf (l, t) (by simp)
    simp only [Nat.reducePow] at hl20 ht
    cases xs with
    | nil =>
      simp only [mplsBytes, Spec.Frame.u8, List.append_assoc]
      rw [mplsLoop_entry pre tail (l * 16 + 1) t fuel ls ts (by omega) ht, if_pos (Or.inl (by omega)),
        show (l * 16 + 1) / 16 = l by omega]
      rfl
    | cons y ys =>
      simp only [mplsBytes, Spec.Frame.u8, List.append_assoc]
      rw [mplsLoop_entry pre (mplsBytes (y :: ys) ++ tail) (l * 16) t fuel ls ts (by omega) ht, if_neg (by omega)]
      have := ih (pre ++ (encBE 3 (l * 16) ++ encBE 1 t)) fuel (ls ++ [l * 16 / 16]) (ts ++ [t]) (by simp)
        (fun lt h => hwf lt (by simp [h])) (by simp at hf ⊢; omega)
      simp only [List.append_assoc, List.length_append, encBE_length] at this
      rw [show pre.length + 4 = pre.length + (3 + 1) by omega, this]
      simp
      omega

/-- `parseMPLS` in terms of what its label loop returns -/
theorem parseMPLS_loop (m : FlowMsg) (d : Bytes) (pc : PC) (enc : Bool) (ls ts : List Nat) (off : Nat)
    (et : Option (Nat × Nat)) (hd : 4 ≤ d.length)
    (hloop : mplsLoop d (d.length / 4 + 1) 0 [] [] = (ls, ts, off, et)) (henc : pc.encapsulated = enc) :
    parseMPLS m d pc =
      match et with
      | some (a, b) =>
        ⟨bif enc then { m with layerStack := m.layerStack ++ [5] }
          else { m with layerStack := m.layerStack ++ [5], etype := a * 256 + b, mplsLabel := ls, mplsTtl := ts },
          nextParserEtype a b, off⟩
      | none =>
        ⟨bif enc then { m with layerStack := m.layerStack ++ [5] }
          else { m with layerStack := m.layerStack ++ [5], mplsLabel := ls, mplsTtl := ts }, Next.none, off⟩ := by
  unfold parseMPLS
  rw [if_neg (by omega)]
  simp only [hloop, henc, addLayer, lsv2]
  cases enc <;> cases et <;> rfl

/-- the whole label stack is captured: the loop ends at the bottom of the stack and peeks into `tail` -/
theorem parseMPLS_whole (m : FlowMsg) (labels : List (Nat × Nat)) (tail : Bytes) (a b : Nat) (pc : PC) (enc : Bool)
    (hne : labels ≠ []) (hwf : LabelsWF labels) (hpeek : peekEt tail = some (a, b)) (henc : pc.encapsulated = enc) :
    parseMPLS m (mplsBytes labels ++ tail) pc =
      ⟨bif enc then { m with layerStack := m.layerStack ++ [5] }
        else { m with layerStack := m.layerStack ++ [5], etype := a * 256 + b, mplsLabel := labels.map (·.1),
                      mplsTtl := labels.map (·.2) }, nextParserEtype a b, 4 * labels.length⟩ := by
  have hpos : 0 < labels.length := List.length_pos_iff.mpr hne
  have hlen : (mplsBytes labels ++ tail).length = 4 * labels.length + tail.length := by
    rw [List.length_append, mplsBytes_length]
  have hloop := mplsLoop_spec tail labels [] ((mplsBytes labels ++ tail).length / 4 + 1) [] [] hne hwf (by rw [hlen]; omega)
  simp only [List.nil_append, List.length_nil, Nat.zero_add, hpeek] at hloop
  exact parseMPLS_loop m _ pc enc _ _ _ _ (by rw [hlen]; omega) hloop henc

theorem parseMPLS_spec (m : FlowMsg) (labels : List (Nat × Nat)) (tail : Bytes) (a b : Nat) (pc : PC)
    (hne : labels ≠ []) (hwf : LabelsWF labels) (hpeek : peekEt tail = some (a, b)) (henc : pc.encapsulated = false) :
    parseMPLS m (mplsBytes labels ++ tail) pc =
      ⟨{ m with layerStack := m.layerStack ++ [5], etype := a * 256 + b, mplsLabel := labels.map (·.1),
                mplsTtl := labels.map (·.2) }, nextParserEtype a b, 4 * labels.length⟩ :=
  parseMPLS_whole m labels tail a b pc false hne hwf hpeek henc

theorem parseIPv4_enc (m : FlowMsg) (vihl tos len ident frag ttl proto ck : Nat) (src dst body : Bytes) (pc : PC)
    (hproto : proto < 256) (hsrc : src.length = 4) (hdst : dst.length = 4) (henc : pc.encapsulated = true) :
    parseIPv4 m (encBE 1 vihl ++ (encBE 1 tos ++ (encBE 2 len ++ (encBE 2 ident ++ (encBE 2 frag ++ (encBE 1 ttl ++
        (encBE 1 proto ++ (encBE 2 ck ++ (src ++ (dst ++ body)))))))))) pc =
      ⟨{ m with layerStack := m.layerStack ++ [1] }, nextParserProto proto, 20⟩ := by
  unfold parseIPv4
  rw [if_neg (by simp [hsrc, hdst]; omega)]
  simp only [henc, addLayer, lsv]
  simp [u8_skip, u8_here, beNat_encBE_of_lt, *]

theorem parseIPv6_enc (m : FlowMsg) (w len nh hl : Nat) (src dst body : Bytes) (pc : PC)
    (hnh : nh < 256) (hsrc : src.length = 16) (hdst : dst.length = 16) (henc : pc.encapsulated = true) :
    parseIPv6 m (encBE 4 w ++ (encBE 2 len ++ (encBE 1 nh ++ (encBE 1 hl ++ (src ++ (dst ++ body)))))) pc =
      ⟨{ m with layerStack := m.layerStack ++ [2] }, nextParserProto nh, 40⟩ := by
  unfold parseIPv6
  rw [if_neg (by simp [hsrc, hdst]; omega)]
  simp only [henc, addLayer, lsv]
  simp [u8_skip, u8_here, beNat_encBE_of_lt, *]

theorem parseFrag_enc (m : FlowMsg) (nh res frag ident : Nat) (rest : Bytes) (pc : PC)
    (hnh : nh < 256) (henc : pc.encapsulated = true) :
    parseIPv6HeaderFragment m (encBE 1 nh ++ (encBE 1 res ++ (encBE 2 frag ++ (encBE 4 ident ++ rest)))) pc =
      ⟨{ m with layerStack := m.layerStack ++ [11] }, nextParserProto nh, 8⟩ := by
  unfold parseIPv6HeaderFragment
  rw [if_neg (by simp; omega)]
  simp only [henc, addLayer, lsv2]
  simp [u8_here, beNat_encBE_of_lt, *]

theorem parseRoute_enc (m : FlowMsg) (nh n rt sleft le r1 r2 : Nat) (rest : Bytes) (pc : PC)
    (hnh : nh < 256) (hn : n < 256) (henc : pc.encapsulated = true) :
    parseIPv6HeaderRouting m (encBE 1 nh ++ (encBE 1 n ++ (encBE 1 rt ++ (encBE 1 sleft ++
        (encBE 1 le ++ (encBE 1 r1 ++ (encBE 2 r2 ++ rest))))))) pc =
      ⟨{ m with layerStack := m.layerStack ++ [10] }, nextParserProto nh, 8 + 8 * n⟩ := by
  unfold parseIPv6HeaderRouting
  rw [if_neg (by simp; omega)]
  simp only [henc, addLayer, lsv2]
  simp [u8_skip, u8_here, beNat_encBE_of_lt, *]

theorem parseTCP_enc (m : FlowMsg) (sp dp seq ack off flags win ck urg : Nat) (opts : Bytes) (pc : PC)
    (hsp : sp < 65536) (hdp : dp < 65536) (hoff5 : 5 ≤ off) (hoff : off < 16)
    (henc : pc.encapsulated = true) :
    parseTCP m (encBE 2 sp ++ (encBE 2 dp ++ (encBE 4 seq ++ (encBE 4 ack ++ (encBE 1 (off * 16) ++ (encBE 1 flags ++
        (encBE 2 win ++ (encBE 2 ck ++ (encBE 2 urg ++ opts))))))))) pc =
      ⟨{ m with layerStack := m.layerStack ++ [3] }, nextParserPort pc.ports "tcp" sp dp, off * 4⟩ := by
  unfold parseTCP
  rw [if_neg (by simp; omega)]
  have h16 : off * 16 < 256 := by omega
  simp only [henc, addLayer, lsv]
  simp [be_skip, be_here, u8_skip, u8_here, beNat_encBE_of_lt, *]
  omega

theorem parseUDP_enc (m : FlowMsg) (sp dp : Nat) (rest : Bytes) (pc : PC)
    (hsp : sp < 65536) (hdp : dp < 65536) (hrest : 4 ≤ rest.length) (henc : pc.encapsulated = true) :
    parseUDP m (encBE 2 sp ++ (encBE 2 dp ++ rest)) pc =
      ⟨{ m with layerStack := m.layerStack ++ [4] }, nextParserPort pc.ports "udp" sp dp, 8⟩ := by
  unfold parseUDP
  rw [if_neg (by simp; omega)]
  simp only [henc, addLayer, lsv]
  simp [be_skip, be_here, beNat_encBE_of_lt, *]

theorem parseGRE_spec (m : FlowMsg) (fl : Bytes) (e0 e1 : UInt8) (rest : Bytes) (pc : PC) (hfl : fl.length = 2) :
    parseGRE m (fl ++ (e0 :: e1 :: rest)) pc =
      ⟨{ m with layerStack := m.layerStack ++ [9] }, nextParserEtype e0.toNat e1.toNat, 4⟩ := by
  unfold parseGRE
  rw [if_neg (by simp [hfl]; omega)]
  simp only [addLayer, lsv2]
  simp [u8_skip, hfl]
  simp [Producer.u8]

theorem parseMPLS_enc (m : FlowMsg) (labels : List (Nat × Nat)) (tail : Bytes) (a b : Nat) (pc : PC)
    (hne : labels ≠ []) (hwf : LabelsWF labels) (hpeek : peekEt tail = some (a, b)) (henc : pc.encapsulated = true) :
    parseMPLS m (mplsBytes labels ++ tail) pc =
      ⟨{ m with layerStack := m.layerStack ++ [5] }, nextParserEtype a b, 4 * labels.length⟩ :=
  parseMPLS_whole m labels tail a b pc true hne hwf hpeek henc

/-- the number of bytes a parser needs to recognise its header -/
def Parser.guard : Parser → Nat
  | .none => 0 | .ethernet => 14 | .dot1q => 4 | .mpls => 4 | .ipv4 => 20 | .ipv6 => 40 | .ipv6route => 8
  | .ipv6frag => 8 | .tcp => 20 | .udp => 8 | .icmp => 2 | .icmpv6 => 2 | .gre => 4 | .teredo => 0 | .geneve => 8

theorem runParser_short (p : Parser) (m : FlowMsg) (d : Bytes) (pc : PC) (h : d.length < Parser.guard p) :
    runParser p m d pc = tooShort m := by
  cases p <;> simp only [Parser.guard] at h <;> simp only [runParser]
  · simp [parseEthernet, h]
  · simp [parse8021Q, h]
  · simp [parseMPLS, h]
  · simp [parseIPv4, h]
  · simp [parseIPv6, h]
  · simp [parseIPv6HeaderRouting, h]
  · simp [parseIPv6HeaderFragment, h]
  · simp [parseTCP, h]
  · simp [parseUDP, h]
  · simp [parseICMP, h]
  · simp [parseICMPv6, h]
  · simp [parseGRE, h]
  · omega
  · simp [parseGeneve, h]

/-- the parsers of fixed-size headers read nothing beyond the bytes their guard asks for -/
theorem parseEthernet_take (m : FlowMsg) (d : Bytes) (pc : PC) {k : Nat} (h : 14 ≤ k) :
    parseEthernet m (d.take k) pc = parseEthernet m d pc := by
  unfold parseEthernet; simp [lt_take h, be_take h, u8_take h]

theorem parse8021Q_take (m : FlowMsg) (d : Bytes) (pc : PC) {k : Nat} (h : 4 ≤ k) :
    parse8021Q m (d.take k) pc = parse8021Q m d pc := by
  unfold parse8021Q; simp [lt_take h, be_take h, u8_take h]

theorem parseIPv4_take (m : FlowMsg) (d : Bytes) (pc : PC) {k : Nat} (h : 20 ≤ k) :
    parseIPv4 m (d.take k) pc = parseIPv4 m d pc := by
  unfold parseIPv4; simp [lt_take h, be_take h, u8_take h, sl_take h]

theorem parseIPv6_take (m : FlowMsg) (d : Bytes) (pc : PC) {k : Nat} (h : 40 ≤ k) :
    parseIPv6 m (d.take k) pc = parseIPv6 m d pc := by
  unfold parseIPv6; simp [lt_take h, be_take h, u8_take h, sl_take h]

theorem parseFrag_take (m : FlowMsg) (d : Bytes) (pc : PC) {k : Nat} (h : 8 ≤ k) :
    parseIPv6HeaderFragment m (d.take k) pc = parseIPv6HeaderFragment m d pc := by
  unfold parseIPv6HeaderFragment; simp [lt_take h, be_take h, u8_take h]

theorem parseTCP_take (m : FlowMsg) (d : Bytes) (pc : PC) {k : Nat} (h : 20 ≤ k) :
    parseTCP m (d.take k) pc = parseTCP m d pc := by
  unfold parseTCP; simp [lt_take h, be_take h, u8_take h]

theorem parseUDP_take (m : FlowMsg) (d : Bytes) (pc : PC) {k : Nat} (h : 8 ≤ k) :
    parseUDP m (d.take k) pc = parseUDP m d pc := by
  unfold parseUDP; simp [lt_take h, be_take h, u8_take h]

theorem parseICMP_take (m : FlowMsg) (d : Bytes) (pc : PC) {k : Nat} (h : 2 ≤ k) :
    parseICMP m (d.take k) pc = parseICMP m d pc := by
  unfold parseICMP; simp [lt_take h, u8_take h]

theorem parseICMPv6_take (m : FlowMsg) (d : Bytes) (pc : PC) {k : Nat} (h : 2 ≤ k) :
    parseICMPv6 m (d.take k) pc = parseICMPv6 m d pc := by
  unfold parseICMPv6; simp [lt_take h, u8_take h]

theorem parseGRE_take (m : FlowMsg) (d : Bytes) (pc : PC) {k : Nat} (h : 4 ≤ k) :
    parseGRE m (d.take k) pc = parseGRE m d pc := by
  unfold parseGRE; simp [lt_take h, u8_take h]

/-- a tunnelled routing header: only its first two bytes are read -/
theorem parseRoute_take_enc (m : FlowMsg) (d : Bytes) (pc : PC) {k : Nat} (h : 8 ≤ k) (henc : pc.encapsulated = true) :
    parseIPv6HeaderRouting m (d.take k) pc = parseIPv6HeaderRouting m d pc := by
  unfold parseIPv6HeaderRouting; simp [lt_take h, u8_take h, henc]

/-- Induction on the labels: fewer than 4 bytes left end the loop; a non-last label has no bottom bit and is
    above 15, so the loop goes on with `k - 4`; a last label wholly inside is `mplsLoop_spec` with nothing behind it. -/
theorem mplsLoop_cut (todo : List (Nat × Nat)) :
    ∀ (pre : Bytes) (k fuel : Nat) (ls ts : List Nat), LabelsWF todo → k ≤ 4 * todo.length → k / 4 + 1 ≤ fuel →
    mplsLoop (pre ++ (mplsBytes todo).take k) fuel pre.length ls ts =
      (ls ++ (todo.take (k / 4)).map (·.1), ts ++ (todo.take (k / 4)).map (·.2), pre.length + 4 * (k / 4), none) := by
  induction todo with
  | nil =>
    intro pre k fuel ls ts _ hk hf
    obtain ⟨fuel, rfl⟩ : ∃ f, fuel = f + 1 := ⟨fuel - 1, by omega⟩
    have : k = 0 := by simpa using hk
    subst this
    rw [mplsLoop, if_pos (by simp [mplsBytes])]
    simp
  | cons x xs ih =>
    intro pre k fuel ls ts hwf hk hf
    obtain ⟨l, t⟩ := x
    obtain ⟨fuel, rfl⟩ : ∃ f, fuel = f + 1 := ⟨fuel - 1, by omega⟩
    obtain ⟨hl15, hl20, ht⟩ := hwf (l, t) (by simp)
    simp only [Nat.reducePow] at hl20 ht
    by_cases hk4 : k < 4
    · rw [mplsLoop, if_pos (by simp only [List.length_append, List.length_take]; omega)]
      have : k / 4 = 0 := by omega
      simp [this]
    · cases xs with
      | nil =>
        have hk' : k = 4 := by simp at hk; omega
        subst hk'
        have h := mplsLoop_spec [] [(l, t)] pre (fuel + 1) ls ts (by simp) hwf (by simp)
        have e : (mplsBytes [(l, t)]).take 4 = mplsBytes [(l, t)] ++ [] := by
          rw [List.append_nil, List.take_of_length_le (by rw [mplsBytes_length]; simp)]
        rw [e, h]
        simp [peekEt]
      | cons y ys =>
        have e : (mplsBytes ((l, t) :: y :: ys)).take k =
            encBE 3 (l * 16) ++ (encBE 1 t ++ (mplsBytes (y :: ys)).take (k - 4)) := by
          simp only [mplsBytes, Spec.Frame.u8, List.append_assoc]
          rw [List.take_append, List.take_of_length_le (by simp; omega), encBE_length, List.take_append,
            List.take_of_length_le (by simp; omega), encBE_length, Nat.sub_sub]
        rw [e]
        have hk2 : k - 4 ≤ 4 * (y :: ys).length := by simp at hk ⊢; omega
        rw [mplsLoop_entry pre ((mplsBytes (y :: ys)).take (k - 4)) (l * 16) t fuel ls ts (by omega) ht,
          if_neg (by omega)]
        have := ih (pre ++ (encBE 3 (l * 16) ++ encBE 1 t)) (k - 4) fuel (ls ++ [l * 16 / 16]) (ts ++ [t])
          (fun lt h => hwf lt (by simp [h])) hk2 (by omega)
        simp only [List.append_assoc, List.length_append, encBE_length] at this
        rw [show pre.length + 4 = pre.length + (3 + 1) by omega, this]
        obtain ⟨j, hj⟩ : ∃ j, k / 4 = j + 1 := ⟨k / 4 - 1, by omega⟩
        have hj' : (k - 4) / 4 = j := by omega
        rw [hj, hj']
        simp
        omega

theorem take_mpls (labels : List (Nat × Nat)) (tail : Bytes) (k : Nat) (hk : k ≤ 4 * labels.length) :
    (mplsBytes labels ++ tail).take k = (mplsBytes labels).take k := by
  rw [List.take_append_of_le_length (by rw [mplsBytes_length]; exact hk)]

/-- the capture ends inside the label stack: no ethertype, there is nothing to peek -/
theorem parseMPLS_inside (m : FlowMsg) (labels : List (Nat × Nat)) (tail : Bytes) (pc : PC) (enc : Bool) (k : Nat)
    (hwf : LabelsWF labels) (hk4 : 4 ≤ k) (hk : k ≤ 4 * labels.length) (henc : pc.encapsulated = enc) :
    parseMPLS m ((mplsBytes labels ++ tail).take k) pc =
      ⟨bif enc then { m with layerStack := m.layerStack ++ [5] }
        else { m with layerStack := m.layerStack ++ [5], mplsLabel := (labels.take (k / 4)).map (·.1),
                      mplsTtl := (labels.take (k / 4)).map (·.2) }, Next.none, 4 * (k / 4)⟩ := by
  rw [take_mpls labels tail k hk]
  have hlen : ((mplsBytes labels).take k).length = k := by rw [List.length_take, mplsBytes_length]; omega
  have hloop := mplsLoop_cut labels [] k (((mplsBytes labels).take k).length / 4 + 1) [] [] hwf hk
    (by rw [hlen]; exact Nat.le_refl _)
  simp only [List.nil_append, List.length_nil, Nat.zero_add] at hloop
  exact parseMPLS_loop m _ pc enc _ _ _ _ (by rw [hlen]; omega) hloop henc

theorem parseMPLS_cut (m : FlowMsg) (labels : List (Nat × Nat)) (tail : Bytes) (pc : PC) (k : Nat)
    (hwf : LabelsWF labels) (hk4 : 4 ≤ k) (hk : k ≤ 4 * labels.length) (henc : pc.encapsulated = false) :
    parseMPLS m ((mplsBytes labels ++ tail).take k) pc =
      ⟨{ m with layerStack := m.layerStack ++ [5], mplsLabel := (labels.take (k / 4)).map (·.1),
                mplsTtl := (labels.take (k / 4)).map (·.2) }, Next.none, 4 * (k / 4)⟩ :=
  parseMPLS_inside m labels tail pc false k hwf hk4 hk henc

theorem parseMPLS_cut_enc (m : FlowMsg) (labels : List (Nat × Nat)) (tail : Bytes) (pc : PC) (k : Nat)
    (hwf : LabelsWF labels) (hk4 : 4 ≤ k) (hk : k ≤ 4 * labels.length) (henc : pc.encapsulated = true) :
    parseMPLS m ((mplsBytes labels ++ tail).take k) pc =
      ⟨{ m with layerStack := m.layerStack ++ [5] }, Next.none, 4 * (k / 4)⟩ :=
  parseMPLS_inside m labels tail pc true k hwf hk4 hk henc

theorem peekEt_take (tail : Bytes) (j : Nat) (hj : 1 ≤ j) : peekEt (tail.take j) = peekEt tail := by
  unfold peekEt
  rw [u8_take hj _ _ (by omega)]
  simp only [List.length_take]
  by_cases h : tail.length > 0
  · rw [if_pos (by omega), if_pos h]
  · rw [if_neg (by omega), if_neg h]

theorem take_mpls_more (labels : List (Nat × Nat)) (tail : Bytes) (k : Nat) (hk : 4 * labels.length < k) :
    (mplsBytes labels ++ tail).take k = mplsBytes labels ++ tail.take (k - 4 * labels.length) := by
  rw [List.take_append, List.take_of_length_le (by rw [mplsBytes_length]; omega), mplsBytes_length]

end Goflow.C10
