import Proofs.C07
import Proofs.C02Cost
import Goflow.Generated.Makes
/-!
  C02 — Memory per datagram is bounded by its size, not by counts it claims.

  The bounds on counts: what sizes every `make` of the decoders (the regenerated list of make
  sites) and how many objects a decode can return, in terms of the datagram length and the width of
  the referenced template — never in terms of a count or length field of the datagram. The bound on
  the bytes requested from the allocator is `C02Cost.cost_within_budget`, over the cost model
  `Goflow/Cost.lean`. What the real allocator adds (size classes, interface boxing, GC) is measured
  by the check (TotalAlloc per datagram against the property's budget), not proved.
-/
namespace Goflow.C02
open Goflow

/-- every `make` of the three decoders is sized by a constant, by the length of an already decoded
    list, by a 16-bit field (at most 65 535 elements, each at most 72 bytes: below the 16 MiB
    constant of the budget), or by a count that a preceding `if count > 1000 { return }` in the
    same branch has capped (regenerated from the Go source; a new or un-capped make breaks this) -/
theorem make_sites_capped :
    Goflow.Generated.makeSites.all (fun s => s.2.2.2.2 ∈ ["const", "len", "uint16", "cap1000"]) = true ∧
    (Goflow.Generated.makeSites.filter (fun s => s.2.2.2.2 == "cap1000")).length = 7 ∧
    Goflow.Generated.makeSites.length = 24 := by
  decide +kernel

open Goflow.Sflow in
theorem sampleLoop_length (n : Nat) (b : Bytes) (ss : List Sample) (h : sampleLoop n b = .ok ss) :
    ss.length ≤ n := by
  induction n generalizing b ss with
  | zero => cases h; exact Nat.le_refl _
  | succ n ih =>
    unfold sampleLoop at h
    split at h
    · split at h
      · cases h
      · split at h
        · split at h
          · cases h; exact Nat.zero_le _
          · split at h
            · cases h
            · split at h
              · cases h
              · rename_i ss' hss'
                cases h
                exact Nat.succ_le_succ (ih _ _ hss')
        · cases h
    · cases h; exact Nat.zero_le _

open Goflow.Sflow in
/-- sFlow: whatever count the datagram claims, a decoded datagram has at most 1000 samples -/
theorem sflow_make_capped (b : Bytes) (p : Sflow.Packet) (h : Sflow.decodeMessageVersion b = .ok p) :
    p.samples.length ≤ 1000 := by
  rcases C02Cost.Sflow.message_cases b with ⟨_, _, _, h0⟩ | ⟨cnt, b3, hcnt, _, _, ipv, ip, hd, herr, hok⟩
  · exact absurd h (h0 p)
  · cases hs : sampleLoop cnt b3 with
    | error e => rw [herr e hs] at h; cases h
    | ok ss =>
      rw [hok ss hs] at h
      cases h
      -- the loop returns at most `cnt` samples and padTo fills up to exactly `cnt`
      have := sampleLoop_length _ _ _ hs
      simp only [padTo, List.length_append, List.length_replicate]
      omega

/-- NetFlow v9 / IPFIX data sets: the number of decoded records times the record size of the
    template is at most the payload length — never a count claimed by the datagram -/
theorem records_le_bytes (fs : List Netflow.Field) (fuel : Nat) (b : Bytes) (rs : List Netflow.DataRecord)
    (h : Netflow.decodeDataSet fs fuel b = .ok rs) : rs.length * Netflow.templateSize fs ≤ b.length :=
  (C07.count_any_bytes_netflow fs fuel b rs h).2

/-- every record holds exactly one value per template field: the DataField objects of a data
    set number at most |payload| · |template| -/
theorem dataSet_fields_bound (fs : List Netflow.Field) (fuel : Nat) (b : Bytes) (rs : List Netflow.DataRecord)
    (h : Netflow.decodeDataSet fs fuel b = .ok rs) :
    (rs.map fun r => r.values.length).foldr (· + ·) 0 ≤ b.length * fs.length := by
  obtain ⟨hpos, hbound⟩ := C07.count_any_bytes_netflow fs fuel b rs h
  have hvals : ∀ (fuel : Nat) (b : Bytes) (rs : List Netflow.DataRecord), Netflow.decodeDataSetLoop fs fuel b = .ok rs →
      ∀ r ∈ rs, r.values.length = fs.length := by
    intro fuel
    induction fuel with
    | zero => intro b rs h; simp [Netflow.decodeDataSetLoop] at h
    | succ fuel ih =>
      intro b rs h
      unfold Netflow.decodeDataSetLoop at h
      split at h
      · rename_i hsz
        simp only [Netflow.decodeDataSetUsingFields, hsz, if_true] at h
        split at h
        · cases h
        · rename_i vs b1 hd
          split at h
          · cases h
          · rename_i rs' hrs
            cases h
            intro r hr
            simp only [List.mem_cons] at hr
            rcases hr with rfl | hr
            · exact (Netflow.decodeFieldValues_consumes _ _ _ _ hd).2
            · exact ih _ _ hrs r hr
      · cases h; intro r hr; cases hr
  unfold Netflow.decodeDataSet at h
  split at h
  · cases h
  · have hv := hvals _ _ _ h
    have hsum : (rs.map fun r => r.values.length).foldr (· + ·) 0 = rs.length * fs.length := by
      clear hbound h
      induction rs with
      | nil => simp
      | cons r rs ih =>
        simp only [List.map_cons, List.foldr_cons, List.length_cons]
        rw [ih (fun x hx => hv x (by simp [hx])), hv r (by simp), Nat.succ_mul]
        omega
    rw [hsum]
    have : rs.length ≤ b.length := by
      calc rs.length ≤ rs.length * Netflow.templateSize fs := Nat.le_mul_of_pos_right _ hpos
        _ ≤ b.length := hbound
    exact Nat.mul_le_mul_right _ this

/-- NetFlow v5: the decoded list has at most (|d| − 24) / 48 records, whatever the header count says -/
theorem v5_alloc (b : Bytes) (p : V5.Packet) (h : V5.decodeMessageVersion b = .ok p) :
    48 * p.records.length + 24 ≤ b.length := by
  have := (C05.records_le_present b p h).1
  omega

/-- one message object per decoded flow record: the producer allocates nothing a count could inflate -/
theorem message_objects_le_records (cfg : Option Producer.Config) (p : Netflow.Packet) (rates : Producer.Rates)
    (h : (Producer.processNetflow cfg p rates).err = none) :
    (Producer.processNetflow cfg p rates).msgs.length = (Producer.dataRecordsOf p.flowSets).length :=
  C07.produce_length_netflow cfg p rates h

end Goflow.C02
