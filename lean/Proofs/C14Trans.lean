import Goflow.Generated.NumbersT
import Proofs.Lemmas.GoPrims
import Proofs.C14Bits
/-!
  C14 (translation tie) — GetBytes (producer/proto/reflect.go), regenerated into Lean on every run by
  extract/translate.go (Goflow/Generated/NumbersT.lean, Go `int` as Lean `Int`), is equal to the hand-written
  model `Goflow.Producer.getBytes` for every slice, every offset and length of either sign and both final passes:
  same bytes, and a panic exactly where the model says the Go code panics.
-/
set_option linter.unusedSimpArgs false
namespace Goflow.C14Trans
open Goflow Goflow.Producer Goflow.Generated Goflow.Go

/-- invariant of the byte loop of GetBytes: `P` is what has been written (`P.length = i`), the rest of the buffer is still zero -/
theorem getBytes_loop (s : Nat) (hs : s ≤ 8) (dUsed : Bytes) (n : Nat) :
    ∀ (fuel i : Nat) (P : Bytes), P.length = i → i ≤ n → i ≤ dUsed.length - 1 → n - i < fuel →
      TN.GetBytes_loop1 (s : Int) dUsed (n : Int) fuel (P ++ List.replicate (n - i) 0) (i : Int)
        = .ok (P ++ shiftPass s (n - i) (dUsed.drop i), ((min n (dUsed.length - 1) : Nat) : Int)) := by
  intro fuel
  induction fuel with
  | zero => intro i P _ _ _ h; omega
  | succ fuel ih =>
    intro i P hP hin hid hf
    rw [TN.GetBytes_loop1]
    by_cases hlt : i < n
    · have hc1 : ((i : Int) < (n : Int)) := by omega
      obtain ⟨k, hk⟩ : ∃ k, n - i = k + 1 := ⟨n - i - 1, by omega⟩
      by_cases h0 : dUsed.length ≤ i
      · -- nothing left to read: only possible at i = 0 with dUsed empty
        have hd : dUsed = [] := by
          cases dUsed with
          | nil => rfl
          | cons x xs => simp at h0 hid; omega
        subst hd
        have hi0 : i = 0 := by simpa using hid
        subst hi0
        have hP' : P = [] := List.eq_nil_of_length_eq_zero hP
        subst hP'
        simp [hc1, hk, shiftPass]
      · have hi : i < dUsed.length := by omega
        have hc2 : ¬ ((i : Int) ≥ (dUsed.length : Int)) := by omega
        have hset : ∀ v : UInt8, Go.setIdx (P ++ List.replicate (k + 1) 0) i v = .ok (P ++ v :: List.replicate k 0) := by
          intro v; simp [Go.setIdx, hP, List.set_append, List.replicate_succ]
        have hset2 : ∀ v w : UInt8, Go.setIdx (P ++ v :: List.replicate k 0) i w = .ok (P ++ w :: List.replicate k 0) := by
          intro v w; simp [Go.setIdx, hP, List.set_append]
        have hget : ∀ v : UInt8, Go.idx (P ++ v :: List.replicate k 0) i = .ok v := by
          intro v; simp [Go.idx, hP]
        by_cases h1 : dUsed.length ≤ i + 1
        · -- dUsed[i] is the last byte
          have hc3 : ((i : Int) + 1 ≥ (dUsed.length : Int)) := by omega
          have hd : dUsed.drop i = [dUsed[i]] := by
            rw [List.drop_eq_getElem_cons hi, List.drop_eq_nil_of_le h1]
          have hm : min n (dUsed.length - 1) = i := by omega
          simp [hc1, hc2, hc3, idxI_nat, setIdxI_nat, shl8I_nat, idx_getElem hi, hset, hd, hk, shiftPass, hm]
        · have hi1 : i + 1 < dUsed.length := by omega
          have hc3 : ¬ ((i : Int) + 1 ≥ (dUsed.length : Int)) := by omega
          have hd : dUsed.drop i = dUsed[i] :: dUsed[i + 1] :: dUsed.drop (i + 2) := by
            rw [List.drop_eq_getElem_cons hi, List.drop_eq_getElem_cons hi1]
          have hd1 : dUsed.drop (i + 1) = dUsed[i + 1] :: dUsed.drop (i + 2) := List.drop_eq_getElem_cons hi1
          have e1 : ((i : Int) + 1) = ((i + 1 : Nat) : Int) := by omega
          have hrec := ih (i + 1) (P ++ [Producer.shl8 dUsed[i] s ||| Producer.shr8 dUsed[i + 1] (8 - s)])
            (by simp [hP]) (by omega) (by omega) (by omega)
          have hk' : n - (i + 1) = k := by omega
          rw [hk'] at hrec
          rw [hk, hd, shiftPass, ← hd1]
          simp [hc1, hc2, hc3, idxI_nat, idxI_nat_succ, setIdxI_nat, shl8I_nat, shr8I_sub _ _ hs, idx_getElem hi, hset, hset2, hget,
            idx_getElem hi1]
          simpa using hrec
    · have hn : i = n := by omega
      subst hn
      have hc1 : ¬ ((i : Int) < (i : Int)) := by omega
      have hm : min i (dUsed.length - 1) = i := by omega
      simp [hc1, hm, shiftPass]

theorem setLast_eq (bs : Bytes) (f : UInt8 → UInt8) (h : 0 < bs.length) :
    setLast bs f = bs.set (bs.length - 1) (f (bs[bs.length - 1]'(by omega))) := by
  rcases List.eq_nil_or_concat bs with rfl | ⟨init, x, rfl⟩
  · simp at h
  · simp [setLast]

/-- GetBytes from `dUsed := d[start:end]` on, as a function of what the code before it computes: the two bit counts,
    `start`, the clamped `end`, `missing` and `lengthB` -/
def tail (d : Bytes) (ss srs st e missing lb : Int) (shift : Bool) : Res Bytes :=
  Go.sliceI d st e >>= fun t_1 =>
  if (decide (ss = 0) && decide (srs = 0)) then
    if decide (missing > 0) then Go.makeBytesI lb >>= fun t_2 => .ok (Go.copyBytes t_2 t_1) else .ok t_1
  else
    Go.makeBytesI lb >>= fun t_3 =>
    TN.GetBytes_loop1 ss t_1 (t_3.length : Int) ((t_3.length : Int).toNat + 1) t_3 0 >>= fun t_11 =>
    if shift then
      Go.idxI t_11.1 ((t_11.1.length : Int) - 1) >>= fun t_12 =>
      Go.shr8I t_12 (Int.tmod (8 - srs) 8) >>= fun t_13 =>
      Go.setIdxI t_11.1 ((t_11.1.length : Int) - 1) t_13 >>= fun t_14 => .ok t_14
    else
      Go.idxI t_11.1 ((t_11.1.length : Int) - 1) >>= fun t_15 =>
      Go.shl8I 255 (Int.tmod (8 - srs) 8) >>= fun t_16 =>
      Go.setIdxI t_11.1 ((t_11.1.length : Int) - 1) (t_15 &&& t_16) >>= fun t_17 => .ok t_17

/-- `x / 8` rounded the way GetBytes does it: one more `if x % 8 > 0` -/
def ceil8 (x : Int) : Int := if decide (Int.tmod x 8 > 0) then Int.tdiv x 8 + 1 else Int.tdiv x 8

/-- The translated body passes `end` and `lengthB` on through continuations `if c then k (e + 1) else k e`; here the
    choices are made in the arguments, and the rest of the body is met once. -/
theorem getBytes_unfold (d : Bytes) (offset length : Int) (shift : Bool) :
    TN.GetBytes d offset length shift =
      if decide ((d.length : Int) * 8 < offset) then .ok [] else if decide (length = 0) then .ok [] else
        tail d (Int.tmod offset 8) (Int.tmod length 8) (Int.tdiv offset 8)
          (if decide (ceil8 (offset + length) - (d.length : Int) > 0) then (d.length : Int) else ceil8 (offset + length))
          (ceil8 (offset + length) - (d.length : Int)) (ceil8 length) shift := by
  rw [apply_ite (fun e => tail d (Int.tmod offset 8) (Int.tmod length 8) (Int.tdiv offset 8) e
    (ceil8 (offset + length) - (d.length : Int)) (ceil8 length) shift)]
  unfold TN.GetBytes ceil8
  dsimp only
  cases decide ((d.length : Int) * 8 < offset)
  · cases decide (length = 0)
    · cases decide (Int.tmod (offset + length) 8 > 0) <;> cases decide (Int.tmod length 8 > 0) <;> rfl
    · rfl
  · rfl

theorem ceil8_nat (n : Nat) : ceil8 (n : Int) = ((n / 8 + (if n % 8 > 0 then 1 else 0) : Nat) : Int) := by
  rw [ceil8, tmod_nat, tdiv_nat]
  by_cases h : n % 8 > 0
  · have hI : (((n % 8 : Nat) : Int) > 0) := by omega
    simp only [h, hI, decide_true, if_true, Int.natCast_add, Int.natCast_one]
  · have hI : ¬ (((n % 8 : Nat) : Int) > 0) := by omega
    simp only [h, hI, decide_false, if_false, Bool.false_eq_true, Nat.add_zero]

/-- the rounded-up quotient in a form `omega` can use -/
theorem ceil_spec (n : Nat) : ∃ c, n / 8 + (if n % 8 > 0 then 1 else 0) = c ∧ n ≤ 8 * c ∧ 8 * c < n + 8 := by
  split <;> exact ⟨_, rfl, by omega, by omega⟩

/-- `tail` when its `int` arguments are natural numbers; `mis` is any proposition equivalent to `missing > 0`, in the
    form the caller has it -/
theorem tail_nat (d : Bytes) (ss srs st e1 lb : Nat) (e1I lbI missing : Int) (mis : Prop) [Decidable mis] (shift : Bool)
    (hss : ss ≤ 8) (hsrs : srs ≤ 8) (hst : st ≤ e1) (he : e1 ≤ d.length) (hlbI : lbI = (lb : Int)) (he1I : e1I = (e1 : Int))
    (hmis : missing > 0 ↔ mis) (hlb : ¬ (ss = 0 ∧ srs = 0) → 0 < lb) (hcopy : mis → e1 - st ≤ lb) :
    tail d ss srs st e1I missing lbI shift =
      if ss = 0 ∧ srs = 0 then
        if mis then .ok ((d.take e1).drop st ++ List.replicate (lb - ((d.take e1).drop st).length) 0) else .ok ((d.take e1).drop st)
      else if shift = true then
        .ok (setLast (shiftPass ss lb ((d.take e1).drop st)) fun x => Producer.shr8 x ((8 - srs) % 8))
      else
        .ok (setLast (shiftPass ss lb ((d.take e1).drop st)) fun x => x &&& Producer.shl8 255 ((8 - srs) % 8)) := by
  subst hlbI he1I
  have hmk := makeBytesI_ofNat lb
  unfold tail
  rw [sliceI_nat d st e1 hst he, ok_bind]
  by_cases hal : ss = 0 ∧ srs = 0
  · have hc : (decide ((ss : Int) = 0) && decide ((srs : Int) = 0)) = true := by simp [hal.1, hal.2]
    rw [if_pos hc, if_pos hal]
    by_cases hm : mis
    · have hl : ((d.take e1).drop st).length ≤ lb := by
        have := hcopy hm
        simp only [List.length_drop, List.length_take]; omega
      simp only [hmis.2 hm, hm, decide_true, if_true, hmk, ok_bind, Go.copyBytes, List.length_replicate, List.take_of_length_le hl,
        List.drop_replicate]
    · simp only [mt hmis.1 hm, hm, decide_false, if_false, Bool.false_eq_true]
  · have hc : (decide ((ss : Int) = 0) && decide ((srs : Int) = 0)) = false := by
      simp only [Bool.and_eq_false_iff, decide_eq_false_iff_not]; omega
    have hlb := hlb hal
    rw [hc, if_neg hal]
    have hloop := getBytes_loop ss hss ((d.take e1).drop st) lb (lb + 1) 0 [] rfl (by omega) (by omega) (by omega)
    simp only [List.nil_append, Nat.sub_zero, List.drop_zero, show ((0 : Nat) : Int) = 0 from rfl] at hloop
    have hk : Int.tmod (8 - (srs : Int)) 8 = (((8 - srs) % 8 : Nat) : Int) := by
      have : (8 - (srs : Int)) = ((8 - srs : Nat) : Int) := by omega
      rw [this, tmod_nat]
    have hlen := Goflow.C14.shiftPass_length ss lb ((d.take e1).drop st)
    have hidx : ((lb : Int) - 1) = ((lb - 1 : Nat) : Int) := by omega
    have hlt : lb - 1 < (shiftPass ss lb ((d.take e1).drop st)).length := by omega
    simp only [hmk, ok_bind, List.length_replicate, Int.toNat_natCast, hloop, hlen, hidx, idxI_nat, setIdxI_nat,
      idx_getElem hlt, hk, shl8I_nat, shr8I_nat, Go.setIdx, hlt, if_true, Bool.false_eq_true, if_false]
    rw [setLast_eq _ _ (by omega), setLast_eq _ _ (by omega)]
    have hlt' : lb - 1 < lb := by omega
    cases shift <;> simp [hlen, hlt']

theorem getBytes_trans_eq_nonneg (d : Bytes) (off len : Nat) (shift : Bool) :
    TN.GetBytes d (off : Int) (len : Int) shift = getBytes d (off : Int) (len : Int) shift := by
  rw [getBytes_unfold]
  unfold getBytes
  by_cases h1 : d.length * 8 < off
  · have : ((d.length : Int) * 8 < (off : Int)) := by omega
    simp [this]
  have h1' : ¬ ((d.length : Int) * 8 < (off : Int)) := by omega
  by_cases h2 : len = 0
  · subst h2; simp [h1']
  have h2' : ¬ ((len : Int) = 0) := by omega
  have h3 : ¬ ((len : Int) < 0 ∨ (off : Int) ≤ -8) := by omega
  have h4 : ¬ ((off : Int) < 0) := by omega
  obtain ⟨E, hE, hE1, hE2⟩ := ceil_spec (off + len)
  obtain ⟨L, hL, hL1, hL2⟩ := ceil_spec len
  simp only [h1', h2', h3, h4, decide_false, if_false, Bool.false_eq_true, Int.toNat_natCast, tmod_nat, tdiv_nat, ← Int.natCast_add,
    ceil8_nat, hE, hL, decide_eq_true_eq]
  exact tail_nat d (off % 8) (len % 8) (off / 8) _ _ _ _ _ _ shift (by omega) (by omega) (by split <;> omega) (by split <;> omega) rfl
    (by split <;> split <;> omega) (by omega) (by omega) (by split <;> omega)

/-- `ceil8 x` is the least `c` with `x ≤ 8 * c`, whatever the sign of `x` (`/` and `%` truncate toward zero) -/
theorem ceil8_bounds (x : Int) : x ≤ 8 * ceil8 x ∧ 8 * ceil8 x < x + 8 := by
  obtain ⟨e, p, n⟩ := tdiv_tmod_spec x
  unfold ceil8
  by_cases h : Int.tmod x 8 > 0
  · rw [decide_eq_true h, if_pos rfl]; omega
  · rw [decide_eq_false h, if_neg Bool.false_ne_true]; omega

theorem ceil8_eq (x : Int) : Int.tdiv x 8 + (if Int.tmod x 8 > 0 then 1 else 0) = ceil8 x := by
  unfold ceil8
  by_cases h : Int.tmod x 8 > 0 <;> simp [h]

/-- `tail` panics when `start` is negative (the slice), and when `lengthB` is not positive: in `make` if it is negative,
    else at `dFinal[len(dFinal)-1]` with `dFinal` empty -/
theorem tail_panic (d : Bytes) (ss srs st e missing lb : Int) (shift : Bool)
    (h : st < 0 ∨ (lb ≤ 0 ∧ (ss = 0 → srs = 0 → (missing > 0 ∧ lb < 0) ∨ e < 0 ∨ e < st ∨ (d.length : Int) < e))) :
    tail d ss srs st e missing lb shift = .error .panic := by
  unfold tail
  rcases sliceI_cases d st e with hs | ⟨v, hs⟩
  · simp [hs]
  · have hb := sliceI_ok_bounds hs
    rcases h with h | ⟨hlb, h1⟩
    · omega
    rw [hs]
    simp only [ok_bind]
    by_cases hsim : ss = 0 ∧ srs = 0
    · rcases h1 hsim.1 hsim.2 with ⟨hm, hl⟩ | hbad
      · simp [hsim.1, hsim.2, hm, Go.makeBytesI, hl]
      · omega
    · have hc : (decide (ss = 0) && decide (srs = 0)) = false := by
        simp only [Bool.and_eq_false_iff, decide_eq_false_iff_not]; omega
      by_cases hl : lb < 0
      · simp [hc, Go.makeBytesI, hl]
      · have : lb = 0 := by omega
        subst this
        simp [hc, Go.makeBytesI, TN.GetBytes_loop1, Go.idxI]

theorem getBytes_panic (d : Bytes) (offset length : Int) (shift : Bool)
    (h1 : ¬ ((d.length : Int) * 8 < offset)) (h2 : ¬ (length = 0)) (h : length < 0 ∨ offset ≤ -8) :
    TN.GetBytes d offset length shift = .error .panic := by
  rw [getBytes_unfold]
  simp only [h1, h2, decide_false, if_false, Bool.false_eq_true, decide_eq_true_eq]
  obtain ⟨eo, po, no⟩ := tdiv_tmod_spec offset
  apply tail_panic
  rcases h with hl | ho
  · -- a negative length: `lengthB ≤ 0`; with both bit counts 0 it is negative, and `end < start` unless `make` is reached
    have el := (tdiv_tmod_spec length).1
    obtain ⟨cL, cL'⟩ := ceil8_bounds length
    refine Or.inr ⟨by omega, fun hss hsrs => ?_⟩
    by_cases hm : ceil8 (offset + length) - (d.length : Int) > 0
    · exact Or.inl ⟨hm, by omega⟩
    · obtain ⟨cE, cE'⟩ := ceil8_bounds (offset + length)
      rw [if_neg hm]
      exact Or.inr (Or.inr (Or.inl (by omega)))
  · exact Or.inl (by omega)

/-- `tail` for an offset in [-7,-1] (`start = 0`): the first shift has a negative count, so it panics as soon as
    `dUsed` is not empty -/
theorem tail_negshift (d : Bytes) (ss srs e missing lbI : Int) (lb : Nat) (shift : Bool) (hss : ss < 0) (hsrs : 0 ≤ srs ∧ srs < 8)
    (he0 : 0 ≤ e) (he : e ≤ (d.length : Int)) (hlb : 0 < lb) (hlbI : lbI = (lb : Int)) :
    tail d ss srs 0 e missing lbI shift = if e > 0 then (.error .panic : Res Bytes) else .ok (List.replicate lb 0) := by
  subst hlbI
  obtain ⟨en, rfl⟩ := Int.eq_ofNat_of_zero_le he0
  have hen : en ≤ d.length := by omega
  have hsl : Go.sliceI d 0 (en : Int) = .ok (d.take en) := by
    have := sliceI_nat d 0 en (by omega) hen
    simpa using this
  have hmk := makeBytesI_ofNat lb
  have hc : (decide (ss = 0) && decide (srs = 0)) = false := by
    simp only [Bool.and_eq_false_iff, decide_eq_false_iff_not]; omega
  obtain ⟨k, rfl⟩ : ∃ k, lb = k + 1 := ⟨lb - 1, by omega⟩
  unfold tail
  simp only [hsl, hmk, hc, ok_bind, List.length_replicate, Int.toNat_natCast, Bool.false_eq_true, if_false]
  rw [TN.GetBytes_loop1]
  by_cases hpos : (en : Int) > 0
  · have hne : ¬ ((0 : Int) ≥ ((d.take en).length : Int)) := by
      simp only [List.length_take]; omega
    have hlt : 0 < (d.take en).length := by simp only [List.length_take]; omega
    have hi : Go.idxI (d.take en) 0 = .ok ((d.take en)[0]) := by
      have := idxI_nat (d.take en) 0
      rw [idx_getElem hlt] at this
      simpa using this
    have h01 : ((0 : Int) < ((k + 1 : Nat) : Int)) := by omega
    have hen0 : ¬ en = 0 := by omega
    have hd : ¬ d = [] := by
      intro h; subst h; simp at hen; omega
    have hen1 : 0 < en := by omega
    simp [hpos, hne, hi, h01, Go.shl8I, hss, hen0, hd, hen1]
  · have he0 : en = 0 := by omega
    subst he0
    have h01 : ((0 : Int) < ((k + 1 : Nat) : Int)) := by omega
    obtain ⟨hs1, hs2⟩ := hsrs
    obtain ⟨kn, hkn⟩ := Int.eq_ofNat_of_zero_le (show 0 ≤ Int.tmod (8 - srs) 8 from Int.tmod_nonneg _ (by omega))
    have hidx : (((k + 1 : Nat) : Int) - 1) = ((k : Nat) : Int) := by omega
    have hget : Go.idx (List.replicate (k + 1) (0 : UInt8)) k = .ok 0 := by
      simp [Go.idx]
    have hset : Go.setIdx (List.replicate (k + 1) (0 : UInt8)) k 0 = .ok (List.replicate (k + 1) 0) := by
      simp [Go.setIdx, List.replicate_succ']
    cases shift <;>
      simp [h01, hkn, hidx, idxI_nat, setIdxI_nat, hget, shr8I_nat, shl8I_nat, Producer.shr8, hset]

theorem getBytes_small_neg (d : Bytes) (offset : Int) (n : Nat) (shift : Bool)
    (ho : -8 < offset) (ho' : offset < 0) (hn : 0 < n) :
    TN.GetBytes d offset (n : Int) shift = getBytes d offset (n : Int) shift := by
  rw [getBytes_unfold]
  unfold getBytes goDiv goMod
  have h1 : ¬ ((d.length : Int) * 8 < offset) := by omega
  have h2 : ¬ ((n : Int) = 0) := by omega
  have h3 : ¬ ((n : Int) < 0 ∨ offset ≤ -8) := by omega
  obtain ⟨eo, po, no⟩ := tdiv_tmod_spec offset
  have hst : Int.tdiv offset 8 = 0 := by omega
  have hso : Int.tmod offset 8 = offset := by omega
  clear eo po no
  obtain ⟨cE, cE'⟩ := ceil8_bounds (offset + (n : Int))
  obtain ⟨L, hL, hL1, hL2⟩ := ceil_spec n
  simp only [h1, h2, h3, ho', hst, ceil8_eq, decide_false, decide_true, if_false, if_true, Bool.false_eq_true, Int.toNat_natCast,
    tmod_nat, ceil8_nat, hL, decide_eq_true_eq]
  refine (tail_negshift d _ _ _ _ _ L shift (by omega) (by omega) (by split <;> omega) (by split <;> omega) (by omega) rfl).trans ?_
  exact ite_congr (propext (by split <;> omega)) (fun _ => rfl) (fun _ => rfl)

/-- GetBytes for every slice, offset, length (any sign) and both final passes -/
theorem getBytes_trans_eq (d : Bytes) (offset length : Int) (shift : Bool) :
    TN.GetBytes d offset length shift = getBytes d offset length shift := by
  by_cases hl : 0 ≤ length
  · obtain ⟨n, rfl⟩ := Int.eq_ofNat_of_zero_le hl
    by_cases ho : 0 ≤ offset
    · obtain ⟨m, rfl⟩ := Int.eq_ofNat_of_zero_le ho
      exact getBytes_trans_eq_nonneg d m n shift
    · by_cases hn : n = 0
      · subst hn
        unfold TN.GetBytes getBytes
        have h1 : ¬ ((d.length : Int) * 8 < offset) := by omega
        simp [h1]
      · by_cases ho8 : offset ≤ -8
        · have h1 : ¬ ((d.length : Int) * 8 < offset) := by omega
          have h2 : ¬ ((n : Int) = 0) := by omega
          rw [getBytes_panic d offset n shift h1 h2 (Or.inr ho8)]
          unfold getBytes
          simp [h1, hn, ho8]
        · exact getBytes_small_neg d offset n shift (by omega) (by omega) (by omega)
  · by_cases h1 : (d.length : Int) * 8 < offset
    · unfold TN.GetBytes getBytes
      simp [h1]
    · have h2 : ¬ (length = 0) := by omega
      rw [getBytes_panic d offset length shift h1 h2 (Or.inl (by omega))]
      unfold getBytes
      have : length < 0 := by omega
      simp [h1, h2, this]

end Goflow.C14Trans
