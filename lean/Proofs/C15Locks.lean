import Goflow.Generated.Locks
/-!
  C15 (data-race freedom of the shared maps) — a lockset argument, checked on the events regenerated from the source.

  Four maps are shared between workers: the pipe's per-exporter template systems (`p.templates`), the producer's
  per-address sampling systems (`p.sampling`), the templates of one template system (`ts.templates`) and the rates of one
  sampling system (`s.sampling`). Each sits next to a `sync.RWMutex` named `<map>lock`. `/verif/extract/locks.go` lists,
  for every function that mentions one of the maps, the lock operations, the map accesses, the block boundaries and the
  returns in source order (`Goflow.Generated.lockEvents`).

  `run` is a lockset checker over such an event list. It accepts a function only if
    * every load of a map happens while the map's own lock is held (read or write), every store / delete while it is
      write-held, and a reference to the map as a whole (`ref`, `assign`) counts as a load / store;
    * a lock is taken only when none is held, released in the block it was taken in, or released by a `defer` placed at
      the top level right where it was taken at the top level;
    * no block is left, no `return` is executed and the function does not end with a lock held and not deferred;
    * no closure, goroutine or deferred function body starts while a lock is held (their accesses are checked as if no
      lock were held).
  `load_guarded` and `store_guarded` say what acceptance means for every event list; `lock_discipline` that every
  function of the current source that touches one of the maps is accepted.
  Trusted: that `sync.RWMutex` excludes a writer from everybody else (Go memory model), and that the extractor lists the
  events of the source (it is ~250 lines over go/ast; any statement kind it does not know is reported as a problem).
-/
namespace Goflow.C15Locks

abbrev Ev := String × String × Nat      -- kind, subject, block depth

structure LS where
  held : Option (String × Bool) := none     -- lock expression, write-held?
  depth : Nat := 0                          -- depth of the block it was taken in
  deferred : Bool := false                  -- released by a `defer` (held to the end of the function)
  deriving Repr, DecidableEq

def lockOf (m : String) : String := m ++ "lock"

def readOK (s : LS) (m : String) : Bool :=
  match s.held with
  | some (l, _) => l == lockOf m
  | none => false

def writeOK (s : LS) (m : String) : Bool :=
  match s.held with
  | some (l, w) => l == lockOf m && w
  | none => false

def acquire (s : LS) (l : String) (w : Bool) (d : Nat) : Option LS :=
  if s.held.isNone then some ⟨some (l, w), d, false⟩ else none

def release (s : LS) (l : String) (w : Bool) (d : Nat) : Option LS :=
  match s.held with
  | some (l', w') => if l' == l && w' == w && !s.deferred && s.depth == d then some {} else none
  | none => none

def deferRelease (s : LS) (l : String) (w : Bool) (d : Nat) : Option LS :=
  match s.held with
  | some (l', w') => if l' == l && w' == w && !s.deferred && s.depth == 0 && d == 0 then some { s with deferred := true } else none
  | none => none

def isLoad (k : String) : Bool := k == "load" || k == "ref"
def isStore (k : String) : Bool := k == "store" || k == "delete" || k == "assign"

def step (s : LS) (e : Ev) : Option LS :=
  let k := e.1; let x := e.2.1; let d := e.2.2
  if k == "lock" then acquire s x true d
  else if k == "rlock" then acquire s x false d
  else if k == "unlock" then release s x true d
  else if k == "runlock" then release s x false d
  else if k == "defer-unlock" then deferRelease s x true d
  else if k == "defer-runlock" then deferRelease s x false d
  else if isLoad k then (if readOK s x then some s else none)
  else if isStore k then (if writeOK s x then some s else none)
  else if k == "enter" then (if x != "" && s.held.isSome then none else some s)
  else if k == "exit" then (if s.held.isSome && !s.deferred && decide (d ≤ s.depth) then none else some s)
  else if k == "return" then (if s.held.isSome && !s.deferred then none else some s)
  else none

def run (s : LS) : List Ev → Option LS
  | [] => some s
  | e :: es => match step s e with
    | some s' => run s' es
    | none => none

/-- accepted: every event passes and nothing is held at the end unless a `defer` releases it -/
def disciplined (evs : List Ev) : Bool :=
  match run {} evs with
  | some s => s.held.isNone || s.deferred
  | none => false

theorem run_append (s : LS) (a b : List Ev) :
    run s (a ++ b) = match run s a with | some s' => run s' b | none => none := by
  induction a generalizing s with
  | nil => rfl
  | cons e a ih =>
    simp only [List.cons_append, run]
    cases step s e with
    | none => rfl
    | some s' => exact ih s'

theorem run_prefix {s : LS} {pre : List Ev} {e : Ev} {post : List Ev} {t : LS}
    (h : run s (pre ++ e :: post) = some t) : ∃ u v, run s pre = some u ∧ step u e = some v := by
  rw [run_append] at h
  cases hu : run s pre with
  | none => rw [hu] at h; cases h
  | some u =>
    rw [hu] at h
    simp only [run] at h
    cases hv : step u e with
    | none => rw [hv] at h; cases h
    | some v => exact ⟨u, v, rfl, hv⟩

theorem step_load {s t : LS} {e : Ev} (h : step s e = some t) (hk : isLoad e.1 = true) : readOK s e.2.1 = true := by
  unfold step at h
  simp only [isLoad, Bool.or_eq_true, beq_iff_eq] at hk
  rcases hk with hk | hk <;> simp [hk, isLoad] at h <;> exact h.1

theorem step_store {s t : LS} {e : Ev} (h : step s e = some t) (hk : isStore e.1 = true) : writeOK s e.2.1 = true := by
  unfold step at h
  simp only [isStore, Bool.or_eq_true, beq_iff_eq] at hk
  rcases hk with (hk | hk) | hk <;> simp [hk, isLoad, isStore] at h <;> exact h.1

/-- In an accepted event list every load of a map (and every reference to it) is reached in a state where that
    map's own lock is held. -/
theorem load_guarded (evs : List Ev) (hacc : disciplined evs = true) (pre : List Ev) (e : Ev) (post : List Ev)
    (hsplit : evs = pre ++ e :: post) (hk : isLoad e.1 = true) :
    ∃ u, run {} pre = some u ∧ ∃ w, u.held = some (lockOf e.2.1, w) := by
  unfold disciplined at hacc
  cases hr : run {} evs with
  | none => rw [hr] at hacc; cases hacc
  | some t =>
    rw [hsplit] at hr
    obtain ⟨u, v, hu, hv⟩ := run_prefix hr
    refine ⟨u, hu, ?_⟩
    have := step_load hv hk
    unfold readOK at this
    cases hh : u.held with
    | none => rw [hh] at this; cases this
    | some lw =>
      obtain ⟨l, w⟩ := lw
      rw [hh] at this
      simp only [beq_iff_eq] at this
      exact ⟨w, by rw [this]⟩

/-- … and every store, delete or assignment in a state where that map's lock is write-held. -/
theorem store_guarded (evs : List Ev) (hacc : disciplined evs = true) (pre : List Ev) (e : Ev) (post : List Ev)
    (hsplit : evs = pre ++ e :: post) (hk : isStore e.1 = true) :
    ∃ u, run {} pre = some u ∧ u.held = some (lockOf e.2.1, true) := by
  unfold disciplined at hacc
  cases hr : run {} evs with
  | none => rw [hr] at hacc; cases hacc
  | some t =>
    rw [hsplit] at hr
    obtain ⟨u, v, hu, hv⟩ := run_prefix hr
    refine ⟨u, hu, ?_⟩
    have := step_store hv hk
    unfold writeOK at this
    cases hh : u.held with
    | none => rw [hh] at this; cases this
    | some lw =>
      obtain ⟨l, w⟩ := lw
      rw [hh] at this
      simp only [Bool.and_eq_true, beq_iff_eq] at this
      rw [this.1, this.2]

/-! the checker rejects what it should -/

example : disciplined [("rlock", "ts.templateslock", 0), ("defer-runlock", "ts.templateslock", 0), ("load", "ts.templates", 0)] = true := by decide +kernel
/-- a lookup without the lock (a seeded change of round 4 read the map through an accessor that had dropped it) -/
example : disciplined [("load", "ts.templates", 0), ("return", "", 0)] = false := by decide +kernel
/-- a store under the read lock -/
example : disciplined [("rlock", "p.templateslock", 0), ("store", "p.templates", 0), ("runlock", "p.templateslock", 0)] = false := by decide +kernel
/-- the lock of another map -/
example : disciplined [("lock", "p.samplinglock", 0), ("store", "p.templates", 0), ("unlock", "p.samplinglock", 0)] = false := by decide +kernel
/-- released in a branch, used after it -/
example : disciplined [("rlock", "l.templateslock", 0), ("enter", "", 1), ("runlock", "l.templateslock", 1), ("exit", "", 1), ("load", "l.templates", 0)] = false := by decide +kernel
/-- a return with the lock held and no defer -/
example : disciplined [("lock", "ts.templateslock", 0), ("enter", "", 1), ("return", "", 1), ("exit", "", 1), ("unlock", "ts.templateslock", 0)] = false := by decide +kernel

open Goflow.Generated in
/-- Every function of the current tree that touches one of the four shared maps keeps the lock discipline; the maps
    are touched in the eight functions the concurrency models (C15, C16) know; nobody outside the tests calls the
    accessor that returns the template map itself. -/
theorem lock_discipline :
    lockEvents.all (fun f => disciplined f.2) = true ∧
    lockEvents.map (·.1) =
      ["utils/pipe.go:NetFlowPipe.DecodeFlow", "producer/proto/proto.go:ProtoProducer.getSamplingRateSystem",
       "producer/proto/producer_nf.go:basicSamplingRateSystem.AddSamplingRate",
       "producer/proto/producer_nf.go:basicSamplingRateSystem.GetSamplingRate",
       "decoders/netflow/templates.go:BasicTemplateSystem.GetTemplates",
       "decoders/netflow/templates.go:BasicTemplateSystem.AddTemplate",
       "decoders/netflow/templates.go:BasicTemplateSystem.GetTemplate",
       "decoders/netflow/templates.go:BasicTemplateSystem.RemoveTemplate"] ∧
    (lockEvents.filter (fun f => f.2.any (fun e => e.1 == "ref" || e.1 == "assign"))).map (·.1) =
      ["decoders/netflow/templates.go:BasicTemplateSystem.GetTemplates"] ∧
    getTemplatesCallers = [] :=
  ⟨by decide +kernel, rfl, by rfl, rfl⟩

open Goflow.Generated in
/-- The per-exporter maps of the pipe and of the producer only grow: no function deletes from them or assigns them as
    a whole, so a template or sampling system, once published for an exporter, stays the exporter's system (what
    C16's `nothing_lost` assumes of the code around the get-or-create protocol). -/
theorem maps_only_grow :
    lockEvents.all (fun f => f.2.all (fun e =>
      !((e.1 == "delete" || e.1 == "assign") && (e.2.1 == "p.templates" || e.2.1 == "p.sampling")))) = true ∧
    ((lockEvents.filter (fun f => f.2.any (fun e => e.1 == "store" && e.2.1 == "p.templates"))).map (·.1) =
      ["utils/pipe.go:NetFlowPipe.DecodeFlow"]) ∧
    ((lockEvents.filter (fun f => f.2.any (fun e => e.1 == "store" && e.2.1 == "p.sampling"))).map (·.1) =
      ["producer/proto/proto.go:ProtoProducer.getSamplingRateSystem"]) :=
  ⟨by decide +kernel, by rfl, by rfl⟩

end Goflow.C15Locks
