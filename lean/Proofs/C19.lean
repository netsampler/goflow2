import Goflow.Conc.FileTransport
import Goflow.Generated.Sync
import Proofs.Lemmas.Run
/-!
  C19 — File output: each message written once and intact, also across rotation. Proved for the write-under-read-lock
  protocol, any number of senders, any number of rotations, any interleaving. Assumed: one write(2) on an O_APPEND
  descriptor is atomic w.r.t. other writers.
-/
namespace Goflow.C19
open Goflow Goflow.Conc.FileTransport

/-- nobody failed, nobody sits between picking and writing, and message i has been written exactly once iff sender i
    returned nil, always to a file open at the time -/
def Inv (st : St) : Prop :=
  (∀ (i : Nat) (pc : Pc), st.senders[i]? = some pc → pc = .idle ∨ pc = .ok) ∧
  (∀ (i : Nat), (written st).count i = if st.senders[i]? = some Pc.ok then 1 else 0) ∧
  (∀ e ∈ st.log, e.1 ≤ st.cur ∧ (e.1 ∈ st.closed ∨ e.1 = st.cur))

theorem inv_init (n : Nat) : Inv (init n) := by
  refine ⟨fun i pc h => .inl (getElem?_replicate_eq h), fun i => ?_, fun e he => (List.not_mem_nil he).elim⟩
  exact (if_neg fun h => Pc.noConfusion (getElem?_replicate_eq h)).symm

theorem inv_step (st : St) (e : Ev) (h : Inv st) : Inv (step true st e) := by
  obtain ⟨h1, h2, h3⟩ := h
  cases e with
  | rotate =>
    refine ⟨h1, h2, fun e he => ?_⟩
    obtain ⟨a, b⟩ := h3 e he
    exact ⟨Nat.le_succ_of_le a, .inl (b.elim (List.mem_cons_of_mem _) fun b => b ▸ List.mem_cons_self)⟩
  | send i =>
    simp only [step]
    cases hs : st.senders[i]? with
    | none => exact ⟨h1, h2, h3⟩
    | some pc =>
      rcases h1 i pc hs with rfl | rfl
      · -- idle: the write under the read lock, to the current file
        refine ⟨forall_getElem?_set h1 (.inr rfl), fun j => ?_, fun e he => ?_⟩
        · have hcount := h2 j
          simp only [written, List.map_append, List.map_cons, List.map_nil, List.count_append,
            List.count_singleton, getElem?_set_of_some _ hs, beq_iff_eq, if_true] at hcount ⊢
          by_cases hij : i = j
          · subst hij
            rw [hs, if_neg (by simp)] at hcount
            simp [hcount]
          · simpa [hij, Ne.symm hij] using hcount
        · rcases List.mem_append.mp he with he | he
          · exact h3 e he
          · cases List.mem_singleton.mp he
            exact ⟨Nat.le_refl _, .inr rfl⟩
      · exact ⟨h1, h2, h3⟩

theorem inv_run (st : St) (sched : List Ev) (h : Inv st) : Inv (run true st sched) :=
  inv_run_total (fun _ => rfl) (fun _ _ _ => rfl) (fun s e => inv_step s e) sched st h

/-- no Send fails, whatever the interleaving with rotations; in the model a sender is `failed` exactly when its
    write met a closed file (that every logged write went to the then-current file is the third clause of `Inv`) -/
theorem no_closed_write (n : Nat) (sched : List Ev) :
    ∀ (i : Nat), (run true (init n) sched).senders[i]? ≠ some Pc.failed := by
  intro i h
  have := (inv_run (init n) sched (inv_init n)).1 i _ h
  rcases this with h | h <;> cases h

/-- every message whose Send returned appears exactly once in old + new files, the others not at all -/
theorem each_once (n : Nat) (sched : List Ev) (i : Nat) :
    (written (run true (init n) sched)).count i =
      if (run true (init n) sched).senders[i]? = some Pc.ok then 1 else 0 :=
  (inv_run (init n) sched (inv_init n)).2.1 i

/-- message `i` occurs in the output as often as the log has entries for it, each of which names one file generation:
    with `each_once`, a message whose Send returned is in exactly one file -/
theorem units_in_one_file (st : St) (i : Nat) :
    (written st).count i = ((st.log.filter fun e => e.2 == i).map (·.1)).length := by
  simp only [written, List.count_eq_length_filter, List.length_map, List.filter_map, Function.comp_def]

/-- Send takes the read lock, releases it only on return (defer) and issues exactly one Fprint of data+separator in
    between; the rotation closes and reopens under the write lock (regenerated from transport/file/transport.go on
    every run) -/
theorem skeleton_matches :
    Goflow.Generated.skFileSend =
      ["d.lock.RLock()", "defer d.lock.RUnlock()", "verifPoint(\"file.send.picked\")", "fmt.Fprint(w, string(data)+d.lineSeparator)"] ∧
    Goflow.Generated.skFileInit =
      ["d.q = make(chan bool, 1)", "d.lock.Lock()", "d.openFile()", "d.lock.Unlock()", "go", "select{<-c | <-d.q}", "d.lock.Lock()", "d.file.Close()",
       "d.openFile()", "d.lock.Unlock()", "verifPoint(\"file.reopened\")"] :=
  ⟨rfl, rfl⟩

/-- The output file is opened for appending (O_APPEND): each `Fprint` of a Send is one write(2) that the kernel places
    at the current end of the file — the assumption under which concurrent senders holding the *read* lock cannot
    overwrite each other (DESIGN: "assumes O_APPEND write atomicity"). Regenerated from `openFile`. -/
theorem open_appends :
    Goflow.Generated.skFileOpen = ["os.OpenFile(d.fileDestination, os.O_APPEND|os.O_CREATE|os.O_WRONLY, 0644)"] :=
  rfl

/-- 3 senders and 2 rotations, everything written once -/
example : written (run true (init 3) [.send 0, .rotate, .send 2, .rotate, .send 1]) = [0, 2, 1] ∧
    fileOf (run true (init 3) [.send 0, .rotate, .send 2, .rotate, .send 1]) 1 = [2] := by decide

end Goflow.C19
