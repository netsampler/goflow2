import Goflow.Conc.Receiver
import Proofs.C17
/-!
  C17, data path — `Blocking` is honoured for every queue capacity.

  `Goflow.Conc.Receiver.step` guards the `drop` event with `!cfg.blocking ∧ qcap ≤ queue.length` (utils/udp.go
  180–205: the `default:` branch exists only in the `else` of `if r.blocking`); the capacity of the dispatch channel
  appears in the guards of `dispatch` / `handoff` only. So the model does not tie "blocking" to capacity 0, and
  `C17.blocking_no_drop` holds for all `cfg.qcap`. This file makes that explicit (the seeded change C17-10 honoured
  `Blocking` only without a queue).
-/
namespace Goflow.C17Faults
open Goflow Goflow.Conc.Receiver

theorem cfg_run (st : St) (sched : List Ev) : (run st sched).cfg = st.cfg :=
  C17.run_inv (P := fun s => s.cfg = st.cfg) (fun _ _ _ hP hs => by cases hs <;> exact hP) sched st rfl

theorem drop_disabled_when_blocking (st : St) (hb : st.cfg.blocking = true) (r : Nat) :
    step st (.drop r) = none := by
  simp only [step]
  split
  · simp [hb]
  · rfl

/-- blocking mode together with a queue of any capacity `> 0` drops nothing: any number of sockets and workers, every
    schedule, in particular those in which the queue is full while datagrams keep arriving -/
theorem blocking_with_queue_never_drops (cfg : Cfg) (r w : Nat) (sched : List Ev)
    (hb : cfg.blocking = true) (_hcap : 0 < cfg.qcap) :
    (run (init cfg r w) sched).dropped = [] :=
  C17.blocking_no_drop cfg r w sched hb

/-- … and at every point of every run the drop step is disabled -/
theorem blocking_with_queue_drop_disabled (cfg : Cfg) (r w : Nat) (sched : List Ev)
    (hb : cfg.blocking = true) (_hcap : 0 < cfg.qcap) (r' : Nat) :
    step (run (init cfg r w) sched) (.drop r') = none := by
  apply drop_disabled_when_blocking
  rw [cfg_run]; exact hb

/-- a blocking reader in front of a full queue keeps its datagram in hand: it can neither put it into the queue nor drop
    it (it can only leave through the quit channel once Stop was called) -/
theorem blocking_full_queue_waits (st : St) (hb : st.cfg.blocking = true) (hcap : 0 < st.cfg.qcap)
    (hfull : st.cfg.qcap ≤ st.queue.length) (r : Nat) :
    step st (.drop r) = none ∧ step st (.dispatch r) = none ∧ ∀ w, step st (.handoff r w) = none := by
  refine ⟨drop_disabled_when_blocking st hb r, ?_, ?_⟩
  · simp only [step]
    split
    · rw [if_neg (by omega)]
    · rfl
  · intro w
    simp only [step]
    split
    · rw [if_neg (by omega)]
    · rfl

/-- every datagram read in blocking mode is in a reader's hand, in the queue, in a decoder call, decoded, or was in hand
    when Stop closed the quit channel: exactly one of these, never dropped -/
theorem blocking_accounting (cfg : Cfg) (r w : Nat) (sched : List Ev) (hb : cfg.blocking = true) (d : Nat) :
    let st := run (init cfg r w) sched
    (readerIds st.readers ++ queueIds st.queue ++ workerIds st.workers ++ st.decoded ++ st.lostAtStop).count d =
      st.readIds.count d := by
  intro st
  have h := (C17.conservation cfg r w sched d).1
  have hd := C17.blocking_no_drop cfg r w sched hb
  simp only [places, List.count_append] at h
  simp only [st, List.count_append]
  rw [hd] at h
  simp only [List.count_nil, Nat.add_zero] at h
  exact h

/-- blocking, capacity 1: the queue is full while the reader holds a second datagram; the scheduled `drop` and `dispatch`
    are not enabled; after a worker took the first datagram the second goes into the queue -/
example :
    let st := run (init ⟨true, 1⟩ 1 1)
      [.read 0, .dispatch 0, .read 0, .drop 0, .dispatch 0, .take 0, .dispatch 0, .finish 0, .take 0, .finish 0]
    st.decoded = [1, 0] ∧ st.dropped = [] ∧ st.readIds = [1, 0] := by decide

/-- the same schedule without blocking drops the second datagram: the guard, not the capacity, decides -/
example :
    let st := run (init ⟨false, 1⟩ 1 1)
      [.read 0, .dispatch 0, .read 0, .drop 0, .dispatch 0, .take 0, .dispatch 0, .finish 0, .take 0, .finish 0]
    st.decoded = [0] ∧ st.dropped = [1] := by decide

/-- the hypotheses of `blocking_full_queue_waits` are satisfiable in a reachable state -/
example :
    let st := run (init ⟨true, 1⟩ 1 1) [.read 0, .dispatch 0, .read 0]
    st.cfg.blocking = true ∧ 0 < st.cfg.qcap ∧ st.cfg.qcap ≤ st.queue.length ∧ st.readers = [.holding 1 1] := by decide

end Goflow.C17Faults
