import Goflow.Producer.Netflow
import Goflow.Gen.C14
import Proofs.C08
import Proofs.C14BitsFull
import Proofs.Lemmas.GoPrims
/-!
  C14 — user-defined mappings: what a mapping statement does to the flow message. MapCustom for the destinations the
  documentation covers (a declared protobuf field, an existing numeric or bytes column, an undeclared name); the
  layer mappings of one layer as the left fold, in file order, of MapCustom over the bit ranges of the reference
  `Spec.Bits.extract`; one step of the per-field loop: custom mapping first (last statement with the key wins), then
  the standard switch, which enterprise elements never reach.
-/
namespace Goflow.C14Map
open Goflow Goflow.Producer Goflow.Netflow

def endianVal (little : Bool) (v : Bytes) : Nat := if little then Goflow.leNat v else beNat v

/-- the reference `Spec.Bits.leNat` is the big-endian value of the reversed string -/
theorem leNat_eq_beNat_reverse (b : Bytes) : Goflow.leNat b = Goflow.Spec.Bits.leNat b := by
  unfold Goflow.Spec.Bits.leNat
  induction b with
  | nil => rfl
  | cons x xs ih =>
    rw [List.reverse_cons, beNat_append, ← ih]
    simp [Goflow.leNat, beNat, Nat.mul_comm, Nat.add_comm]

theorem endianVal_lt (little : Bool) (v : Bytes) : endianVal little v < 256 ^ v.length := by
  unfold endianVal
  cases little
  · exact beNat_lt v
  · exact Goflow.Go.leNat_lt v

theorem endianVal_lt64 (little : Bool) (v : Bytes) (h : v.length ≤ 8) : endianVal little v < 2 ^ 64 :=
  calc endianVal little v < 256 ^ v.length := endianVal_lt little v
    _ ≤ 256 ^ 8 := Nat.pow_le_pow_right (by decide) h
    _ = 2 ^ 64 := by decide

theorem endianVal_mod64 (little : Bool) (v : Bytes) (h : v.length ≤ 8) : endianVal little v % 2 ^ 64 = endianVal little v :=
  Nat.mod_eq_of_lt (endianVal_lt64 little v h)

/-- DecodeUNumber / DecodeUNumberLE into a destination of `bits` bits -/
theorem endianDecode_eq (little : Bool) (bits : Nat) (v : Bytes) (h : v.length ≤ 8) :
    endianDecode little bits v = .ok (endianVal little v % 2 ^ bits) := by
  unfold endianDecode endianVal
  cases little
  · simp [decodeUNumber, Goflow.C08.decodeUNumber_eq v h]
  · simp [decodeUNumberLE, Goflow.C08.decodeUNumberLE_eq v h]

/-- more than 8 bytes: an error, not a panic -/
theorem endianDecode_long (little : Bool) (bits : Nat) (v : Bytes) (h : 8 < v.length) :
    endianDecode little bits v = .error .bad := by
  have h1 : ¬ (v.length = 1 ∨ v.length = 2 ∨ v.length = 4 ∨ v.length = 8) := by omega
  have h2 : ¬ v.length < 8 := by omega
  unfold endianDecode
  cases little
  · simp [decodeUNumber, Goflow.C08.decodeUNumber_long v h]
  · simp [decodeUNumberLE, decodeUNumberLERaw, h1, h2]

/-- no member, exported or not, of the Go message struct -/
def NotMember (dest : String) : Prop :=
  FlowMsg.kindOf dest = none ∧ dest ≠ "sizeCache" ∧ dest ≠ "unknownFields" ∧ dest ≠ "state" ∧
    dest ≠ "formatter" ∧ dest ≠ "skipDelimiter" ∧ dest ≠ "FlowMessage"

instance (dest : String) : Decidable (NotMember dest) := by unfold NotMember; infer_instance

def customEnc (f : MapField) (v : Bytes) : Bytes :=
  match f.protoType with
  | .varint => appendTag f.protoIndex 0 ++ appendVarint (endianVal f.little v)
  | .string => appendTag f.protoIndex 2 ++ appendVarint v.length ++ v
  | .none => []

/-- declared varint field: tag (index, wire type 0) and the value -/
theorem mapCustom_custom_varint (m : FlowMsg) (v : Bytes) (f : MapField)
    (hd : NotMember f.destination) (hi : 0 < f.protoIndex) (ht : f.protoType = .varint) (hv : v.length ≤ 8) :
    mapCustom m v f = .ok { m with unk := m.unk ++ appendTag f.protoIndex 0 ++ appendVarint (endianVal f.little v) } := by
  obtain ⟨hk, h1, h2, h3, h4, h5, h6⟩ := hd
  unfold mapCustom
  simp [hk, h1, h2, h3, h4, h5, h6, hi, ht, endianDecode_eq _ _ _ hv, endianVal_mod64 _ _ hv]

theorem mapCustom_custom_varint_long (m : FlowMsg) (v : Bytes) (f : MapField)
    (hd : NotMember f.destination) (hi : 0 < f.protoIndex) (ht : f.protoType = .varint) (hv : 8 < v.length) :
    mapCustom m v f = .error .bad := by
  obtain ⟨hk, h1, h2, h3, h4, h5, h6⟩ := hd
  unfold mapCustom
  simp [hk, h1, h2, h3, h4, h5, h6, hi, ht, endianDecode_long _ _ _ hv]

/-- declared string / bytes field: tag (index, wire type 2), length, the bytes -/
theorem mapCustom_custom_bytes (m : FlowMsg) (v : Bytes) (f : MapField)
    (hd : NotMember f.destination) (hi : 0 < f.protoIndex) (ht : f.protoType = .string) :
    mapCustom m v f = .ok { m with unk := m.unk ++ appendTag f.protoIndex 2 ++ appendVarint v.length ++ v } := by
  obtain ⟨hk, h1, h2, h3, h4, h5, h6⟩ := hd
  unfold mapCustom
  simp [hk, h1, h2, h3, h4, h5, h6, hi, ht]

theorem mapCustom_custom (m : FlowMsg) (v : Bytes) (f : MapField)
    (hd : NotMember f.destination) (hi : 0 < f.protoIndex)
    (ht : f.protoType = .string ∨ (f.protoType = .varint ∧ v.length ≤ 8)) :
    mapCustom m v f = .ok { m with unk := m.unk ++ customEnc f v } := by
  rcases ht with ht | ⟨ht, hv⟩
  · rw [mapCustom_custom_bytes m v f hd hi ht]; simp [customEnc, ht, List.append_assoc]
  · rw [mapCustom_custom_varint m v f hd hi ht hv]; simp [customEnc, ht, List.append_assoc]

/-- neither a column nor a declared field: no effect -/
theorem mapCustom_undeclared (m : FlowMsg) (v : Bytes) (f : MapField)
    (hd : NotMember f.destination) (hi : f.protoIndex = 0) : mapCustom m v f = .ok m := by
  obtain ⟨hk, h1, h2, h3, h4, h5, h6⟩ := hd
  unfold mapCustom
  simp [hk, h1, h2, h3, h4, h5, h6, hi]

/-- existing 32-bit column, the enum `Type` apart -/
theorem mapCustom_col_u32 (m : FlowMsg) (v : Bytes) (f : MapField)
    (hk : FlowMsg.kindOf f.destination = some "u32") (hT : f.destination ≠ "Type") (hv : v.length ≤ 8) :
    mapCustom m v f = .ok (m.setNum f.destination (endianVal f.little v % 2 ^ 32)) := by
  unfold mapCustom
  simp [hk, hT, endianDecode_eq _ _ _ hv]

/-- existing 64-bit column: 8 bytes at most, so nothing is cut -/
theorem mapCustom_col_u64 (m : FlowMsg) (v : Bytes) (f : MapField)
    (hk : FlowMsg.kindOf f.destination = some "u64") (hv : v.length ≤ 8) :
    mapCustom m v f = .ok (m.setNum f.destination (endianVal f.little v % 2 ^ 64)) := by
  have hT : f.destination ≠ "Type" := by
    intro h; rw [h] at hk; exact absurd hk (by decide)
  unfold mapCustom
  simp [hk, hT, endianDecode_eq _ _ _ hv]

/-- existing bytes column: any number of bytes -/
theorem mapCustom_col_bytes (m : FlowMsg) (v : Bytes) (f : MapField)
    (hk : FlowMsg.kindOf f.destination = some "bytes") :
    mapCustom m v f = .ok (m.setBytes f.destination v) := by
  unfold mapCustom
  simp [hk]

theorem setNum_unk (m : FlowMsg) (c : String) (x : Nat) : (m.setNum c x).unk = m.unk := by
  fun_cases FlowMsg.setNum m c x <;> rfl

theorem setNum_getNum_self (m : FlowMsg) (c : String) (x : Nat)
    (h : FlowMsg.kindOf c = some "u32" ∨ FlowMsg.kindOf c = some "u64") : (m.setNum c x).getNum c = some x := by
  fun_cases FlowMsg.setNum m c x
  -- a name the setter has no case for is none of the numeric columns
  case case38 => exfalso; revert h; fun_cases FlowMsg.kindOf c <;> simp [*]
  -- the reader's equation for the literal at hand; `rfl` would compare it with every literal before it
  all_goals rw [FlowMsg.getNum]

theorem setNum_getNum_ne (m : FlowMsg) (c c' : String) (x : Nat) (h : c' ≠ c) :
    (m.setNum c x).getNum c' = m.getNum c' := by
  -- `split` reduces both readers at once; under each of its cases the setter's own case tree is walked
  unfold FlowMsg.getNum
  split <;> first
    | (fun_cases FlowMsg.setNum m c x <;> first | exact rfl | exact absurd rfl h)
    | rfl

theorem setNum_getBytes (m : FlowMsg) (c c' : String) (x : Nat) : (m.setNum c x).getBytes c' = m.getBytes c' := by
  fun_cases FlowMsg.setNum m c x <;> rfl

theorem setNum_getNums (m : FlowMsg) (c c' : String) (x : Nat) : (m.setNum c x).getNums c' = m.getNums c' := by
  fun_cases FlowMsg.setNum m c x <;> rfl

theorem setNum_getBytess (m : FlowMsg) (c c' : String) (x : Nat) : (m.setNum c x).getBytess c' = m.getBytess c' := by
  fun_cases FlowMsg.setNum m c x <;> rfl

theorem setBytes_unk (m : FlowMsg) (c : String) (x : Bytes) : (m.setBytes c x).unk = m.unk := by
  fun_cases FlowMsg.setBytes m c x <;> rfl

theorem setBytes_getBytes_self (m : FlowMsg) (c : String) (x : Bytes)
    (h : FlowMsg.kindOf c = some "bytes") : (m.setBytes c x).getBytes c = some x := by
  -- a name the setter has no case for is none of the five bytes columns, so its kind is not "bytes"
  fun_cases FlowMsg.setBytes m c x <;> first
    | rfl
    | (exfalso; revert h; fun_cases FlowMsg.kindOf c <;> simp [*])

theorem setBytes_getBytes_ne (m : FlowMsg) (c c' : String) (x : Bytes) (h : c' ≠ c) :
    (m.setBytes c x).getBytes c' = m.getBytes c' := by
  unfold FlowMsg.setBytes; split <;> (unfold FlowMsg.getBytes; split <;> first | rfl | (exact absurd rfl h))

theorem setBytes_getNum (m : FlowMsg) (c c' : String) (x : Bytes) : (m.setBytes c x).getNum c' = m.getNum c' := by
  fun_cases FlowMsg.setBytes m c x <;> rfl

theorem setBytes_getNums (m : FlowMsg) (c c' : String) (x : Bytes) : (m.setBytes c x).getNums c' = m.getNums c' := by
  fun_cases FlowMsg.setBytes m c x <;> rfl

theorem setBytes_getBytess (m : FlowMsg) (c c' : String) (x : Bytes) : (m.setBytes c x).getBytess c' = m.getBytess c' := by
  fun_cases FlowMsg.setBytes m c x <;> rfl

def SameExcept (c : String) (m m' : FlowMsg) : Prop :=
  m'.unk = m.unk ∧ (∀ c', c' ≠ c → m'.getNum c' = m.getNum c') ∧ (∀ c', c' ≠ c → m'.getBytes c' = m.getBytes c') ∧
    (∀ c', m'.getNums c' = m.getNums c') ∧ (∀ c', m'.getBytess c' = m.getBytess c')

theorem setNum_sameExcept (m : FlowMsg) (c : String) (x : Nat) : SameExcept c m (m.setNum c x) :=
  ⟨setNum_unk m c x, fun c' h => setNum_getNum_ne m c c' x h, fun c' _ => setNum_getBytes m c c' x,
   fun c' => setNum_getNums m c c' x, fun c' => setNum_getBytess m c c' x⟩

theorem setBytes_sameExcept (m : FlowMsg) (c : String) (x : Bytes) : SameExcept c m (m.setBytes c x) :=
  ⟨setBytes_unk m c x, fun c' _ => setBytes_getNum m c c' x, fun c' h => setBytes_getBytes_ne m c c' x h,
   fun c' => setBytes_getNums m c c' x, fun c' => setBytes_getBytess m c c' x⟩

theorem mapCustom_col_num_frame (m : FlowMsg) (v : Bytes) (f : MapField) (bits : Nat)
    (hk : (bits = 32 ∧ FlowMsg.kindOf f.destination = some "u32" ∧ f.destination ≠ "Type") ∨
          (bits = 64 ∧ FlowMsg.kindOf f.destination = some "u64")) (hv : v.length ≤ 8) :
    ∃ m', mapCustom m v f = .ok m' ∧ m'.getNum f.destination = some (endianVal f.little v % 2 ^ bits) ∧
      SameExcept f.destination m m' := by
  rcases hk with ⟨rfl, hk, hT⟩ | ⟨rfl, hk⟩
  · exact ⟨_, mapCustom_col_u32 m v f hk hT hv, setNum_getNum_self _ _ _ (Or.inl hk), setNum_sameExcept _ _ _⟩
  · exact ⟨_, mapCustom_col_u64 m v f hk hv, setNum_getNum_self _ _ _ (Or.inr hk), setNum_sameExcept _ _ _⟩

theorem mapCustom_col_bytes_frame (m : FlowMsg) (v : Bytes) (f : MapField)
    (hk : FlowMsg.kindOf f.destination = some "bytes") :
    ∃ m', mapCustom m v f = .ok m' ∧ m'.getBytes f.destination = some v ∧ SameExcept f.destination m m' :=
  ⟨_, mapCustom_col_bytes m v f hk, setBytes_getBytes_self _ _ _ hk, setBytes_sameExcept _ _ _⟩

/-- the documented effect of one mapped value -/
def mapCustomRef (m : FlowMsg) (v : Bytes) (f : MapField) : FlowMsg :=
  if FlowMsg.kindOf f.destination = some "bytes" then m.setBytes f.destination v
  else if FlowMsg.kindOf f.destination = some "u32" then m.setNum f.destination (endianVal f.little v % 2 ^ 32)
  else if FlowMsg.kindOf f.destination = some "u64" then m.setNum f.destination (endianVal f.little v % 2 ^ 64)
  else if 0 < f.protoIndex then { m with unk := m.unk ++ customEnc f v }
  else m

/-- the destinations and values the documentation covers -/
def Sane (f : MapField) (v : Bytes) : Prop :=
  FlowMsg.kindOf f.destination = some "bytes" ∨
  ((FlowMsg.kindOf f.destination = some "u32" ∨ FlowMsg.kindOf f.destination = some "u64") ∧
     f.destination ≠ "Type" ∧ v.length ≤ 8) ∨
  (NotMember f.destination ∧ (f.protoIndex = 0 ∨ f.protoType = .string ∨ (f.protoType = .varint ∧ v.length ≤ 8)))

instance (f : MapField) (v : Bytes) : Decidable (Sane f v) := by unfold Sane; infer_instance

theorem mapCustom_spec (m : FlowMsg) (v : Bytes) (f : MapField) (h : Sane f v) :
    mapCustom m v f = .ok (mapCustomRef m v f) := by
  rcases h with hk | ⟨hk | hk, hT, hv⟩ | ⟨hd, hc⟩
  · rw [mapCustom_col_bytes m v f hk]; simp [mapCustomRef, hk]
  · rw [mapCustom_col_u32 m v f hk hT hv]; simp [mapCustomRef, hk]
  · rw [mapCustom_col_u64 m v f hk hv]; simp [mapCustomRef, hk]
  · have hk := hd.1
    rcases Nat.eq_zero_or_pos f.protoIndex with hi | hi
    · rw [mapCustom_undeclared m v f hd hi]; simp [mapCustomRef, hk, hi]
    · have ht : f.protoType = .string ∨ (f.protoType = .varint ∧ v.length ≤ 8) := by
        rcases hc with h0 | h1 | h2
        · omega
        · exact Or.inl h1
        · exact Or.inr h2
      rw [mapCustom_custom m v f hd hi ht]; simp [mapCustomRef, hk, hi]

open Goflow.Spec.Bits in
/-- the layer starts `offset` bytes into the frame -/
def entryBits (data : Bytes) (offset : Nat) (e : LayerMapEntry) : Bytes :=
  (extract data (8 * offset + e.offset.toNat) e.length.toNat true).getD []

def applyEntries (data : Bytes) (offset : Nat) (es : List LayerMapEntry) (m : FlowMsg) : Res FlowMsg :=
  es.foldlM (fun m e => mapCustom m (entryBits data offset e) e.field) m

theorem applyEntries_nil (data : Bytes) (offset : Nat) (m : FlowMsg) : applyEntries data offset [] m = .ok m := rfl

theorem applyEntries_cons (data : Bytes) (offset : Nat) (e : LayerMapEntry) (es : List LayerMapEntry) (m : FlowMsg) :
    applyEntries data offset (e :: es) m =
      match mapCustom m (entryBits data offset e) e.field with
      | .error err => .error err
      | .ok m' => applyEntries data offset es m' := by
  unfold applyEntries
  rw [List.foldlM_cons]
  cases mapCustom m (entryBits data offset e) e.field <;> rfl

theorem applyEntries_append (data : Bytes) (offset : Nat) (es es' : List LayerMapEntry) (m : FlowMsg) :
    applyEntries data offset (es ++ es') m =
      match applyEntries data offset es m with
      | .error err => .error err
      | .ok m' => applyEntries data offset es' m' := by
  induction es generalizing m with
  | nil => rfl
  | cons e es ih =>
    rw [List.cons_append, applyEntries_cons, applyEntries_cons]
    cases mapCustom m (entryBits data offset e) e.field with
    | error err => rfl
    | ok m' => exact ih m'

/-- from the Go ints of a statement to the naturals of `entryBits` -/
theorem getBytes_entry (data : Bytes) (offset : Nat) (e : LayerMapEntry) (h : 0 ≤ e.offset ∧ 0 ≤ e.length) :
    getBytes data ((offset : Int) * 8 + e.offset) e.length true = .ok (entryBits data offset e) := by
  have h1 : (offset : Int) * 8 + e.offset = ((8 * offset + e.offset.toNat : Nat) : Int) := by omega
  have h2 : e.length = ((e.length.toNat : Nat) : Int) := by omega
  rw [h1, h2, Goflow.C14.getBytes_eq_extract]
  simp [entryBits]

theorem mapLayerEntries_apply (data : Bytes) (offset : Nat) (encap : Bool) (entries : List LayerMapEntry) (m : FlowMsg)
    (h : ∀ e ∈ entries, e.encap = encap → 0 ≤ e.offset ∧ 0 ≤ e.length) :
    mapLayerEntries data offset encap entries m =
      applyEntries data offset (entries.filter (fun e => e.encap == encap)) m := by
  induction entries generalizing m with
  | nil => rfl
  | cons e es ih =>
    have ih' := fun m => ih m (fun e' he' => h e' (List.mem_cons_of_mem _ he'))
    unfold mapLayerEntries
    by_cases he : e.encap = encap
    · have hb : (e.encap != encap) = false := by simp [he]
      have hf : (e.encap == encap) = true := by simp [he]
      simp only [hb, Bool.false_eq_true, if_false, List.filter_cons, hf, if_true]
      rw [getBytes_entry data offset e (h e (List.mem_cons_self) he), applyEntries_cons]
      dsimp only
      cases mapCustom m (entryBits data offset e) e.field with
      | error err => rfl
      | ok m' => exact ih' m'
    · have hb : (e.encap != encap) = true := by simp [he]
      have hf : (e.encap == encap) = false := by simp [he]
      simp only [hb, if_true, List.filter_cons, hf, Bool.false_eq_true, if_false]
      exact ih' m

theorem mapLayerKeys_apply (cfg : Config) (data : Bytes) (offset : Nat) (encap : Bool) (keys : List String) (m : FlowMsg)
    (h : ∀ k ∈ keys, ∀ e ∈ lookupLayer cfg.layers k, e.encap = encap → 0 ≤ e.offset ∧ 0 ≤ e.length) :
    mapLayerKeys cfg data offset encap keys m =
      applyEntries data offset ((keys.flatMap (lookupLayer cfg.layers)).filter (fun e => e.encap == encap)) m := by
  induction keys generalizing m with
  | nil => rfl
  | cons k ks ih =>
    have ih' := fun m => ih m (fun k' hk' => h k' (List.mem_cons_of_mem _ hk'))
    unfold mapLayerKeys
    rw [List.flatMap_cons, List.filter_append, applyEntries_append,
      mapLayerEntries_apply data offset encap _ m (h k List.mem_cons_self)]
    cases applyEntries data offset (List.filter (fun e => e.encap == encap) (lookupLayer cfg.layers k)) m with
    | error err => rfl
    | ok m' => exact ih' m'

/-- the statements of one key at one layer: those whose `encap` flag equals the layer's state, in
    file order, each applied to the bits `extract data (8*offset + e.offset) e.length true` -/
theorem mapLayerEntries_spec (data : Bytes) (offset : Nat) (encap : Bool) (entries : List LayerMapEntry) (m : FlowMsg)
    (h : ∀ e ∈ entries, e.encap = encap → 0 ≤ e.offset ∧ 0 ≤ e.length) :
    mapLayerEntries data offset encap entries m =
      (entries.filter (fun e => e.encap == encap)).foldlM
        (fun m e => mapCustom m ((Goflow.Spec.Bits.extract data (8 * offset + e.offset.toNat) e.length.toNat true).getD []) e.field) m :=
  mapLayerEntries_apply data offset encap entries m h

/-- all keys of a layer (`ConfigKeyList`, in order): for every key its statements (`lookupLayer`:
    the entries with that layer name, in file order) -/
theorem mapLayerKeys_spec (cfg : Config) (data : Bytes) (offset : Nat) (encap : Bool) (keys : List String) (m : FlowMsg)
    (h : ∀ k ∈ keys, ∀ e ∈ lookupLayer cfg.layers k, e.encap = encap → 0 ≤ e.offset ∧ 0 ≤ e.length) :
    mapLayerKeys cfg data offset encap keys m =
      ((keys.flatMap (lookupLayer cfg.layers)).filter (fun e => e.encap == encap)).foldlM
        (fun m e => mapCustom m ((Goflow.Spec.Bits.extract data (8 * offset + e.offset.toNat) e.length.toNat true).getD []) e.field) m :=
  mapLayerKeys_apply cfg data offset encap keys m h

/-- the selection written the way the test generator enumerates it -/
theorem selection_eq (layers : List LayerMapEntry) (keys : List String) (encap : Bool) :
    (keys.flatMap (lookupLayer layers)).filter (fun e => e.encap == encap) =
      keys.flatMap (fun k => layers.filter (fun e => e.layer == k && e.encap == encap)) := by
  induction keys with
  | nil => rfl
  | cons k ks ih =>
    rw [List.flatMap_cons, List.flatMap_cons, List.filter_append, ih]
    congr 1
    unfold lookupLayer
    rw [List.filter_filter]
    congr 1
    funext e
    exact Bool.and_comm _ _

/-- one iteration of the ParsePacket loop runs the parser of the layer on `data[offset:]` and then the statements of
    all of the layer's keys on the whole frame with the layer's start offset and encapsulation state -/
theorem parseLoop_step (cfg : Config) (data : Bytes) (fuel : Nat) (next : Next) (offset : Nat) (encap : Bool)
    (encapIndex : Nat) (calls : List (Nat × Nat)) (m : FlowMsg) (hc : next.callable = true) (ho : offset ≤ data.length) :
    parseLoop cfg data (fuel + 1) next offset encap encapIndex calls m =
      let r := runParser next.parser m (data.drop offset) ⟨encap, (calls.lookup next.parserIndex).getD 0, cfg.ports⟩
      -- the layer statements apply to a layer the parser recognised (it added an entry to the layer stack)
      let recognised := decide (m.layerStack.length < r.msg.layerStack.length)
      match (if recognised then mapLayerKeys cfg data offset encap next.keys r.msg else .ok r.msg) with
      | .error e => .error e
      | .ok m1 =>
        let idx := encapIdx encapIndex next.encapSkip next.layerIndex
        parseLoop cfg data fuel r.next (offset + r.size)
          (encap || encapTrig idx r.next.encapSkip r.next.layerIndex) idx (bump calls next.parserIndex)
          (if recognised then { m1 with layerSize := m1.layerSize ++ [r.size % 2 ^ 32] } else m1) := by
  rw [parseLoop, if_pos ⟨hc, ho⟩]
  rfl

/-- `ipfix.mapping` for version 10, `netflowv9.mapping` otherwise -/
def mapperOf (cfg : Config) (version : Nat) : List NetflowMapEntry := if version = 10 then cfg.ipfix else cfg.v9

def keyMatch (penProvided : Bool) (pen type : Nat) (e : NetflowMapEntry) : Bool :=
  e.penProvided == penProvided && e.pen == pen && e.type == type

/-- the last statement with the key wins -/
theorem lookupNetflow_last (a b : List NetflowMapEntry) (e : NetflowMapEntry) (pp : Bool) (pen type : Nat)
    (he : keyMatch pp pen type e = true) (hb : ∀ e' ∈ b, keyMatch pp pen type e' = false) :
    lookupNetflow (a ++ e :: b) pp pen type = some e.field := by
  unfold lookupNetflow
  have hfb : b.filter (keyMatch pp pen type) = [] := by
    rw [List.filter_eq_nil_iff]; intro e' he'; simp [hb e' he']
  have : (a ++ e :: b).filter (fun e => e.penProvided == pp && e.pen == pen && e.type == type) =
      a.filter (keyMatch pp pen type) ++ [e] := by
    show (a ++ e :: b).filter (keyMatch pp pen type) = _
    rw [List.filter_append, List.filter_cons, he, if_pos rfl, hfb]
  rw [this, List.getLast?_append]
  rfl

theorem lookupNetflow_none_iff (es : List NetflowMapEntry) (pp : Bool) (pen type : Nat) :
    lookupNetflow es pp pen type = none ↔ ∀ e ∈ es, keyMatch pp pen type e = false := by
  unfold lookupNetflow
  show (match (es.filter (keyMatch pp pen type)).getLast? with | some e => some e.field | none => none) = none ↔ _
  constructor
  · intro h
    have : (es.filter (keyMatch pp pen type)).getLast? = none := by
      cases hq : (es.filter (keyMatch pp pen type)).getLast? with
      | none => rfl
      | some e => rw [hq] at h; cases h
    rw [List.getLast?_eq_none_iff, List.filter_eq_nil_iff] at this
    intro e he
    simpa using this e he
  · intro h
    have : es.filter (keyMatch pp pen type) = [] := by
      rw [List.filter_eq_nil_iff]; intro e he; simp [h e he]
    rw [this]; rfl

theorem lookupNetflow_some_mem (es : List NetflowMapEntry) (pp : Bool) (pen type : Nat) (f : MapField)
    (h : lookupNetflow es pp pen type = some f) : ∃ e ∈ es, keyMatch pp pen type e = true ∧ e.field = f := by
  unfold lookupNetflow at h
  change (match (es.filter (keyMatch pp pen type)).getLast? with | some e => some e.field | none => none) = some f at h
  cases hq : (es.filter (keyMatch pp pen type)).getLast? with
  | none => rw [hq] at h; cases h
  | some e =>
    rw [hq] at h
    have hm := List.mem_of_getLast? hq
    rw [List.mem_filter] at hm
    exact ⟨e, hm.1, hm.2, by simpa using h⟩

def customStep (mapper : List NetflowMapEntry) (df : DataField) (v : Bytes) (m : FlowMsg) : Res FlowMsg :=
  match lookupNetflow mapper df.penProvided df.pen df.type with
  | some f => mapCustom m v f
  | none => .ok m

/-- the standard switch: never for enterprise-specific elements, otherwise the `case` of the element id -/
def standardStep (cfg : Option Config) (version baseTimeNs uptime : Nat) (df : DataField) (v : Bytes) (m : FlowMsg) : Res FlowMsg :=
  if df.penProvided then .ok m
  else
    match lookupAction version df.type with
    | none => .ok m
    | some a => applyAction cfg baseTimeNs uptime m v a

/-- one step of the per-field loop: the custom mapping of the field (statement looked up by (penProvided, pen, type)
    in the version's list) runs on the message first, the standard conversion of the same field on its result, then
    the remaining fields -/
theorem element_mapping_spec (cfg : Config) (version baseTimeNs uptime : Nat) (df : DataField) (rest : List DataField)
    (m : FlowMsg) (v : Bytes) (hv : df.value = some v) :
    convertFields (some cfg) version baseTimeNs uptime (df :: rest) m =
      match customStep (mapperOf cfg version) df v m with
      | .error e => .error e
      | .ok m1 =>
        match standardStep (some cfg) version baseTimeNs uptime df v m1 with
        | .error e => .error e
        | .ok m2 => convertFields (some cfg) version baseTimeNs uptime rest m2 := by
  rw [convertFields.eq_def]
  simp only [hv]
  change (match customStep (mapperOf cfg version) df v m with | Except.error e => Except.error e | Except.ok m1 => _) = _
  cases customStep (mapperOf cfg version) df v m with
  | error e => rfl
  | ok m1 =>
    simp only [standardStep]
    cases hp : df.penProvided with
    | true => simp
    | false =>
      simp only [Bool.false_eq_true, if_false]
      cases lookupAction version df.type with
      | none => rfl
      | some a => rfl

/-- a field whose value is not a byte string is skipped altogether -/
theorem convertFields_cons_none (cfg : Option Config) (version baseTimeNs uptime : Nat) (df : DataField)
    (rest : List DataField) (m : FlowMsg) (hv : df.value = none) :
    convertFields cfg version baseTimeNs uptime (df :: rest) m = convertFields cfg version baseTimeNs uptime rest m := by
  rw [convertFields.eq_def]; simp only [hv]

theorem customStep_unmapped (mapper : List NetflowMapEntry) (df : DataField) (v : Bytes) (m : FlowMsg)
    (h : ∀ e ∈ mapper, keyMatch df.penProvided df.pen df.type e = false) : customStep mapper df v m = .ok m := by
  unfold customStep
  rw [(lookupNetflow_none_iff _ _ _ _).2 h]

theorem customStep_mapped (a b : List NetflowMapEntry) (e : NetflowMapEntry) (df : DataField) (v : Bytes) (m : FlowMsg)
    (he : keyMatch df.penProvided df.pen df.type e = true) (hb : ∀ e' ∈ b, keyMatch df.penProvided df.pen df.type e' = false) :
    customStep (a ++ e :: b) df v m = mapCustom m v e.field := by
  unfold customStep
  rw [lookupNetflow_last a b e _ _ _ he hb]

theorem standardStep_enterprise (cfg : Option Config) (version baseTimeNs uptime : Nat) (df : DataField) (v : Bytes) (m : FlowMsg)
    (h : df.penProvided = true) : standardStep cfg version baseTimeNs uptime df v m = .ok m := by
  simp [standardStep, h]

/-- no case of the switch is above 315 -/
theorem lookupAction_none_of_gt (version id : Nat) (h : 315 < id) : lookupAction version id = none := by
  have hall : ∀ e ∈ caseTable, ∀ k ∈ e.2.1, k ≤ 315 := by decide +kernel
  have hf : ∀ (p : Nat × List Nat × Action → Bool), (∀ e, p e = true → e.2.1.contains id = true) → caseTable.find? p = none := by
    intro p hp
    rw [List.find?_eq_none]
    intro e he hpe
    have hc := hp e hpe
    rw [List.contains_iff_mem] at hc
    have := hall e he id hc
    omega
  unfold lookupAction
  rw [hf _ (by intro e he; simp at he; simp [he.2]), hf _ (by intro e he; simp at he; simp [he.2])]

def CustomOK (f : MapField) (v : Bytes) : Prop :=
  NotMember f.destination ∧ 0 < f.protoIndex ∧ (f.protoType = .string ∨ (f.protoType = .varint ∧ v.length ≤ 8))

instance (f : MapField) (v : Bytes) : Decidable (CustomOK f v) := by unfold CustomOK; infer_instance

/-- a field that only the custom mappings can see: no value, or an element the switch has no case for that is unmapped
    or mapped to a custom field -/
def ElemOK (mapper : List NetflowMapEntry) (version : Nat) (df : DataField) : Prop :=
  ∀ v ∈ df.value,
    (df.penProvided = true ∨ lookupAction version df.type = none) ∧
    ∀ f ∈ lookupNetflow mapper df.penProvided df.pen df.type, CustomOK f v

instance (mapper : List NetflowMapEntry) (version : Nat) (df : DataField) : Decidable (ElemOK mapper version df) := by
  unfold ElemOK; infer_instance

def elemEnc (mapper : List NetflowMapEntry) (df : DataField) : Bytes :=
  match df.value, lookupNetflow mapper df.penProvided df.pen df.type with
  | some v, some f => customEnc f v
  | _, _ => []

theorem convertFields_custom (cfg : Config) (version baseTimeNs uptime : Nat) (record : List DataField) (m : FlowMsg)
    (h : ∀ df ∈ record, ElemOK (mapperOf cfg version) version df) :
    convertFields (some cfg) version baseTimeNs uptime record m =
      .ok { m with unk := m.unk ++ record.flatMap (elemEnc (mapperOf cfg version)) } := by
  induction record generalizing m with
  | nil => simp [convertFields]
  | cons df rest ih =>
    have ih' := fun m => ih m (fun d hd => h d (List.mem_cons_of_mem _ hd))
    have hdf := h df List.mem_cons_self
    cases hv : df.value with
    | none =>
      rw [convertFields_cons_none _ _ _ _ _ _ _ hv, ih']
      simp [elemEnc, hv]
    | some v =>
      obtain ⟨hstd, hmap⟩ := hdf v hv
      have hs : ∀ m1, standardStep (some cfg) version baseTimeNs uptime df v m1 = .ok m1 := by
        intro m1
        rcases hstd with hp | hn
        · exact standardStep_enterprise _ _ _ _ _ _ _ hp
        · unfold standardStep; rw [hn]; split <;> rfl
      rw [element_mapping_spec cfg version baseTimeNs uptime df rest m v hv]
      unfold customStep
      cases hl : lookupNetflow (mapperOf cfg version) df.penProvided df.pen df.type with
      | none =>
        simp only [hs]
        rw [ih']
        simp [elemEnc, hv, hl]
      | some f =>
        have hmap := hmap f hl
        simp only [mapCustom_custom m v f hmap.1 hmap.2.1 hmap.2.2, hs]
        rw [ih']
        simp [elemEnc, hv, hl, List.append_assoc]

/-- a record whose elements are all unknown to the standard switch: the unknown section is the concatenation, in record
    order, of the encodings of the mapped values; the columns are those of every NetFlow / IPFIX record (type, the
    default times) -/
theorem custom_record_spec (cfg : Config) (version baseTime uptime : Nat) (record : List DataField)
    (h : ∀ df ∈ record, ElemOK (mapperOf cfg version) version df) :
    convertNetFlowDataSet (some cfg) version baseTime uptime record =
      .ok { FlowMsg.empty with
              timeFlowStartNs := baseTime * 1000000000, timeFlowEndNs := baseTime * 1000000000,
              type_ := if version = 9 then 3 else if version = 10 then 4 else 0,
              unk := record.flatMap (elemEnc (mapperOf cfg version)) } := by
  unfold convertNetFlowDataSet
  simp only
  rw [convertFields_custom cfg version _ uptime record _ h]
  simp [FlowMsg.empty]

/-! the test generator's reference (`Gen.C14.effectOf`) in these terms -/

section Generator
open Goflow.Gen.C14 Goflow.Format

theorem decodeEndian_eq (endian : String) (v : Bytes) : decodeEndian endian v = endianVal (endian == "little") v := by
  unfold decodeEndian endianVal
  by_cases h : endian = "little" <;> simp [h]

/-- a declared field: the generator expects `customEnc` of the finalized statement (`finalizeDest`) -/
theorem effectOf_custom (p : PbField) (t : ProtoType) (endian : String) (v : Bytes) (ht : protoTypeOf p.type = some t) :
    effectOf (customDest p) endian v = .unk (customEnc ⟨p.name, endian == "little", p.index, t, p.array⟩ v) := by
  have hcases : (p.type = "varint" ∧ t = .varint) ∨ (p.type ≠ "varint" ∧ t = .string) := by
    unfold protoTypeOf at ht
    by_cases h2 : p.type = "string" ∨ p.type = "bytes"
    · rw [if_pos h2] at ht
      refine Or.inr ⟨?_, (Option.some.inj ht).symm⟩
      rcases h2 with h | h <;> (rw [h]; decide)
    · rw [if_neg h2] at ht
      by_cases h1 : p.type = "varint"
      · rw [if_pos h1] at ht; exact Or.inl ⟨h1, (Option.some.inj ht).symm⟩
      · rw [if_neg h1] at ht; cases ht
  rcases hcases with ⟨h1, rfl⟩ | ⟨h1, rfl⟩
  · simp [effectOf, customDest, customEnc, h1, decodeEndian_eq]
  · simp [effectOf, customDest, customEnc, h1]

/-- an existing numeric column: the generator expects the endian value, and only sends values that fit the column -/
theorem effectOf_numeric (d : Dest) (endian : String) (v : Bytes) (hp : d.pb = none) (hk : d.kind ≠ "bytes") :
    effectOf d endian v = .col d.goName (toString (endianVal (endian == "little") v)) := by
  unfold effectOf
  simp [hp, hk, decodeEndian_eq]

end Generator

/-! the hypotheses are satisfiable -/

namespace Examples

def msg0 : FlowMsg := { FlowMsg.empty with unk := [0x08, 0x01], inIf := 7 }

def fVar : MapField := ⟨"flowid", false, 1000, .varint, false⟩
def fVarLE : MapField := ⟨"flowid", true, 1000, .varint, false⟩
def fStr : MapField := ⟨"vendor_str", false, 1001, .string, false⟩
def fInIf : MapField := ⟨"InIf", false, 0, .none, false⟩
def fBytes : MapField := ⟨"Bytes", true, 0, .none, false⟩
def fHop : MapField := ⟨"NextHop", false, 0, .none, false⟩
def fNone : MapField := ⟨"no_such_field", false, 0, .none, false⟩

example : Sane fVar [1, 2, 3] ∧ Sane fVarLE [1, 2, 3] ∧ Sane fStr [1, 2, 3, 4, 5, 6, 7, 8, 9] ∧ Sane fInIf [1, 2, 3, 4, 5] ∧
    Sane fBytes [1, 2, 3, 4, 5, 6, 7, 8] ∧ Sane fHop [10, 0, 0, 1] ∧ Sane fNone [1] := by decide +kernel

example : mapCustom msg0 [1, 2, 3] fVar = .ok { msg0 with unk := [0x08, 0x01] ++ appendTag 1000 0 ++ appendVarint 0x010203 } := by decide +kernel
example : mapCustom msg0 [1, 2, 3] fVarLE = .ok { msg0 with unk := [0x08, 0x01] ++ appendTag 1000 0 ++ appendVarint 0x030201 } := by decide +kernel
example : mapCustom msg0 [1, 2, 3, 4, 5, 6, 7, 8, 9] fStr =
    .ok { msg0 with unk := [0x08, 0x01] ++ appendTag 1001 2 ++ [9] ++ [1, 2, 3, 4, 5, 6, 7, 8, 9] } := by decide +kernel
/-- five bytes into a 32-bit column: the low 32 bits -/
example : mapCustom msg0 [1, 2, 3, 4, 5] fInIf = .ok { msg0 with inIf := 0x02030405 } := by decide +kernel
example : mapCustom msg0 [1, 2, 3, 4, 5, 6, 7, 8] fBytes = .ok { msg0 with bytes := 0x0807060504030201 } := by decide +kernel
example : mapCustom msg0 [10, 0, 0, 1] fHop = .ok { msg0 with nextHop := [10, 0, 0, 1] } := by decide +kernel
example : mapCustom msg0 [1] fNone = .ok msg0 := by decide +kernel
/-- outside the hypotheses -/
example : ¬ Sane fVar [1, 2, 3, 4, 5, 6, 7, 8, 9] ∧ mapCustom msg0 [1, 2, 3, 4, 5, 6, 7, 8, 9] fVar = .error .bad := by decide +kernel

/-- the IPv4 TTL byte, the protocol byte, and 12 bits from the TTL byte on: the bytes `40 01` (the trailing 4 bits
    right-aligned in a byte of their own), read little-endian -/
def layerCfg : Config :=
  { layers := [⟨"ipv4", false, 64, 8, fVar⟩, ⟨"ipv4", true, 0, 4, fVar⟩, ⟨"udp", false, 0, 16, fStr⟩,
               ⟨"ip", false, 64, 12, fVarLE⟩, ⟨"ipv4", false, 72, 8, fInIf⟩],
    present := true }

/-- an IPv4 header (TTL 0x40, protocol 0x11) behind 2 bytes of something else -/
def frame : Bytes := [0xee, 0xee, 0x45, 0, 0, 28, 0, 1, 0, 0, 0x40, 0x11, 0, 0, 10, 0, 0, 1, 10, 0, 0, 2]

example : ∀ k ∈ Parser.ipv4.keys, ∀ e ∈ lookupLayer layerCfg.layers k, e.encap = false → 0 ≤ e.offset ∧ 0 ≤ e.length := by decide +kernel

/-- file order within a key, keys in order -/
example : (Parser.ipv4.keys.flatMap (lookupLayer layerCfg.layers)).filter (fun e => e.encap == false) =
    [⟨"ipv4", false, 64, 8, fVar⟩, ⟨"ipv4", false, 72, 8, fInIf⟩, ⟨"ip", false, 64, 12, fVarLE⟩] := by decide +kernel

example : mapLayerKeys layerCfg frame 2 false Parser.ipv4.keys msg0 =
    .ok { msg0 with inIf := 0x11,
                    unk := [0x08, 0x01] ++ appendTag 1000 0 ++ appendVarint 0x40 ++ appendTag 1000 0 ++ appendVarint 0x0140 } := by decide +kernel

/-- id 400 twice: the last one wins -/
def elemCfg : Config :=
  { ipfix := [⟨false, 0, 400, fStr⟩, ⟨true, 9, 100, fVarLE⟩, ⟨false, 0, 401, fStr⟩, ⟨false, 0, 400, fVar⟩],
    v9 := [⟨false, 0, 400, fStr⟩], present := true }

def record : List DataField :=
  [⟨false, 401, 0, some [0x61, 0x62]⟩, ⟨false, 400, 0, some [1, 2]⟩, ⟨true, 100, 9, some [1, 2]⟩,
   ⟨true, 100, 10, some [5]⟩, ⟨false, 430, 0, some [7, 7]⟩, ⟨false, 402, 0, none⟩, ⟨false, 400, 0, some [3]⟩]

example : ∀ df ∈ record, ElemOK (mapperOf elemCfg 10) 10 df := by decide +kernel
example : ∀ df ∈ record, ElemOK (mapperOf elemCfg 9) 9 df := by decide +kernel

example : lookupNetflow elemCfg.ipfix false 0 400 = some fVar := by decide +kernel

example : convertNetFlowDataSet (some elemCfg) 10 1700000000 0 record =
    .ok { FlowMsg.empty with
            timeFlowStartNs := 1700000000000000000, timeFlowEndNs := 1700000000000000000, type_ := 4,
            unk := appendTag 1001 2 ++ [2, 0x61, 0x62] ++ (appendTag 1000 0 ++ appendVarint 0x0102) ++
                   (appendTag 1000 0 ++ appendVarint 0x0201) ++ (appendTag 1000 0 ++ appendVarint 3) } := by decide +kernel

/-- the same record as NetFlow v9: the other list applies (400 into the string field) -/
example : convertNetFlowDataSet (some elemCfg) 9 1700000000 0 record =
    .ok { FlowMsg.empty with
            timeFlowStartNs := 1700000000000000000, timeFlowEndNs := 1700000000000000000, type_ := 3,
            unk := appendTag 1001 2 ++ [2, 1, 2] ++ (appendTag 1001 2 ++ [1, 3]) } := by decide +kernel

/-- order of custom mapping and standard conversion on one field: element 10 (ingress interface)
    mapped into the column InIf little-endian is overwritten by the standard big-endian conversion;
    mapped into another column both effects stay -/
example : convertFields (some { ipfix := [⟨false, 0, 10, ⟨"InIf", true, 0, .none, false⟩⟩] }) 10 0 0 [⟨false, 10, 0, some [1, 2]⟩] FlowMsg.empty =
    .ok { FlowMsg.empty with inIf := 0x0102 } := by decide +kernel
example : convertFields (some { ipfix := [⟨false, 0, 10, ⟨"OutIf", true, 0, .none, false⟩⟩] }) 10 0 0 [⟨false, 10, 0, some [1, 2]⟩] FlowMsg.empty =
    .ok { FlowMsg.empty with inIf := 0x0102, outIf := 0x0201 } := by decide +kernel
/-- an enterprise element with the id of a standard one is not converted by the switch -/
example : convertFields (some {}) 10 0 0 [⟨true, 10, 9, some [1, 2]⟩] FlowMsg.empty = .ok FlowMsg.empty := by decide +kernel

end Examples

end Goflow.C14Map
