import Goflow.Spec.FieldTable
import Proofs.C08
/-!
  C08, the complete statement for NetFlow v9 / IPFIX: for every record the documentation speaks
  about (`RecordOK`), the producer's conversion — a fold over the fields in template order — equals the
  documented reference mapping `Spec.FieldTable.refRecord` — a column-by-column lookup by element id.

  Main results: `record_eq_ref` (ConvertNetFlowDataSet on one record), `convertFields_record_eq_ref`
  (the same for the field loop), `packet_eq_ref` (ProcessMessageNetFlowV9Config / …IPFIXConfig on a
  whole packet), `recordOK_of_check` (an executable checker for the domain).

  Proof: the reference depends on the record only through the lookup `val r` and is given column by column
  (`refCols`, `refRecord_eq`); writing to the reference message of a record `p` the columns that look at an
  element, with the values the reference of `p ++ [element]` has there, gives that reference (`write_ref`);
  every `case` of the switch does so provided `p` carries no competitor of the element (one lemma per kind
  of action, `apply_cases`); the theorem follows by induction on the record from the end
  (`convertFields_eq_ref`), the domain being closed under prefixes. Order independence is thus a
  consequence, not a separate lemma.
-/
namespace Goflow.C08
open Goflow Goflow.Producer Goflow.Spec.FieldTable

/-- the record as the decoder hands it to the producer -/
def toFields (r : Record) : List Netflow.DataField := r.map fun (id, v) => ⟨false, id, 0, some v⟩

/-- every element id that some `case` of the switch in ConvertNetFlowDataSet mentions (any version) -/
def interpreted : List Nat := caseTable.flatMap (·.2.1)

/-- documented elements that `groups` does not list, with their legal widths
    (addresses, ipVersion, separate ICMP type / code, MPLS label stack sections, the clocks of the version) -/
def extraElements (version : Nat) : List (Nat × List Nat) :=
  [(8, [4]), (12, [4]), (27, [16]), (28, [16]), (60, [1]),
   (176, [1, 2]), (178, [1, 2]), (177, [1, 2]), (179, [1, 2]),
   (70, [3, 4]), (71, [3, 4]), (72, [3, 4])] ++
  (if version = 9 then [(22, [4]), (21, [4])]
   else [(150, [4, 8]), (152, [8]), (154, [8]), (156, [8]), (158, [4, 8]),
         (151, [4, 8]), (153, [8]), (155, [8]), (157, [8]), (159, [4, 8]), (312, [1, 2, 4, 8])])

/-- all documented (element id, legal widths) of a version -/
def documented (version : Nat) : List (Nat × List Nat) := groups.flatMap (·.2) ++ extraElements version

/-- sets of element ids of which one record carries at most one -/
def exclusive : List (List Nat) :=
  groups.map (fun g => g.2.map (·.1)) ++            -- the alternatives for one output column (`groups`)
  [[8, 27], [12, 28],                               -- source / destination address: IPv4 or IPv6 …
   [8, 28], [12, 27],                               -- … and both of one family
   [60],
   [1, 23, 312], [2, 24, 312],                      -- 312 writes Bytes and Packets
   [32, 139, 176, 178], [32, 139, 177, 179],        -- ICMP type / code: combined or separate
   [70], [71], [72],
   [22], [21],                                      -- v9 clocks
   [150, 152, 154, 156, 158], [151, 153, 155, 157, 159]]  -- IPFIX flow start / flow end

def count (r : Record) (ids : List Nat) : Nat := (r.filter fun e => ids.contains e.1).length

/-- the records the documentation speaks about (`Record` holds the non-enterprise elements only; the
    decoder hands them over with `penProvided = false`, see `toFields`) -/
def RecordOK (version : Nat) (r : Record) : Prop :=
  -- every element is a documented one at a legal width, or one that no case of the conversion mentions
  (∀ e ∈ r, (∃ ws, (e.1, ws) ∈ documented version ∧ e.2.length ∈ ws) ∨ e.1 ∉ interpreted) ∧
  -- at most one element per output column (and no element twice)
  (∀ g ∈ exclusive, count r g ≤ 1) ∧
  -- ipVersion (element 60) does not contradict the family of the addresses
  (∀ x rest, val r 60 = some (x :: rest) →
    (x = 6 → val r 8 = none ∧ val r 12 = none) ∧ (x = 4 → val r 27 = none ∧ val r 28 = none))

theorem val_snoc (p : Record) (i : Nat) (v : Bytes) (j : Nat) :
    val (p ++ [(i, v)]) j = (val p j).or (if j = i then some v else none) := by
  simp only [val, List.lookup_append, List.lookup_cons, List.lookup_nil]
  by_cases h : j = i
  · subst h; simp
  · have : (j == i) = false := by simp [h]
    simp [this, h]

theorem val_append_of_some (p s : Record) (j : Nat) (b : Bytes) (h : val p j = some b) :
    val (p ++ s) j = some b := by
  simp only [val, List.lookup_append] at *
  simp [h]

theorem val_none_of_append (p s : Record) (j : Nat) (h : val (p ++ s) j = none) : val p j = none := by
  simp only [val, List.lookup_append] at *
  cases hp : List.lookup j p with
  | none => rfl
  | some b => simp [hp] at h

theorem count_append (p s : Record) (g : List Nat) : count (p ++ s) g = count p g + count s g := by
  simp [count]

theorem val_none_of_count (p : Record) (g : List Nat) (h : count p g = 0) (j : Nat) (hj : j ∈ g) :
    val p j = none := by
  simp only [val, List.lookup_eq_none_iff]
  intro e he
  simp only [count, List.length_eq_zero_iff, List.filter_eq_nil_iff] at h
  have := h e he
  simp only [bne_iff_ne, ne_eq]
  intro hje
  apply this
  simp only [List.contains_iff_mem]
  rw [← hje]; exact hj

/-- the columns of the flow message that the conversion writes -/
inductive Col where
  | type_ | timeFlowStartNs | timeFlowEndNs | bytes | packets | srcAddr | dstAddr | etype | proto | srcPort | dstPort
  | inIf | outIf | srcMac | dstMac | srcVlan | dstVlan | vlanId | ipTos | forwardingStatus | ipTtl | ipFlags | tcpFlags
  | icmpType | icmpCode | ipv6FlowLabel | fragmentId | fragmentOffset | srcAs | dstAs | nextHop | srcNet | dstNet
  | bgpNextHop | mplsLabel | mplsIp | observationPointId
  deriving DecidableEq

def Col.all : List Col :=
  [.type_, .timeFlowStartNs, .timeFlowEndNs, .bytes, .packets, .srcAddr, .dstAddr, .etype, .proto, .srcPort, .dstPort,
   .inIf, .outIf, .srcMac, .dstMac, .srcVlan, .dstVlan, .vlanId, .ipTos, .forwardingStatus, .ipTtl, .ipFlags, .tcpFlags,
   .icmpType, .icmpCode, .ipv6FlowLabel, .fragmentId, .fragmentOffset, .srcAs, .dstAs, .nextHop, .srcNet, .dstNet,
   .bgpNextHop, .mplsLabel, .mplsIp, .observationPointId]

theorem Col.mem_all (c : Col) : c ∈ Col.all := by
  cases c <;> decide

inductive Val where
  | n (x : Nat) | b (x : Bytes) | ns (x : List Nat) | bs (x : List Bytes)

def Val.nat : Val → Nat | .n x => x | _ => 0
def Val.bytes : Val → Bytes | .b x => x | _ => []
def Val.nats : Val → List Nat | .ns x => x | _ => []
def Val.bytess : Val → List Bytes | .bs x => x | _ => []

/-- the message with the columns `g`, everything else as in a fresh message -/
def toMsg (g : Col → Val) : FlowMsg :=
  { type_ := (g .type_).nat, timeFlowStartNs := (g .timeFlowStartNs).nat, timeFlowEndNs := (g .timeFlowEndNs).nat,
    bytes := (g .bytes).nat, packets := (g .packets).nat, srcAddr := (g .srcAddr).bytes, dstAddr := (g .dstAddr).bytes,
    etype := (g .etype).nat, proto := (g .proto).nat, srcPort := (g .srcPort).nat, dstPort := (g .dstPort).nat,
    inIf := (g .inIf).nat, outIf := (g .outIf).nat, srcMac := (g .srcMac).nat, dstMac := (g .dstMac).nat,
    srcVlan := (g .srcVlan).nat, dstVlan := (g .dstVlan).nat, vlanId := (g .vlanId).nat, ipTos := (g .ipTos).nat,
    forwardingStatus := (g .forwardingStatus).nat, ipTtl := (g .ipTtl).nat, ipFlags := (g .ipFlags).nat,
    tcpFlags := (g .tcpFlags).nat, icmpType := (g .icmpType).nat, icmpCode := (g .icmpCode).nat,
    ipv6FlowLabel := (g .ipv6FlowLabel).nat, fragmentId := (g .fragmentId).nat,
    fragmentOffset := (g .fragmentOffset).nat, srcAs := (g .srcAs).nat, dstAs := (g .dstAs).nat,
    nextHop := (g .nextHop).bytes, srcNet := (g .srcNet).nat, dstNet := (g .dstNet).nat,
    bgpNextHop := (g .bgpNextHop).bytes, mplsLabel := (g .mplsLabel).nats, mplsIp := (g .mplsIp).bytess,
    observationPointId := (g .observationPointId).nat }

def setCol (m : FlowMsg) (c : Col) (x : Val) : FlowMsg :=
  match c with
  | .type_ => { m with type_ := x.nat }
  | .timeFlowStartNs => { m with timeFlowStartNs := x.nat }
  | .timeFlowEndNs => { m with timeFlowEndNs := x.nat }
  | .bytes => { m with bytes := x.nat }
  | .packets => { m with packets := x.nat }
  | .srcAddr => { m with srcAddr := x.bytes }
  | .dstAddr => { m with dstAddr := x.bytes }
  | .etype => { m with etype := x.nat }
  | .proto => { m with proto := x.nat }
  | .srcPort => { m with srcPort := x.nat }
  | .dstPort => { m with dstPort := x.nat }
  | .inIf => { m with inIf := x.nat }
  | .outIf => { m with outIf := x.nat }
  | .srcMac => { m with srcMac := x.nat }
  | .dstMac => { m with dstMac := x.nat }
  | .srcVlan => { m with srcVlan := x.nat }
  | .dstVlan => { m with dstVlan := x.nat }
  | .vlanId => { m with vlanId := x.nat }
  | .ipTos => { m with ipTos := x.nat }
  | .forwardingStatus => { m with forwardingStatus := x.nat }
  | .ipTtl => { m with ipTtl := x.nat }
  | .ipFlags => { m with ipFlags := x.nat }
  | .tcpFlags => { m with tcpFlags := x.nat }
  | .icmpType => { m with icmpType := x.nat }
  | .icmpCode => { m with icmpCode := x.nat }
  | .ipv6FlowLabel => { m with ipv6FlowLabel := x.nat }
  | .fragmentId => { m with fragmentId := x.nat }
  | .fragmentOffset => { m with fragmentOffset := x.nat }
  | .srcAs => { m with srcAs := x.nat }
  | .dstAs => { m with dstAs := x.nat }
  | .nextHop => { m with nextHop := x.bytes }
  | .srcNet => { m with srcNet := x.nat }
  | .dstNet => { m with dstNet := x.nat }
  | .bgpNextHop => { m with bgpNextHop := x.bytes }
  | .mplsLabel => { m with mplsLabel := x.nats }
  | .mplsIp => { m with mplsIp := x.bytess }
  | .observationPointId => { m with observationPointId := x.nat }

def update (g : Col → Val) (c : Col) (x : Val) : Col → Val := fun c' => if c' = c then x else g c'

theorem setCol_toMsg (g : Col → Val) (c : Col) (x : Val) : setCol (toMsg g) c x = toMsg (update g c x) := by
  cases c <;> rfl

theorem foldl_setCol (R : Col → Val) (ws : List (Col × Val)) (hv : ∀ w ∈ ws, R w.1 = w.2) (g : Col → Val)
    (hg : ∀ c, c ∉ ws.map (·.1) → g c = R c) :
    ws.foldl (fun m w => setCol m w.1 w.2) (toMsg g) = toMsg R := by
  induction ws generalizing g with
  | nil => rw [List.foldl_nil, funext fun c => hg c (List.not_mem_nil)]
  | cons w ws ih =>
    rw [List.foldl_cons, setCol_toMsg]
    apply ih (fun w' hw' => hv w' (List.mem_cons_of_mem _ hw'))
    intro c hc
    by_cases hcw : c = w.1
    · rw [update, if_pos hcw, hcw, hv w (List.mem_cons_self ..)]
    · rw [update, if_neg hcw]
      apply hg
      rw [List.map_cons, List.mem_cons]
      exact fun h => h.elim hcw hc

def first (f : Nat → Option Bytes) : List Nat → Option Bytes
  | [] => none
  | [id] => f id
  | id :: ids => (f id).or (first f ids)

theorem first_cons (f : Nat → Option Bytes) (id : Nat) (ids : List Nat) :
    first f (id :: ids) = (f id).or (first f ids) := by
  cases ids with
  | nil => exact (Option.or_none).symm
  | cons _ _ => rfl

theorem firstOf_eq (r : Record) (ids : List Nat) : firstOf r ids = first (val r) ids := by
  induction ids with
  | nil => rfl
  | cons id ids ih =>
    rw [firstOf, first_cons, ih]
    cases val r id <;> rfl

theorem first_congr {f g : Nat → Option Bytes} {ids : List Nat} (H : ∀ j ∈ ids, f j = g j) :
    first f ids = first g ids := by
  induction ids with
  | nil => rfl
  | cons id ids ih =>
    rw [first_cons, first_cons, H id (List.mem_cons_self ..), ih fun j hj => H j (List.mem_cons_of_mem _ hj)]

theorem first_none {f : Nat → Option Bytes} {ids : List Nat} (H : ∀ j ∈ ids, f j = none) : first f ids = none := by
  induction ids with
  | nil => rfl
  | cons id ids ih =>
    rw [first_cons, H id (List.mem_cons_self ..), ih fun j hj => H j (List.mem_cons_of_mem _ hj)]
    rfl

/-- columns that hold what the first present of some elements carries: a number on so many bits, or
    (`none`) the bytes as they are -/
def plainCol : Col → Option (Option Nat × List Nat)
  | .bytes => some (some 64, [1, 23, 312])
  | .srcAddr => some (none, [8, 27]) | .dstAddr => some (none, [12, 28])
  | .proto => some (some 32, [4]) | .srcPort => some (some 32, [7]) | .dstPort => some (some 32, [11])
  | .inIf => some (some 32, [10]) | .outIf => some (some 32, [14])
  | .srcMac => some (some 64, [56, 81]) | .dstMac => some (some 64, [80, 57])
  | .srcVlan => some (some 32, [58]) | .vlanId => some (some 32, [58]) | .dstVlan => some (some 32, [59])
  | .ipTos => some (some 32, [5]) | .forwardingStatus => some (some 32, [89]) | .ipTtl => some (some 32, [52])
  | .tcpFlags => some (some 32, [6]) | .ipv6FlowLabel => some (some 32, [31]) | .fragmentId => some (some 32, [54])
  | .fragmentOffset => some (some 32, [88]) | .srcAs => some (some 32, [16]) | .dstAs => some (some 32, [17])
  | .nextHop => some (none, [15, 62]) | .bgpNextHop => some (none, [18, 63])
  | .srcNet => some (some 32, [9, 29]) | .dstNet => some (some 32, [13, 30])
  | .observationPointId => some (some 32, [138])
  | _ => none

/-- the first present of the absolute clocks `es` (element id, nanoseconds per unit), in nanoseconds -/
def absClock (f : Nat → Option Bytes) : List (Nat × Nat) → Option Nat
  | [] => none
  | e :: es =>
    match f e.1 with
    | some b => some ((beNat b % 2 ^ 64 * e.2) % M64)
    | none => absClock f es

theorem absClock_find (f : Nat → Option Bytes) (es : List (Nat × Nat)) (d : Nat) :
    (match es.find? (fun e => (f e.1).isSome) with
     | some (id, mult) => (num 64 (f id) * mult) % M64
     | none => d) = (absClock f es).getD d := by
  induction es with
  | nil => rfl
  | cons e es ih =>
    rw [List.find?_cons, absClock]
    cases hf : f e.1 with
    | none => exact ih
    | some b => simp only [Option.isSome_some, hf, num, Option.getD_some]

theorem absClock_congr {f g : Nat → Option Bytes} {es : List (Nat × Nat)} (H : ∀ j ∈ es.map (·.1), f j = g j) :
    absClock f es = absClock g es := by
  induction es with
  | nil => rfl
  | cons e es ih =>
    rw [absClock, absClock, H e.1 (List.mem_cons_self ..), ih fun j hj => H j (List.mem_cons_of_mem _ hj)]

/-- a clock relative to the export time, in milliseconds -/
def deltaClock (base : Nat) : Option Bytes → Nat
  | some b => (base + M64 * 1000 - (beNat b % M64) * 1000) % M64
  | none => base

/-- flow start / end: the clock rules of `timeOf` on the lookup, for the uptime-relative element `i9` (v9) and
    the absolute clocks `es` or else the export-relative element `idelta` (IPFIX) -/
def clock (h : Hdr) (f : Nat → Option Bytes) (i9 : Nat) (es : List (Nat × Nat)) (idelta : Nat) : Nat :=
  if h.version = 9 then
    match f i9 with
    | some b => (h.time * 1000000000 + M64 * 1000001 - h.uptime * 1000000 + (beNat b % 2 ^ 32) * 1000000) % M64
    | none => h.time * 1000000000
  else
    (absClock f es).getD (deltaClock (h.time * 1000000000) (f idelta))

theorem clock_congr (h : Hdr) {f g : Nat → Option Bytes} {i9 idelta : Nat} {es : List (Nat × Nat)}
    (H : ∀ j ∈ i9 :: idelta :: es.map (·.1), f j = g j) : clock h f i9 es idelta = clock h g i9 es idelta := by
  unfold clock
  rw [H i9 (List.mem_cons_self ..), H idelta (List.mem_cons_of_mem _ (List.mem_cons_self ..)),
    absClock_congr fun j hj => H j (List.mem_cons_of_mem _ (List.mem_cons_of_mem _ hj))]

def startClocks : List (Nat × Nat) := [(150, 1000000000), (152, 1000000), (154, 1000), (156, 1)]
def endClocks : List (Nat × Nat) := [(151, 1000000000), (153, 1000000), (155, 1000), (157, 1)]

theorem timeOf_eq (h : Hdr) (r : Record) (start : Bool) :
    timeOf h r start = clock h (val r) (if start then 22 else 21) (if start then startClocks else endClocks)
      (if start then 158 else 159) := by
  unfold timeOf clock
  split
  · rfl
  · exact absClock_find (val r) _ _

/-- the label stack: the sections up to the last one present -/
def labelsOf (l0 l1 l2 : Option Bytes) : List Nat :=
  let n := if l2.isSome then 3 else if l1.isSome then 2 else if l0.isSome then 1 else 0
  ([l0, l1, l2].take n).map fun v => num 32 v / 16

/-- the columns that `plainCol` does not describe -/
def otherCol (h : Hdr) (f : Nat → Option Bytes) : Col → Val
  | .type_ => .n (if h.version = 9 then 3 else 4)
  | .timeFlowStartNs => .n (clock h f 22 startClocks 158)
  | .timeFlowEndNs => .n (clock h f 21 endClocks 159)
  | .packets => .n (if (f 312).isSome then 1 else num 64 (first f [2, 24]))
  | .etype =>
    let v4 := (f 8).isSome || (f 12).isSome
    let v6 := (f 27).isSome || (f 28).isSome
    let ipver := match f 60 with | some (x :: _) => x.toNat | _ => 0
    .n (if v6 then 0x86dd else if v4 then 0x800 else if ipver = 4 then 0x800 else if ipver = 6 then 0x86dd else 0)
  | .icmpType => .n (match first f [32, 139] with | some b => (beNat b % 65536) / 256 | none => num 32 (first f [176, 178]))
  | .icmpCode => .n (match first f [32, 139] with | some b => (beNat b % 65536) % 256 | none => num 32 (first f [177, 179]))
  | .ipFlags => .n (num 32 (f 197) / 32)
  | .mplsLabel => .ns (labelsOf (f 70) (f 71) (f 72))
  | .mplsIp => .bs (match first f [47, 140] with | some v => [v] | none => [])
  | _ => .n 0

def otherReads : Col → List Nat
  | .timeFlowStartNs => 22 :: 158 :: startClocks.map (·.1)
  | .timeFlowEndNs => 21 :: 159 :: endClocks.map (·.1)
  | .packets => [312, 2, 24]
  | .etype => [8, 12, 27, 28, 60]
  | .icmpType => [32, 139, 176, 178]
  | .icmpCode => [32, 139, 177, 179]
  | .ipFlags => [197]
  | .mplsLabel => [70, 71, 72]
  | .mplsIp => [47, 140]
  | _ => []

/-- the reference, column by column -/
def refCols (h : Hdr) (f : Nat → Option Bytes) (c : Col) : Val :=
  match plainCol c with
  | some (some bits, ids) => .n (num bits (first f ids))
  | some (none, ids) => .b ((first f ids).getD [])
  | none => otherCol h f c

/-- the elements a column of the reference looks at -/
def reads (c : Col) : List Nat :=
  match plainCol c with
  | some (_, ids) => ids
  | none => otherReads c

theorem refCols_congr (h : Hdr) {f g : Nat → Option Bytes} (c : Col) (H : ∀ j ∈ reads c, f j = g j) :
    refCols h f c = refCols h g c := by
  unfold refCols
  unfold reads at H
  cases hp : plainCol c with
  | some p =>
    obtain ⟨o, ids⟩ := p
    rw [hp] at H
    simp only at H ⊢
    cases o <;> simp only [first_congr H]
  | none =>
    rw [hp] at H
    simp only at H ⊢
    cases c
    case timeFlowStartNs => exact congrArg Val.n (clock_congr h H)
    case timeFlowEndNs => exact congrArg Val.n (clock_congr h H)
    all_goals
      have hF : ∀ ids : List Nat, (∀ j ∈ ids, j ∈ otherReads _) → first f ids = first g ids :=
        fun ids hs => first_congr fun j hj => H j (hs j hj)
      simp (disch := decide) only [otherCol, H, hF]

/-- `refRecord` as a function of the lookup `val r` alone -/
def refOf (h : Hdr) (f : Nat → Option Bytes) : FlowMsg := toMsg (refCols h f)

theorem refRecord_eq (h : Hdr) (r : Record) : refRecord h r = refOf h (val r) := by
  unfold refRecord
  simp only [firstOf_eq, timeOf_eq]
  rfl

/-- the body of the field loop for a non-enterprise field with a value, without a custom mapping -/
def convertOne (ver base up : Nat) (m : FlowMsg) (e : Nat × Bytes) : Res FlowMsg :=
  match lookupAction ver e.1 with
  | none => .ok m
  | some a => applyAction none base up m e.2 a

/-- the lookup of the record extended by one element at the end -/
def upd (f : Nat → Option Bytes) (i : Nat) (v : Bytes) : Nat → Option Bytes :=
  fun j => (f j).or (if j = i then some v else none)

theorem upd_ne (f : Nat → Option Bytes) (i : Nat) (v : Bytes) (j : Nat) (h : j ≠ i) : upd f i v j = f j := by
  simp [upd, h]

theorem upd_self (f : Nat → Option Bytes) (i : Nat) (v : Bytes) : upd f i v i = (f i).or (some v) := by
  simp [upd]

theorem val_snoc_eq_upd (p : Record) (i : Nat) (v : Bytes) : val (p ++ [(i, v)]) = upd (val p) i v :=
  funext fun j => val_snoc p i v j

theorem first_upd {f : Nat → Option Bytes} {i : Nat} (v : Bytes) {ids : List Nat} (hi : i ∈ ids)
    (habs : ∀ j ∈ ids, f j = none) : first (upd f i v) ids = some v := by
  induction ids with
  | nil => cases hi
  | cons id ids ih =>
    rw [first_cons]
    by_cases hid : id = i
    · rw [hid, upd_self, habs i hi]
      rfl
    · rw [upd_ne _ _ _ _ hid, habs id (List.mem_cons_self ..)]
      exact ih ((List.mem_cons.mp hi).resolve_left (Ne.symm hid)) fun j hj => habs j (List.mem_cons_of_mem _ hj)

/-- the columns of the reference that look at element `i` -/
def readers (i : Nat) : List Col := Col.all.filter fun c => (reads c).contains i

theorem write_ref (h : Hdr) (f : Nat → Option Bytes) (i : Nat) (v : Bytes) (ws : List (Col × Val))
    (hreads : ∀ c ∈ readers i, c ∈ ws.map (·.1)) (hvals : ∀ w ∈ ws, refCols h (upd f i v) w.1 = w.2) :
    ws.foldl (fun m w => setCol m w.1 w.2) (refOf h f) = refOf h (upd f i v) := by
  apply foldl_setCol _ ws hvals
  intro c hc
  apply refCols_congr
  intro j hj
  rw [upd_ne]
  intro hji
  apply hc (hreads c _)
  rw [readers, List.mem_filter, List.contains_iff_mem, ← hji]
  exact ⟨c.mem_all, hj⟩

/-- the element ids that may not accompany element `i` (including `i` itself) -/
def conflictsOf (i : Nat) : List Nat := (exclusive.filter (·.contains i)).flatten

/-- what the conversion needs of a width: numbers on at most 8 bytes, addresses not empty -/
def widthOK (id w : Nat) : Bool :=
  if [8, 12, 27, 28].contains id then 0 < w
  else if [60, 15, 18, 62, 63, 47, 140, 315].contains id then true
  else w ≤ 8

/-- elements whose value the conversion reads as a number -/
def numeric (id : Nat) : Bool :=
  !([8, 12, 27, 28].contains id) && !([60, 15, 18, 62, 63, 47, 140, 315].contains id)

theorem widthOK_numeric {id w : Nat} (hn : numeric id = true) (hw : widthOK id w = true) : w ≤ 8 := by
  simp only [numeric, Bool.and_eq_true, Bool.not_eq_true'] at hn
  unfold widthOK at hw
  rw [hn.1, hn.2] at hw
  simpa using hw

/-! the string-keyed setters at the columns the switch uses, each by evaluation (`+kernel`, `with_unfolding_all`:
    plain `rfl` compares the column names much more slowly) -/
theorem setNum_ObservationPointId (m : FlowMsg) (x : Nat) : m.setNum "ObservationPointId" x = { m with observationPointId := x } := by with_unfolding_all rfl
theorem colBits_ObservationPointId : colBits "ObservationPointId" = 32 := by decide +kernel
theorem setNum_Bytes (m : FlowMsg) (x : Nat) : m.setNum "Bytes" x = { m with bytes := x } := by with_unfolding_all rfl
theorem colBits_Bytes : colBits "Bytes" = 64 := by decide +kernel
theorem setNum_Packets (m : FlowMsg) (x : Nat) : m.setNum "Packets" x = { m with packets := x } := by with_unfolding_all rfl
theorem colBits_Packets : colBits "Packets" = 64 := by decide +kernel
theorem setNum_SrcPort (m : FlowMsg) (x : Nat) : m.setNum "SrcPort" x = { m with srcPort := x } := by with_unfolding_all rfl
theorem colBits_SrcPort : colBits "SrcPort" = 32 := by decide +kernel
theorem setNum_DstPort (m : FlowMsg) (x : Nat) : m.setNum "DstPort" x = { m with dstPort := x } := by with_unfolding_all rfl
theorem colBits_DstPort : colBits "DstPort" = 32 := by decide +kernel
theorem setNum_Proto (m : FlowMsg) (x : Nat) : m.setNum "Proto" x = { m with proto := x } := by with_unfolding_all rfl
theorem colBits_Proto : colBits "Proto" = 32 := by decide +kernel
theorem setNum_SrcAs (m : FlowMsg) (x : Nat) : m.setNum "SrcAs" x = { m with srcAs := x } := by with_unfolding_all rfl
theorem colBits_SrcAs : colBits "SrcAs" = 32 := by decide +kernel
theorem setNum_DstAs (m : FlowMsg) (x : Nat) : m.setNum "DstAs" x = { m with dstAs := x } := by with_unfolding_all rfl
theorem colBits_DstAs : colBits "DstAs" = 32 := by decide +kernel
theorem setNum_InIf (m : FlowMsg) (x : Nat) : m.setNum "InIf" x = { m with inIf := x } := by with_unfolding_all rfl
theorem colBits_InIf : colBits "InIf" = 32 := by decide +kernel
theorem setNum_OutIf (m : FlowMsg) (x : Nat) : m.setNum "OutIf" x = { m with outIf := x } := by with_unfolding_all rfl
theorem colBits_OutIf : colBits "OutIf" = 32 := by decide +kernel
theorem setNum_ForwardingStatus (m : FlowMsg) (x : Nat) : m.setNum "ForwardingStatus" x = { m with forwardingStatus := x } := by with_unfolding_all rfl
theorem colBits_ForwardingStatus : colBits "ForwardingStatus" = 32 := by decide +kernel
theorem setNum_IpTos (m : FlowMsg) (x : Nat) : m.setNum "IpTos" x = { m with ipTos := x } := by with_unfolding_all rfl
theorem colBits_IpTos : colBits "IpTos" = 32 := by decide +kernel
theorem setNum_TcpFlags (m : FlowMsg) (x : Nat) : m.setNum "TcpFlags" x = { m with tcpFlags := x } := by with_unfolding_all rfl
theorem colBits_TcpFlags : colBits "TcpFlags" = 32 := by decide +kernel
theorem setNum_IpTtl (m : FlowMsg) (x : Nat) : m.setNum "IpTtl" x = { m with ipTtl := x } := by with_unfolding_all rfl
theorem colBits_IpTtl : colBits "IpTtl" = 32 := by decide +kernel
theorem setNum_SrcNet (m : FlowMsg) (x : Nat) : m.setNum "SrcNet" x = { m with srcNet := x } := by with_unfolding_all rfl
theorem colBits_SrcNet : colBits "SrcNet" = 32 := by decide +kernel
theorem setNum_DstNet (m : FlowMsg) (x : Nat) : m.setNum "DstNet" x = { m with dstNet := x } := by with_unfolding_all rfl
theorem colBits_DstNet : colBits "DstNet" = 32 := by decide +kernel
theorem setNum_IcmpType (m : FlowMsg) (x : Nat) : m.setNum "IcmpType" x = { m with icmpType := x } := by with_unfolding_all rfl
theorem colBits_IcmpType : colBits "IcmpType" = 32 := by decide +kernel
theorem setNum_IcmpCode (m : FlowMsg) (x : Nat) : m.setNum "IcmpCode" x = { m with icmpCode := x } := by with_unfolding_all rfl
theorem colBits_IcmpCode : colBits "IcmpCode" = 32 := by decide +kernel
theorem setNum_SrcMac (m : FlowMsg) (x : Nat) : m.setNum "SrcMac" x = { m with srcMac := x } := by with_unfolding_all rfl
theorem colBits_SrcMac : colBits "SrcMac" = 64 := by decide +kernel
theorem setNum_DstMac (m : FlowMsg) (x : Nat) : m.setNum "DstMac" x = { m with dstMac := x } := by with_unfolding_all rfl
theorem colBits_DstMac : colBits "DstMac" = 64 := by decide +kernel
theorem setNum_VlanId (m : FlowMsg) (x : Nat) : m.setNum "VlanId" x = { m with vlanId := x } := by with_unfolding_all rfl
theorem colBits_VlanId : colBits "VlanId" = 32 := by decide +kernel
theorem setNum_SrcVlan (m : FlowMsg) (x : Nat) : m.setNum "SrcVlan" x = { m with srcVlan := x } := by with_unfolding_all rfl
theorem colBits_SrcVlan : colBits "SrcVlan" = 32 := by decide +kernel
theorem setNum_DstVlan (m : FlowMsg) (x : Nat) : m.setNum "DstVlan" x = { m with dstVlan := x } := by with_unfolding_all rfl
theorem colBits_DstVlan : colBits "DstVlan" = 32 := by decide +kernel
theorem setNum_FragmentId (m : FlowMsg) (x : Nat) : m.setNum "FragmentId" x = { m with fragmentId := x } := by with_unfolding_all rfl
theorem colBits_FragmentId : colBits "FragmentId" = 32 := by decide +kernel
theorem setNum_Ipv6FlowLabel (m : FlowMsg) (x : Nat) : m.setNum "Ipv6FlowLabel" x = { m with ipv6FlowLabel := x } := by with_unfolding_all rfl
theorem colBits_Ipv6FlowLabel : colBits "Ipv6FlowLabel" = 32 := by decide +kernel
theorem setBytes_SrcAddr (m : FlowMsg) (x : Bytes) : m.setBytes "SrcAddr" x = { m with srcAddr := x } := rfl
theorem getBytes_SrcAddr (m : FlowMsg) : m.getBytes "SrcAddr" = some m.srcAddr := rfl
theorem setBytes_DstAddr (m : FlowMsg) (x : Bytes) : m.setBytes "DstAddr" x = { m with dstAddr := x } := rfl
theorem getBytes_DstAddr (m : FlowMsg) : m.getBytes "DstAddr" = some m.dstAddr := rfl
theorem setBytes_NextHop (m : FlowMsg) (x : Bytes) : m.setBytes "NextHop" x = { m with nextHop := x } := rfl
theorem getBytes_NextHop (m : FlowMsg) : m.getBytes "NextHop" = some m.nextHop := rfl
theorem setBytes_BgpNextHop (m : FlowMsg) (x : Bytes) : m.setBytes "BgpNextHop" x = { m with bgpNextHop := x } := rfl
theorem getBytes_BgpNextHop (m : FlowMsg) : m.getBytes "BgpNextHop" = some m.bgpNextHop := rfl

/-- hypothesis of the case of element 60: its value may only name the family of the addresses present -/
def H60 (i : Nat) (v : Bytes) (f : Nat → Option Bytes) : Prop :=
  i = 60 → ∀ x rest, v = x :: rest → (x = 6 → f 8 = none ∧ f 12 = none) ∧ (x = 4 → f 27 = none ∧ f 28 = none)

/-- the case of element `id` (action `a`, version scope `scope`), applied to the reference message of a
    record that carries none of the elements excluded by `id`, yields the reference message of the
    record extended by `id` -/
def CaseOK (h : Hdr) (scope id : Nat) (a : Action) : Prop :=
  (scope = 0 ∨ scope = h.version) → ∀ (f : Nat → Option Bytes) (v : Bytes),
    (∀ j, j ∈ conflictsOf id → f j = none) → widthOK id v.length = true → H60 id v f →
    applyAction none (h.time * 1000000000) h.uptime (refOf h f) v a = .ok (refOf h (upd f id v))

theorem write_ref1 (h : Hdr) (f : Nat → Option Bytes) (i : Nat) (v : Bytes) (c : Col) (x : Val)
    (hreads : ∀ c' ∈ readers i, c' ∈ [c]) (hval : refCols h (upd f i v) c = x) :
    setCol (refOf h f) c x = refOf h (upd f i v) := by
  have := write_ref h f i v [(c, x)] hreads (List.forall_mem_singleton.mpr hval)
  rwa [List.foldl_cons, List.foldl_nil] at this

theorem write_ref2 (h : Hdr) (f : Nat → Option Bytes) (i : Nat) (v : Bytes) (c₁ c₂ : Col) (x₁ x₂ : Val)
    (hreads : ∀ c' ∈ readers i, c' ∈ [c₁, c₂]) (h₁ : refCols h (upd f i v) c₁ = x₁)
    (h₂ : refCols h (upd f i v) c₂ = x₂) :
    setCol (setCol (refOf h f) c₁ x₁) c₂ x₂ = refOf h (upd f i v) := by
  have := write_ref h f i v [(c₁, x₁), (c₂, x₂)] hreads (List.forall_mem_cons.mpr ⟨h₁, List.forall_mem_singleton.mpr h₂⟩)
  rwa [List.foldl_cons, List.foldl_cons, List.foldl_nil] at this

/-- `i` is one of `ids`, and every one of `ids` conflicts with `i`: in a record that `i` may extend, `i` is the only one
    of `ids` present -/
def Excl (i : Nat) (ids : List Nat) : Prop := i ∈ ids ∧ ∀ j ∈ ids, j ∈ conflictsOf i

instance (i : Nat) (ids : List Nat) : Decidable (Excl i ids) := instDecidableAnd

/-- element `i` is read as a number, and only the columns `cs` of the reference look at it -/
def NumFor (i : Nat) (cs : List Col) : Prop := numeric i = true ∧ ∀ c ∈ readers i, c ∈ cs

instance (i : Nat) (cs : List Col) : Decidable (NumFor i cs) := instDecidableAnd

/-- `ids` are elements other than `i` that conflict with `i` (those that would override what `i` writes) -/
def Over (i : Nat) (ids : List Nat) : Prop := i ∉ ids ∧ ∀ j ∈ ids, j ∈ conflictsOf i

instance (i : Nat) (ids : List Nat) : Decidable (Over i ids) := instDecidableAnd

section
variable {f : Nat → Option Bytes} {i : Nat} (v : Bytes) (habs : ∀ j, j ∈ conflictsOf i → f j = none)
include habs

theorem first_upd_excl {ids : List Nat} (he : Excl i ids) : first (upd f i v) ids = some v :=
  first_upd v he.1 fun j hj => habs j (he.2 j hj)

theorem upd_over {ids : List Nat} (ho : Over i ids) (j : Nat) (hj : j ∈ ids) : upd f i v j = none := by
  rw [upd_ne f i v j fun hji => ho.1 (hji ▸ hj), habs j (ho.2 j hj)]

theorem plainCol_num (h : Hdr) {c : Col} {bits : Nat} {ids : List Nat} (hc : plainCol c = some (some bits, ids))
    (he : Excl i ids) : refCols h (upd f i v) c = .n (beNat v % 2 ^ bits) := by
  simp only [refCols, hc, first_upd_excl v habs he]
  rfl

theorem plainCol_bytes (h : Hdr) {c : Col} {ids : List Nat} (hc : plainCol c = some (none, ids))
    (he : Excl i ids) : refCols h (upd f i v) c = .b v := by
  simp only [refCols, hc, first_upd_excl v habs he]
  rfl

end

/-- DecodeUNumber into the column `c` called `name`, which holds the first present of the elements `ids`
    unless one of the elements `over` is there -/
theorem unum_ok (h : Hdr) {scope i : Nat} {name : String} (c : Col) {bits : Nat} (ids over : List Nat)
    (hset : ∀ m x, m.setNum name x = setCol m c (.n x)) (hbits : colBits name = bits)
    (hc : ∀ f, (∀ j ∈ over, f j = none) → refCols h f c = .n (num bits (first f ids)))
    (hi : NumFor i [c] ∧ Excl i ids ∧ Over i over) : CaseOK h scope i (.unum name) := by
  intro _ f v habs hw _
  simp only [applyAction, writeDecoded_trunc _ v (widthOK_numeric hi.1.1 hw), hset, hbits]
  refine congrArg Except.ok (write_ref1 h f i v c _ hi.1.2 ?_)
  rw [hc _ (upd_over v habs hi.2.2), first_upd_excl v habs hi.2.1]
  rfl

theorem unum_plain (h : Hdr) {scope i : Nat} {name : String} (c : Col) {bits : Nat} {ids : List Nat}
    (hset : ∀ m x, m.setNum name x = setCol m c (.n x)) (hbits : colBits name = bits)
    (hc : plainCol c = some (some bits, ids)) (hi : NumFor i [c] ∧ Excl i ids) : CaseOK h scope i (.unum name) :=
  unum_ok h c ids [] hset hbits (fun f _ => by simp only [refCols, hc])
    ⟨hi.1, hi.2, List.not_mem_nil, fun _ hj => nomatch hj⟩

theorem unum2_ok (h : Hdr) : CaseOK h 0 58 (.unum2 "VlanId" "SrcVlan") := by
  intro _ f v habs hw _
  have h₁ : ∀ m x, FlowMsg.setNum m "VlanId" x = setCol m .vlanId (.n x) := setNum_VlanId
  have h₂ : ∀ m x, FlowMsg.setNum m "SrcVlan" x = setCol m .srcVlan (.n x) := setNum_SrcVlan
  simp only [applyAction, writeDecoded_trunc _ v (widthOK_numeric (by decide) hw), h₁, h₂, colBits_VlanId,
    colBits_SrcVlan]
  exact congrArg Except.ok (write_ref2 h f 58 v .vlanId .srcVlan _ _ (by decide +kernel)
    (plainCol_num v habs h rfl (by decide +kernel)) (plainCol_num v habs h rfl (by decide +kernel)))

theorem fragOffset_ok (h : Hdr) : CaseOK h 0 88 .fragOffset := by
  intro _ f v habs hw _
  simp only [applyAction, writeDecoded_trunc _ v (widthOK_numeric (by decide) hw)]
  exact congrArg Except.ok (write_ref1 h f 88 v .fragmentOffset (.n _) (by decide +kernel)
    (plainCol_num v habs h rfl (by decide +kernel)))

theorem ipFlags_ok (h : Hdr) : CaseOK h 0 197 .ipFlags := by
  intro _ f v habs hw _
  simp only [applyAction, writeDecoded_trunc _ v (widthOK_numeric (by decide) hw)]
  refine congrArg Except.ok (write_ref1 h f 197 v .ipFlags (.n _) (by decide +kernel) ?_)
  have h197 : upd f 197 v 197 = some v := first_upd_excl v habs (ids := [197]) (by decide +kernel)
  simp only [refCols, plainCol, otherCol, h197]
  rfl

theorem icmpTypeCode_ok (h : Hdr) {i : Nat} (hi : NumFor i [.icmpType, .icmpCode] ∧ Excl i [32, 139]) :
    CaseOK h 0 i .icmpTypeCode := by
  intro _ f v habs hw _
  have hm : ∀ (m : FlowMsg) x y, { m with icmpType := x, icmpCode := y } =
      setCol (setCol m .icmpType (.n x)) .icmpCode (.n y) := fun _ _ _ => rfl
  simp only [applyAction, writeDecoded_trunc _ v (widthOK_numeric hi.1.1 hw), hm]
  refine congrArg Except.ok (write_ref2 h f i v .icmpType .icmpCode _ _ hi.1.2 ?_ ?_)
  all_goals simp only [refCols, plainCol, otherCol, first_upd_excl v habs hi.2]

theorem frameSize_ok (h : Hdr) : CaseOK h 10 312 .frameSize := by
  intro _ f v habs hw _
  have hm : ∀ (m : FlowMsg) x y, { m with bytes := x, packets := y } =
      setCol (setCol m .bytes (.n x)) .packets (.n y) := fun _ _ _ => rfl
  simp only [applyAction, writeDecoded_trunc _ v (widthOK_numeric (by decide) hw), hm]
  refine congrArg Except.ok (write_ref2 h f 312 v .bytes .packets _ _ (by decide +kernel)
    (plainCol_num v habs h rfl (by decide +kernel)) ?_)
  have h312 : upd f 312 v 312 = some v := first_upd_excl v habs (ids := [312]) (by decide +kernel)
  simp only [refCols, plainCol, otherCol, h312]
  rfl

theorem bytes_ok (h : Hdr) {i : Nat} {name : String} (c : Col) {ids : List Nat}
    (hset : ∀ m x, m.setBytes name x = setCol m c (.b x)) (hc : plainCol c = some (none, ids))
    (hi : (∀ c' ∈ readers i, c' ∈ [c]) ∧ Excl i ids) : CaseOK h 0 i (.bytes name) := by
  intro _ f v habs _ _
  simp only [applyAction, hset]
  exact congrArg Except.ok (write_ref1 h f i v c _ hi.1 (plainCol_bytes v habs h hc hi.2))

/-- addresses: the column is empty (no competitor is present), so addrReplaceCheck sets the address and the ethernet
    type of its family -/
theorem addr_ok (h : Hdr) {i : Nat} {name : String} {v6 : Bool} (c : Col) {ids : List Nat}
    (hget : ∀ g, (toMsg g).getBytes name = some (g c).bytes) (hset : ∀ m x, m.setBytes name x = setCol m c (.b x))
    (hc : plainCol c = some (none, ids))
    (hi : [8, 12, 27, 28].contains i = true ∧ (∀ c' ∈ readers i, c' ∈ [c, .etype]) ∧ Excl i ids)
    (het : ∀ f v, (∀ j, j ∈ conflictsOf i → f j = none) →
      refCols h (upd f i v) .etype = .n (if v6 then 0x86dd else 0x800)) :
    CaseOK h 0 i (.addr name v6) := by
  intro _ f v habs hw _
  have hpos : 0 < v.length := by
    unfold widthOK at hw
    rw [hi.1] at hw
    simpa using hw
  have hcur : (refCols h f c).bytes = [] := by
    simp only [refCols, hc, first_none fun j hj => habs j (hi.2.2.2 j hj)]
    rfl
  simp only [applyAction, addrReplaceCheck, refOf, hget, Option.getD_some, hcur, List.length_nil, hpos,
    and_self, true_or, if_true, hset]
  exact congrArg Except.ok (write_ref2 h f i v c .etype (.b v) (.n _) hi.2.1 (plainCol_bytes v habs h hc hi.2.2)
    (het f v habs))

theorem mplsIp_ok (h : Hdr) {i : Nat} (hi : (∀ c' ∈ readers i, c' ∈ [.mplsIp]) ∧ Excl i [47, 140]) :
    CaseOK h 0 i .mplsIp := by
  intro _ f v habs _ _
  have hcur : (refOf h f).mplsIp = [] := by
    simp only [refOf, toMsg, refCols, plainCol, otherCol, first_none fun j hj => habs j (hi.2.2 j hj)]
    rfl
  simp only [applyAction, hcur, List.nil_append]
  refine congrArg Except.ok (write_ref1 h f i v .mplsIp (.bs _) hi.1 ?_)
  simp only [refCols, plainCol, otherCol, first_upd_excl v habs hi.2]

theorem absClock_upd {f : Nat → Option Bytes} {i : Nat} (v : Bytes) {es : List (Nat × Nat)} {mult : Nat}
    (hl : es.lookup i = some mult) (habs : ∀ e ∈ es, f e.1 = none) :
    absClock (upd f i v) es = some ((beNat v % 2 ^ 64 * mult) % M64) := by
  induction es with
  | nil => cases hl
  | cons e es ih =>
    rw [absClock]
    rw [List.lookup_cons] at hl
    by_cases he : i = e.1
    · rw [he, beq_self_eq_true] at hl
      rw [← he, upd_self, he, habs e (List.mem_cons_self ..), Option.some.inj hl]
      rfl
    · rw [beq_false_of_ne he] at hl
      rw [upd_ne _ _ _ _ (Ne.symm he), habs e (List.mem_cons_self ..)]
      exact ih hl fun e' he' => habs e' (List.mem_cons_of_mem _ he')

theorem absClock_none {f : Nat → Option Bytes} {es : List (Nat × Nat)} (habs : ∀ e ∈ es, f e.1 = none) :
    absClock f es = none := by
  induction es with
  | nil => rfl
  | cons e es ih => rw [absClock, habs e (List.mem_cons_self ..)]; exact ih fun e' he' => habs e' (List.mem_cons_of_mem _ he')

/-- IPFIX absolute clocks: element `i` counts units of `mult` nanoseconds -/
theorem ipfixTime_ok (h : Hdr) {i mult : Nat} {s : Bool} (c : Col) {i9 idelta : Nat} {es : List (Nat × Nat)}
    (hm : ∀ (m : FlowMsg) x,
      (if s then { m with timeFlowStartNs := x } else { m with timeFlowEndNs := x }) = setCol m c (.n x))
    (hc : ∀ f, refCols h f c = .n (clock h f i9 es idelta))
    (hi : NumFor i [c] ∧ es.lookup i = some mult ∧ ∀ e ∈ es, e.1 ∈ conflictsOf i) :
    CaseOK h 10 i (.ipfixTime s mult) := by
  intro hs f v habs hw _
  have hver : h.version ≠ 9 := by omega
  simp only [applyAction, writeDecoded_trunc _ v (widthOK_numeric hi.1.1 hw), hm]
  refine congrArg Except.ok (write_ref1 h f i v c _ hi.1.2 ?_)
  rw [hc, clock, if_neg hver, absClock_upd v hi.2.1 fun e he => habs _ (hi.2.2 e he)]
  rfl

theorem delta_arith (b x : Nat) :
    (b + M64 * 1000 - x % M64 * 1000) % M64 = (b + U64 - x % 2 ^ 64 * 1000 % U64) % U64 := by
  simp only [M64, U64, Nat.reducePow]
  omega

/-- IPFIX clocks relative to the export time, in milliseconds -/
theorem ipfixDelta_ok (h : Hdr) {i : Nat} {s : Bool} (c : Col) {i9 : Nat} {es : List (Nat × Nat)}
    (hm : ∀ (m : FlowMsg) x,
      (if s then { m with timeFlowStartNs := x } else { m with timeFlowEndNs := x }) = setCol m c (.n x))
    (hc : ∀ f, refCols h f c = .n (clock h f i9 es i))
    (hi : NumFor i [c] ∧ Excl i [i] ∧ Over i (es.map (·.1))) : CaseOK h 10 i (.ipfixDelta s) := by
  intro hs f v habs hw _
  have hver : h.version ≠ 9 := by omega
  have hes : absClock (upd f i v) es = none :=
    absClock_none fun e he => upd_over v habs hi.2.2 e.1 (List.mem_map_of_mem he)
  have hiv : upd f i v i = some v := first_upd_excl v habs hi.2.1
  simp only [applyAction, writeDecoded_trunc _ v (widthOK_numeric hi.1.1 hw), hm]
  refine congrArg Except.ok (write_ref1 h f i v c _ hi.1.2 ?_)
  rw [hc, clock, if_neg hver, hes, hiv, Option.getD_none, deltaClock]
  exact congrArg Val.n (delta_arith (h.time * 1000000000) (beNat v))

theorem uptime_arith (b up x : Nat) (hup : up < 2 ^ 32) :
    (b + M64 * 1000001 - up * 1000000 + x % 2 ^ 32 * 1000000) % M64 =
      (b + U64 - (up * 1000000 + U64 - x % 2 ^ 32 * 1000000 % U64) % U64) % U64 := by
  simp only [M64, U64, Nat.reducePow] at hup ⊢
  omega

/-- NetFlow v9 clocks relative to the uptime, in milliseconds -/
theorem v9_ok (h : Hdr) (hup : h.version = 9 → h.uptime < 2 ^ 32) {i : Nat} {a : Action} {c : Col} {idelta : Nat}
    {es : List (Nat × Nat)}
    (ha : a = .v9First ∧ c = .timeFlowStartNs ∨ a = .v9Last ∧ c = .timeFlowEndNs)
    (hc : ∀ f, refCols h f c = .n (clock h f i es idelta)) (hi : NumFor i [c] ∧ Excl i [i]) :
    CaseOK h 9 i a := by
  intro hs f v habs hw _
  have hver : h.version = 9 := by omega
  have hu := hup hver
  have hiv : upd f i v i = some v := first_upd_excl v habs hi.2
  have hs : ∀ (m : FlowMsg) x, { m with timeFlowStartNs := x } = setCol m .timeFlowStartNs (.n x) := fun _ _ => rfl
  have he : ∀ (m : FlowMsg) x, { m with timeFlowEndNs := x } = setCol m .timeFlowEndNs (.n x) := fun _ _ => rfl
  rcases ha with ⟨rfl, rfl⟩ | ⟨rfl, rfl⟩
  all_goals
    simp only [applyAction, writeDecoded_trunc _ v (widthOK_numeric hi.1.1 hw), hs, he]
    refine congrArg Except.ok (write_ref1 h f i v _ _ hi.1.2 ?_)
    rw [hc, clock, if_pos hver, hiv]
    exact congrArg Val.n (uptime_arith (h.time * 1000000000) h.uptime (beNat v) hu)

/-- the assignment to section `idx` of the label stack `cur`, lengthened with zeros where it is too short -/
def writeLabel (cur : List Nat) (idx x : Nat) : List Nat :=
  setAt (if cur.length < idx + 1 then cur ++ List.replicate (idx + 1 - cur.length) 0 else cur) idx x

/-- a section that was absent arrives: the stack of the reference is the old one with that section written -/
theorem labelsOf_set0 (v : Bytes) (l1 l2 : Option Bytes) :
    labelsOf (some v) l1 l2 = writeLabel (labelsOf none l1 l2) 0 (beNat v % 2 ^ 32 / 16) := by
  cases l1 <;> cases l2 <;> rfl

theorem labelsOf_set1 (v : Bytes) (l0 l2 : Option Bytes) :
    labelsOf l0 (some v) l2 = writeLabel (labelsOf l0 none l2) 1 (beNat v % 2 ^ 32 / 16) := by
  cases l0 <;> cases l2 <;> rfl

theorem labelsOf_set2 (v : Bytes) (l0 l1 : Option Bytes) :
    labelsOf l0 l1 (some v) = writeLabel (labelsOf l0 l1 none) 2 (beNat v % 2 ^ 32 / 16) := by
  cases l0 <;> cases l1 <;> rfl

/-- MPLS label stack section `idx`, carried by element 70 + `idx` -/
theorem mplsLabel_ok (h : Hdr) {i idx : Nat}
    (hi : NumFor i [.mplsLabel] ∧ Excl i [i] ∧ (i, idx) ∈ [(70, 0), (71, 1), (72, 2)]) :
    CaseOK h 0 i (.mplsLabel idx) := by
  intro _ f v habs hw _
  have hfi : f i = none := habs i (hi.2.1.2 i hi.2.1.1)
  have hcol : ∀ g, refCols h g .mplsLabel = .ns (labelsOf (g 70) (g 71) (g 72)) := fun _ => rfl
  have hcur : (refOf h f).mplsLabel = labelsOf (f 70) (f 71) (f 72) := rfl
  simp only [applyAction, writeDecoded_trunc _ v (widthOK_numeric hi.1.1 hw), hcur]
  refine congrArg Except.ok (write_ref1 h f i v .mplsLabel (.ns _) hi.1.2 ?_)
  simp only [List.mem_cons, Prod.mk.injEq, List.not_mem_nil, or_false] at hi
  rcases hi.2.2 with ⟨rfl, rfl⟩ | ⟨rfl, rfl⟩ | ⟨rfl, rfl⟩
  all_goals
    simp (disch := decide) only [hcol, upd_self, upd_ne, hfi, Option.none_or, labelsOf_set0, labelsOf_set1,
      labelsOf_set2]
    rfl

/-- ipVersion sets the ethernet type unless an address has done so -/
theorem ipVersion_ok (h : Hdr) : CaseOK h 0 60 .ipVersion := by
  intro _ f v habs _ h60
  have hf60 : f 60 = none := habs 60 (by decide)
  have hm : ∀ (m : FlowMsg) x, { m with etype := x } = setCol m .etype (.n x) := fun _ _ => rfl
  have hE : ∀ g, refCols h g .etype = otherCol h g .etype := fun _ => rfl
  -- where the ethernet type of the reference stays as it is, so does the message
  have hkeep : otherCol h (upd f 60 v) .etype = otherCol h f .etype →
      refOf h f = setCol (refOf h f) .etype (otherCol h (upd f 60 v) .etype) := fun e => by rw [e]; rfl
  rw [← write_ref1 h f 60 v .etype _ (by decide +kernel) rfl, hE]
  cases v with
  | nil =>
    refine congrArg Except.ok (hkeep ?_)
    simp (disch := decide) only [otherCol, upd_ne, upd_self, hf60, Option.none_or]
  | cons x rest =>
    obtain ⟨h6, h4⟩ := h60 rfl x rest rfl
    simp only [applyAction, hm]
    by_cases hx4 : x = 4
    · obtain ⟨h27, h28⟩ := h4 hx4
      subst hx4
      simp (disch := decide) [otherCol, upd_ne, upd_self, hf60, h27, h28]
    · by_cases hx6 : x = 6
      · obtain ⟨h8, h12⟩ := h6 hx6
        subst hx6
        simp (disch := decide) [otherCol, upd_ne, upd_self, hf60, h8, h12]
      · have n4 : x.toNat ≠ 4 := fun hh => hx4 (UInt8.toNat_inj.mp hh)
        have n6 : x.toNat ≠ 6 := fun hh => hx6 (UInt8.toNat_inj.mp hh)
        rw [if_neg hx4, if_neg hx6]
        refine congrArg Except.ok (hkeep ?_)
        simp (disch := decide) [otherCol, upd_ne, upd_self, hf60, n4, n6]

/-- all cases of the switch except element 315 (a packet section, which needs the packet mapper). Each case is an instance
    of the lemma for its kind of action; the side conditions left to `decide +kernel` are finite facts about the tables:
    the columns that read the element (`readers i`) are among those the case writes, and the elements sharing such a
    column conflict with it in `exclusive` (`NumFor`, `Excl`, `Over`). -/
theorem apply_cases (h : Hdr) (hup : h.version = 9 → h.uptime < 2 ^ 32) :
    ∀ e ∈ caseTable, ∀ id ∈ e.2.1, id ≠ 315 → CaseOK h e.1 id e.2.2 := by
  simp only [caseTable, List.forall_mem_cons, List.not_mem_nil, false_imp_iff, implies_true, and_true]
  -- the packet count, which a frame size (312) overrides; the separate ICMP type and code, which the combined
  -- elements 32, 139 override
  have packets (i : Nat) := unum_ok h (scope := 0) (i := i) .packets [2, 24] [312] setNum_Packets colBits_Packets
    fun f hf => by simp only [refCols, plainCol, otherCol, hf 312 (List.mem_singleton_self _)]; rfl
  have icmpType (i : Nat) := unum_ok h (scope := 0) (i := i) .icmpType [176, 178] [32, 139] setNum_IcmpType
    colBits_IcmpType fun f hf => by simp only [refCols, plainCol, otherCol, first_none hf]
  have icmpCode (i : Nat) := unum_ok h (scope := 0) (i := i) .icmpCode [177, 179] [32, 139] setNum_IcmpCode
    colBits_IcmpCode fun f hf => by simp only [refCols, plainCol, otherCol, first_none hf]
  and_intros
  · exact fun _ => unum_plain h .observationPointId setNum_ObservationPointId colBits_ObservationPointId rfl (by decide +kernel)
  · exact fun _ => unum_plain h .bytes setNum_Bytes colBits_Bytes rfl (by decide +kernel)
  · exact fun _ => packets _ (by decide +kernel)
  · exact fun _ => unum_plain h .bytes setNum_Bytes colBits_Bytes rfl (by decide +kernel)
  · exact fun _ => packets _ (by decide +kernel)
  · exact fun _ => unum_plain h .srcPort setNum_SrcPort colBits_SrcPort rfl (by decide +kernel)
  · exact fun _ => unum_plain h .dstPort setNum_DstPort colBits_DstPort rfl (by decide +kernel)
  · exact fun _ => unum_plain h .proto setNum_Proto colBits_Proto rfl (by decide +kernel)
  · exact fun _ => unum_plain h .srcAs setNum_SrcAs colBits_SrcAs rfl (by decide +kernel)
  · exact fun _ => unum_plain h .dstAs setNum_DstAs colBits_DstAs rfl (by decide +kernel)
  · exact fun _ => unum_plain h .inIf setNum_InIf colBits_InIf rfl (by decide +kernel)
  · exact fun _ => unum_plain h .outIf setNum_OutIf colBits_OutIf rfl (by decide +kernel)
  · exact fun _ => unum_plain h .forwardingStatus setNum_ForwardingStatus colBits_ForwardingStatus rfl (by decide +kernel)
  · exact fun _ => unum_plain h .ipTos setNum_IpTos colBits_IpTos rfl (by decide +kernel)
  · exact fun _ => unum_plain h .tcpFlags setNum_TcpFlags colBits_TcpFlags rfl (by decide +kernel)
  · exact fun _ => unum_plain h .ipTtl setNum_IpTtl colBits_IpTtl rfl (by decide +kernel)
  · exact fun _ => ipVersion_ok h
  · exact fun _ => addr_ok h .srcAddr (fun g => getBytes_SrcAddr (toMsg g)) setBytes_SrcAddr rfl (by decide +kernel) fun f v habs => by
      simp (disch := decide) [refCols, plainCol, otherCol, upd_ne, upd_self, habs 27 (by decide), habs 28 (by decide), habs 8 (by decide)]
  · exact fun _ => addr_ok h .dstAddr (fun g => getBytes_DstAddr (toMsg g)) setBytes_DstAddr rfl (by decide +kernel) fun f v habs => by
      simp (disch := decide) [refCols, plainCol, otherCol, upd_ne, upd_self, habs 27 (by decide), habs 28 (by decide), habs 12 (by decide)]
  · exact fun _ => unum_plain h .srcNet setNum_SrcNet colBits_SrcNet rfl (by decide +kernel)
  · exact fun _ => unum_plain h .dstNet setNum_DstNet colBits_DstNet rfl (by decide +kernel)
  · exact fun _ => addr_ok h .srcAddr (fun g => getBytes_SrcAddr (toMsg g)) setBytes_SrcAddr rfl (by decide +kernel) fun f v habs => by
      simp (disch := decide) [refCols, plainCol, otherCol, upd_ne, upd_self, habs 27 (by decide)]
  · exact fun _ => addr_ok h .dstAddr (fun g => getBytes_DstAddr (toMsg g)) setBytes_DstAddr rfl (by decide +kernel) fun f v habs => by
      simp (disch := decide) [refCols, plainCol, otherCol, upd_ne, upd_self, habs 28 (by decide)]
  · exact fun _ => unum_plain h .srcNet setNum_SrcNet colBits_SrcNet rfl (by decide +kernel)
  · exact fun _ => unum_plain h .dstNet setNum_DstNet colBits_DstNet rfl (by decide +kernel)
  · exact fun _ => bytes_ok h .nextHop setBytes_NextHop rfl (by decide +kernel)
  · exact fun _ => bytes_ok h .bgpNextHop setBytes_BgpNextHop rfl (by decide +kernel)
  · exact fun _ => bytes_ok h .nextHop setBytes_NextHop rfl (by decide +kernel)
  · exact fun _ => bytes_ok h .bgpNextHop setBytes_BgpNextHop rfl (by decide +kernel)
  · exact fun _ => icmpTypeCode_ok h (by decide +kernel)
  · exact fun _ => icmpTypeCode_ok h (by decide +kernel)
  · exact fun _ => icmpType _ (by decide +kernel)
  · exact fun _ => icmpType _ (by decide +kernel)
  · exact fun _ => icmpCode _ (by decide +kernel)
  · exact fun _ => icmpCode _ (by decide +kernel)
  · exact fun _ => unum_plain h .srcMac setNum_SrcMac colBits_SrcMac rfl (by decide +kernel)
  · exact fun _ => unum_plain h .dstMac setNum_DstMac colBits_DstMac rfl (by decide +kernel)
  · exact fun _ => unum_plain h .srcMac setNum_SrcMac colBits_SrcMac rfl (by decide +kernel)
  · exact fun _ => unum_plain h .dstMac setNum_DstMac colBits_DstMac rfl (by decide +kernel)
  · exact fun _ => unum2_ok h
  · exact fun _ => unum_plain h .dstVlan setNum_DstVlan colBits_DstVlan rfl (by decide +kernel)
  · exact fun _ => unum_plain h .fragmentId setNum_FragmentId colBits_FragmentId rfl (by decide +kernel)
  · exact fun _ => fragOffset_ok h
  · exact fun _ => ipFlags_ok h
  · exact fun _ => unum_plain h .ipv6FlowLabel setNum_Ipv6FlowLabel colBits_Ipv6FlowLabel rfl (by decide +kernel)
  · exact fun _ => mplsLabel_ok h (by decide +kernel)
  · exact fun _ => mplsLabel_ok h (by decide +kernel)
  · exact fun _ => mplsLabel_ok h (by decide +kernel)
  · exact fun _ => mplsIp_ok h (by decide +kernel)
  · exact fun _ => mplsIp_ok h (by decide +kernel)
  · exact fun _ => v9_ok h hup (.inl ⟨rfl, rfl⟩) (fun _ => rfl) (by decide +kernel)
  · exact fun _ => v9_ok h hup (.inr ⟨rfl, rfl⟩) (fun _ => rfl) (by decide +kernel)
  · exact fun _ => ipfixTime_ok h .timeFlowStartNs (fun _ _ => rfl) (fun _ => rfl) (by decide +kernel)
  · exact fun _ => ipfixTime_ok h .timeFlowStartNs (fun _ _ => rfl) (fun _ => rfl) (by decide +kernel)
  · exact fun _ => ipfixTime_ok h .timeFlowStartNs (fun _ _ => rfl) (fun _ => rfl) (by decide +kernel)
  · exact fun _ => ipfixTime_ok h .timeFlowStartNs (fun _ _ => rfl) (fun _ => rfl) (by decide +kernel)
  · exact fun _ => ipfixTime_ok h .timeFlowEndNs (fun _ _ => rfl) (fun _ => rfl) (by decide +kernel)
  · exact fun _ => ipfixTime_ok h .timeFlowEndNs (fun _ _ => rfl) (fun _ => rfl) (by decide +kernel)
  · exact fun _ => ipfixTime_ok h .timeFlowEndNs (fun _ _ => rfl) (fun _ => rfl) (by decide +kernel)
  · exact fun _ => ipfixTime_ok h .timeFlowEndNs (fun _ _ => rfl) (fun _ => rfl) (by decide +kernel)
  · exact fun _ => ipfixDelta_ok h .timeFlowStartNs (fun _ _ => rfl) (fun _ => rfl) (by decide +kernel)
  · exact fun _ => ipfixDelta_ok h .timeFlowEndNs (fun _ _ => rfl) (fun _ => rfl) (by decide +kernel)
  · exact fun _ => frameSize_ok h
  · exact fun hne => absurd rfl hne

theorem lookupAction_some {ver id : Nat} {a : Action} (h : lookupAction ver id = some a) :
    ∃ e ∈ caseTable, (e.1 = 0 ∨ e.1 = ver) ∧ id ∈ e.2.1 ∧ e.2.2 = a := by
  unfold lookupAction at h
  split at h
  · rename_i e he
    have hm := List.mem_of_find?_eq_some he
    have hp := List.find?_some he
    simp only [Bool.and_eq_true, beq_iff_eq, List.contains_iff_mem] at hp
    cases h
    exact ⟨e, hm, Or.inl hp.1, hp.2, rfl⟩
  · split at h
    · rename_i e he
      have hm := List.mem_of_find?_eq_some he
      have hp := List.find?_some he
      simp only [Bool.and_eq_true, beq_iff_eq, List.contains_iff_mem] at hp
      cases h
      exact ⟨e, hm, Or.inr hp.1, hp.2, rfl⟩
    · cases h

theorem lookupAction_none {ver id : Nat} (h : id ∉ interpreted) : lookupAction ver id = none := by
  have key : ∀ s : Nat, caseTable.find? (fun e => e.1 == s && e.2.1.contains id) = none := by
    intro s
    rw [List.find?_eq_none]
    intro e he hqe
    apply h
    simp only [Bool.and_eq_true, beq_iff_eq, List.contains_iff_mem] at hqe
    simp only [interpreted, List.mem_flatMap]
    exact ⟨e, he, hqe.2⟩
  unfold lookupAction
  rw [key 0, key ver]

theorem documented_facts : ∀ ver ∈ [9, 10], ∀ e ∈ documented ver,
    (lookupAction ver e.1).isSome = true ∧ e.1 ≠ 315 ∧ ∀ w ∈ e.2, widthOK e.1 w = true := by
  decide +kernel

theorem reads_interpreted : ∀ c ∈ Col.all, ∀ j ∈ reads c, j ∈ interpreted := by decide +kernel

/-- one step of the conversion: a field `(i, v)` that is documented with this width (or not interpreted at all) and that
    nothing in the record `f` conflicts with takes the reference message of `f` to that of `f` extended by it -/
theorem step_ok (h : Hdr) (hv : h.version = 9 ∨ h.version = 10) (hup : h.version = 9 → h.uptime < 2 ^ 32)
    (f : Nat → Option Bytes) (i : Nat) (v : Bytes)
    (hdoc : (∃ ws, (i, ws) ∈ documented h.version ∧ v.length ∈ ws) ∨ i ∉ interpreted)
    (habs : ∀ j, j ∈ conflictsOf i → f j = none) (h60 : H60 i v f) :
    convertOne h.version (h.time * 1000000000) h.uptime (refOf h f) (i, v) = .ok (refOf h (upd f i v)) := by
  rcases hdoc with ⟨ws, hmem, hw⟩ | hni
  · have hver : h.version ∈ [9, 10] := by rcases hv with hv | hv <;> simp [hv]
    obtain ⟨hsome, h315, hwok⟩ := documented_facts h.version hver (i, ws) hmem
    simp only [convertOne]
    cases hl : lookupAction h.version i with
    | none => simp [hl] at hsome
    | some a =>
      obtain ⟨e, he, hscope, hid, rfl⟩ := lookupAction_some hl
      exact apply_cases h hup e he i hid h315 hscope f v habs (hwok _ hw) h60
  · simp only [convertOne, lookupAction_none hni]
    refine congrArg (fun g => Except.ok (toMsg g)) (funext fun c => refCols_congr h c fun j hj => ?_)
    rw [upd_ne]
    intro hji
    exact hni (hji ▸ reads_interpreted c c.mem_all j hj)

theorem convertFields_cons (ver b u : Nat) (e : Nat × Bytes) (r : Record) (m : FlowMsg) :
    convertFields none ver b u (toFields (e :: r)) m =
      match convertOne ver b u m e with
      | .error x => .error x
      | .ok m' => convertFields none ver b u (toFields r) m' := by
  obtain ⟨i, v⟩ := e
  simp only [toFields, List.map_cons, convertFields, lookupNetflow, List.filter_nil, List.getLast?_nil,
    convertOne]
  cases lookupAction ver i with
  | none => simp
  | some a =>
    simp only
    generalize applyAction none b u m v a = res
    cases res <;> rfl

theorem convertFields_snoc (ver b u : Nat) (p : Record) (e : Nat × Bytes) (m : FlowMsg) :
    convertFields none ver b u (toFields (p ++ [e])) m =
      match convertFields none ver b u (toFields p) m with
      | .error x => .error x
      | .ok m' => convertOne ver b u m' e := by
  induction p generalizing m with
  | nil =>
    rw [List.nil_append, convertFields_cons]
    simp only [toFields, List.map_nil, convertFields]
    cases convertOne ver b u m e <;> rfl
  | cons a p ih =>
    rw [List.cons_append, convertFields_cons, convertFields_cons]
    cases convertOne ver b u m a with
    | error x => rfl
    | ok m' => exact ih m'

theorem RecordOK.prefix {ver : Nat} {p s : Record} (h : RecordOK ver (p ++ s)) : RecordOK ver p := by
  obtain ⟨h1, h2, h3⟩ := h
  refine ⟨fun e he => h1 e (List.mem_append_left _ he), fun g hg => ?_, fun x rest hx => ?_⟩
  · have := h2 g hg
    rw [count_append] at this
    omega
  · obtain ⟨h6, h4⟩ := h3 x rest (val_append_of_some p s 60 _ hx)
    exact ⟨fun e6 => ⟨val_none_of_append _ _ _ (h6 e6).1, val_none_of_append _ _ _ (h6 e6).2⟩,
      fun e4 => ⟨val_none_of_append _ _ _ (h4 e4).1, val_none_of_append _ _ _ (h4 e4).2⟩⟩

theorem mem_conflictsOf {i j : Nat} (h : j ∈ conflictsOf i) : ∃ g ∈ exclusive, i ∈ g ∧ j ∈ g := by
  simp only [conflictsOf, List.mem_flatten, List.mem_filter, List.contains_iff_mem] at h
  obtain ⟨g, ⟨hg, hi⟩, hj⟩ := h
  exact ⟨g, hg, hi, hj⟩

/-- the last element of a record of the domain excludes its competitors from the rest -/
theorem RecordOK.absent {ver : Nat} {p : Record} {i : Nat} {v : Bytes} (h : RecordOK ver (p ++ [(i, v)]))
    (j : Nat) (hj : j ∈ conflictsOf i) : val p j = none := by
  obtain ⟨g, hg, hig, hjg⟩ := mem_conflictsOf hj
  have := h.2.1 g hg
  rw [count_append] at this
  have h1 : count [(i, v)] g = 1 := by
    simp [count, List.filter, hig]
  exact val_none_of_count p g (by omega) j hjg

theorem RecordOK.h60 {ver : Nat} {p : Record} {i : Nat} {v : Bytes} (h : RecordOK ver (p ++ [(i, v)])) :
    H60 i v (val p) := by
  intro hi x rest hv
  subst hi
  have h60 : val p 60 = none := h.absent 60 (by decide)
  have hval : val (p ++ [(60, v)]) 60 = some (x :: rest) := by
    rw [val_snoc, h60, hv]; simp
  obtain ⟨h6, h4⟩ := h.2.2 x rest hval
  exact ⟨fun e6 => ⟨val_none_of_append _ _ _ (h6 e6).1, val_none_of_append _ _ _ (h6 e6).2⟩,
    fun e4 => ⟨val_none_of_append _ _ _ (h4 e4).1, val_none_of_append _ _ _ (h4 e4).2⟩⟩

theorem refRecord_nil (h : Hdr) (hv : h.version = 9 ∨ h.version = 10) :
    refRecord h [] =
      { FlowMsg.empty with
        timeFlowStartNs := h.time * 1000000000, timeFlowEndNs := h.time * 1000000000,
        type_ := if h.version = 9 then 3 else if h.version = 10 then 4 else 0 } := by
  cases h
  rcases hv with hv | hv <;> cases hv <;> rfl

theorem convertFields_eq_ref (h : Hdr) (hv : h.version = 9 ∨ h.version = 10) (hup : h.version = 9 → h.uptime < 2 ^ 32) :
    ∀ (n : Nat) (r : Record), r.length = n → RecordOK h.version r →
    convertFields none h.version (h.time * 1000000000) h.uptime (toFields r) (refRecord h []) = .ok (refRecord h r) := by
  intro n
  induction n with
  | zero =>
    intro r hl _
    have : r = [] := List.eq_nil_of_length_eq_zero hl
    subst this
    rfl
  | succ n ih =>
    intro r hl hr
    have hne : r ≠ [] := by intro h0; simp [h0] at hl
    obtain ⟨p, e, rfl⟩ : ∃ p e, r = p ++ [e] := ⟨r.dropLast, r.getLast hne, (List.dropLast_concat_getLast hne).symm⟩
    obtain ⟨i, v⟩ := e
    have hlp : p.length = n := by simpa using hl
    rw [convertFields_snoc, ih p hlp hr.prefix]
    simp only
    rw [refRecord_eq, refRecord_eq, val_snoc_eq_upd]
    exact step_ok h hv hup (val p) i v (hr.1 (i, v) (by simp)) hr.absent hr.h60

/-- **C08 for NetFlow v9 / IPFIX.** For every record of the documented domain, in whatever template
    order, ConvertNetFlowDataSet on a fresh message yields exactly the documented reference mapping. -/
theorem record_eq_ref (h : Hdr) (r : Record) (hr : RecordOK h.version r) (hv : h.version = 9 ∨ h.version = 10)
    (hup : h.version = 9 → h.uptime < 2 ^ 32) :
    convertNetFlowDataSet none h.version h.time h.uptime (toFields r) = .ok (refRecord h r) := by
  unfold convertNetFlowDataSet
  simp only
  rw [← refRecord_nil h hv]
  exact convertFields_eq_ref h hv hup _ r rfl hr

/-- the same, stated for the field loop with the arguments `convertNetFlowDataSet` passes to it -/
theorem convertFields_record_eq_ref (h : Hdr) (r : Record) (hr : RecordOK h.version r)
    (hv : h.version = 9 ∨ h.version = 10) (hup : h.version = 9 → h.uptime < 2 ^ 32) :
    convertFields none h.version (h.time * 1000000000) h.uptime (toFields r)
      { FlowMsg.empty with
        timeFlowStartNs := h.time * 1000000000, timeFlowEndNs := h.time * 1000000000,
        type_ := if h.version = 9 then 3 else if h.version = 10 then 4 else 0 } = .ok (refRecord h r) :=
  record_eq_ref h r hr hv hup

/-- the header of a decoded packet as the documentation names its fields -/
def hdrOf (p : Netflow.Packet) : Hdr := ⟨p.version, p.uptime, p.baseTime, p.seqNum, p.domain⟩

theorem convertRecords_eq_ref (h : Hdr) (hv : h.version = 9 ∨ h.version = 10)
    (hup : h.version = 9 → h.uptime < 2 ^ 32) (rs : List Record) (hrs : ∀ r ∈ rs, RecordOK h.version r) :
    convertRecords none h.version h.time h.uptime (rs.map fun r => ⟨toFields r⟩) = .ok (rs.map (refRecord h)) := by
  induction rs with
  | nil => rfl
  | cons r rs ih =>
    simp only [List.map_cons, convertRecords]
    rw [record_eq_ref h r (hrs r (by simp)) hv hup, ih (fun r' hr' => hrs r' (by simp [hr']))]

/-- ProcessMessageNetFlowV9Config / ProcessMessageIPFIXConfig on a packet whose data records all lie in
    the documented domain: one message per record, the documented mapping with the packet-level stamps
    (sequence number, observation domain, sampling rate) -/
theorem packet_eq_ref (p : Netflow.Packet) (rates : Rates) (rs : List Record) (found : Option Nat)
    (hv : p.version = 9 ∨ p.version = 10) (hup : p.version = 9 → p.uptime < 2 ^ 32)
    (hdata : dataRecordsOf p.flowSets = rs.map fun r => ⟨toFields r⟩)
    (hrs : ∀ r ∈ rs, RecordOK p.version r)
    (hopt : searchSamplingRate (optionRecordsOf p.flowSets) = .ok found) :
    processNetflow none p rates =
      ⟨rs.map fun r => stampNetflow p.seqNum (applyRate found rates (p.version, p.domain)).1 p.domain
          (refRecord (hdrOf p) r),
        (applyRate found rates (p.version, p.domain)).2, none⟩ := by
  have := convertRecords_eq_ref (hdrOf p) hv hup rs hrs
  simp only [hdrOf] at this
  simp only [processNetflow, hdata, this, hopt, List.map_map]
  rfl

/-- executable form of `RecordOK` -/
def recordOKb (version : Nat) (r : Record) : Bool :=
  r.all (fun e => (documented version).any (fun d => d.1 == e.1 && d.2.contains e.2.length) || !interpreted.contains e.1) &&
  exclusive.all (fun g => count r g ≤ 1) &&
  (match val r 60 with
   | some (x :: _) => (x != 6 || ((val r 8).isNone && (val r 12).isNone)) && (x != 4 || ((val r 27).isNone && (val r 28).isNone))
   | _ => true)

theorem recordOK_of_check {version : Nat} {r : Record} (h : recordOKb version r = true) : RecordOK version r := by
  simp only [recordOKb, Bool.and_eq_true, List.all_eq_true, Bool.or_eq_true, List.any_eq_true, beq_iff_eq,
    List.contains_iff_mem, Bool.not_eq_true', decide_eq_true_eq] at h
  obtain ⟨⟨h1, h2⟩, h3⟩ := h
  refine ⟨fun e he => ?_, h2, fun x rest hx => ?_⟩
  · rcases h1 e he with ⟨d, hd, hde, hw⟩ | hni
    · exact Or.inl ⟨d.2, by rw [← hde]; exact hd, hw⟩
    · right
      intro hmem
      have : interpreted.contains e.1 = true := by simpa using hmem
      rw [this] at hni; cases hni
  · rw [hx] at h3
    simp only [Bool.and_eq_true, Bool.or_eq_true, bne_iff_ne, ne_eq, Option.isNone_iff_eq_none] at h3
    refine ⟨fun e6 => ?_, fun e4 => ?_⟩
    · rcases h3.1 with h | h
      · exact absurd e6 h
      · exact h
    · rcases h3.2 with h | h
      · exact absurd e4 h
      · exact h

/-- an IPv4 TCP flow exported over NetFlow v9 with the fields in an arbitrary template order … -/
example : RecordOK 9
    [(21, [7, 91, 205, 21]), (8, [10, 0, 0, 1]), (1, [0, 0, 5, 220]), (11, [1, 187]), (12, [10, 0, 0, 2]), (60, [4]),
     (2, [9]), (7, [0, 80]), (4, [6]), (6, [0x12]), (5, [0]), (10, [0, 3]), (14, [0, 4]), (22, [7, 91, 205, 0]),
     (58, [0, 100]), (56, [1, 2, 3, 4, 5, 6]), (70, [0, 1, 1]), (72, [0, 3, 1]), (4242, [1, 2, 3])] :=
  recordOK_of_check (by decide +kernel)

/-- … and an IPv6 ICMP flow over IPFIX with a frame-size element -/
example : RecordOK 10
    [(152, [0, 0, 1, 140, 0, 0, 0, 0]), (27, List.replicate 16 1), (312, [5, 220]), (28, List.replicate 16 2),
     (139, [128, 0]), (153, [0, 0, 1, 140, 0, 0, 0, 9]), (62, List.replicate 16 3), (31, [1, 2, 3])] :=
  recordOK_of_check (by decide +kernel)

end Goflow.C08
