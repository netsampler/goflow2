import Goflow.Conc.FileTransportFaults
import Proofs.Lemmas.Run
/-!
  C19 with faults — file output when a SIGHUP rotation's reopen fails. For every number of senders and every
  interleaving of the statements of the Sends, of good rotations and of failing rotations (and for both readings of
  the handler: it ends after a failed reopen, as the Go code does, or it keeps serving signals): every acknowledged
  message is in the files exactly once, in one generation; a Send that returned an error wrote nothing; the files
  consist of whole units. Assumed as in C19: one write(2) on an O_APPEND descriptor is atomic w.r.t. other writers.
-/
namespace Goflow.C19Faults
open Goflow Goflow.Conc.FileTransportFaults

/-- 1 for a sender whose write succeeded, whether or not it has returned -/
def wroteOk : Option SPc → Nat
  | some (.wrote true) => 1
  | some .ok => 1
  | _ => 0

def Inv (st : St) : Prop :=
  -- the RWMutex: while the handler holds the write lock no sender holds the read lock
  (holdsW st.handler = true → ∀ (j : Nat) (pc : SPc), st.senders[j]? = some pc → holdsR pc = false) ∧
  -- the descriptor a sender picked is the current one (it cannot be swapped under the read lock)
  (∀ (j : Nat) (pc : SPc), st.senders[j]? = some pc → ∀ g, pc = SPc.picked g → g = st.cur) ∧
  -- message j is in the files once iff its write succeeded, otherwise not at all
  (∀ j : Nat, (written st).count j = wroteOk st.senders[j]?) ∧
  -- the files consist of the units of the successful writes, nothing else
  (st.out = st.log.flatMap fun e => (unit e.2).map fun t => (e.1, t)) ∧
  (∀ e ∈ st.log, e.1 ≤ st.cur)

theorem inv_init (n : Nat) : Inv (init n) := by
  refine ⟨fun h => Bool.noConfusion h, fun j pc h g hg => SPc.noConfusion ((getElem?_replicate_eq h).symm.trans hg), fun j => ?_, rfl,
    fun e he => (List.not_mem_nil he).elim⟩
  simp only [init, written, List.map_nil, List.count_nil, List.getElem?_replicate]
  split <;> rfl

private theorem inv_move (st : St) (i : Nat) (old new : SPc) (hs : st.senders[i]? = some old)
    (hinv : Inv st)
    (hW : holdsR new = true → holdsW st.handler = false)
    (hP : ∀ g, new = SPc.picked g → g = st.cur)
    (hK : wroteOk (some new) = wroteOk (some old)) :
    Inv { st with senders := st.senders.set i new } := by
  obtain ⟨h1, h2, h3, h4, h5⟩ := hinv
  refine ⟨fun hw => forall_getElem?_set (h1 hw) ?_, forall_getElem?_set h2 hP, fun j => ?_, h4, h5⟩
  · cases hr : holdsR new with
    | false => rfl
    | true => exact absurd hw (by rw [hW hr]; exact Bool.noConfusion)
  · have := h3 j
    dsimp only [written] at this ⊢
    rw [getElem?_set_of_some new hs]
    by_cases hij : i = j
    · subst hij
      rw [if_pos rfl, hK, ← hs]; exact this
    · rw [if_neg hij]; exact this

private theorem not_holdsW_of_reader (st : St) (hinv : Inv st) (i : Nat) (pc : SPc)
    (hs : st.senders[i]? = some pc) (hr : holdsR pc = true) : holdsW st.handler = false := by
  cases hw : holdsW st.handler with
  | false => rfl
  | true => have := hinv.1 hw i pc hs; rw [hr] at this; cases this

/-- All sender steps but one only move a program counter (`inv_move`); the successful write is the one that touches
    the files, and it happens under the read lock, so the handler does not hold the write lock
    (`not_holdsW_of_reader`) and the picked descriptor is the current one. The handler's steps change the files'
    generation only while it holds the write lock, when by the first clause no sender holds a descriptor. -/
theorem inv_step (hexit : Bool) (st : St) (e : Ev) (hinv : Inv st) : Inv (step ⟨hexit, false⟩ st e) := by
  cases e with
  | send i =>
    simp only [step]
    cases hs : st.senders[i]? with
    | none => exact hinv
    | some pc =>
      cases pc with
      | idle =>
        dsimp only
        split
        · exact hinv
        · rename_i hw
          exact inv_move st i _ _ hs hinv (fun _ => by simpa using hw) (fun g hg => by cases hg) rfl
      | rlocked =>
        exact inv_move st i _ _ hs hinv (fun _ => not_holdsW_of_reader st hinv i _ hs rfl)
          (fun g hg => by cases hg; rfl) rfl
      | picked g =>
        have hg : g = st.cur := hinv.2.1 i _ hs g rfl
        have hnw := not_holdsW_of_reader st hinv i _ hs rfl
        dsimp only
        split
        · exact inv_move st i _ _ hs hinv (fun _ => hnw) (fun g hg => by cases hg) rfl
        · -- the successful write
          obtain ⟨h1, h2, h3, h4, h5⟩ := hinv
          refine ⟨?_, ?_, ?_, ?_, ?_⟩
          · intro hw; dsimp only at hw; rw [hnw] at hw; cases hw
          · exact forall_getElem?_set h2 fun g' hg' => SPc.noConfusion hg'
          · intro j
            have := h3 j
            dsimp only [written] at this ⊢
            rw [getElem?_set_of_some _ hs]
            simp only [List.map_append, List.map_cons, List.map_nil, List.count_append, List.count_cons, List.count_nil]
            by_cases hij : i = j
            · subst hij
              rw [hs] at this
              simp only [wroteOk] at this
              simp [wroteOk, this]
            · have hne : ¬ (i == j) = true := by simpa using hij
              simp only [hij, if_false, hne]
              simpa using this
          · dsimp only
            rw [h4]
            simp [List.flatMap_append]
          · intro e he
            dsimp only at he ⊢
            simp only [List.mem_append, List.mem_singleton] at he
            rcases he with he | rfl
            · exact h5 e he
            · exact Nat.le_of_eq hg
      | wrote ok =>
        dsimp only
        cases ok <;>
          exact inv_move st i _ _ hs hinv (fun h => by simp [wrapperSend, holdsR] at h)
            (fun g hg => by simp [wrapperSend] at hg) (by simp [wrapperSend, wroteOk])
      | ok => exact hinv
      | failed => exact hinv
  | hupLock =>
    simp only [step]
    split
    · split
      · rename_i hall
        obtain ⟨h1, h2, h3, h4, h5⟩ := hinv
        refine ⟨?_, h2, h3, h4, h5⟩
        intro _ j pc hj
        have hmem : pc ∈ st.senders := List.mem_of_getElem? hj
        have := List.all_eq_true.mp hall pc hmem
        simpa using this
      · exact hinv
    · exact hinv
  | hupClose =>
    simp only [step]
    split
    · rename_i hh
      obtain ⟨h1, h2, h3, h4, h5⟩ := hinv
      exact ⟨fun _ => h1 (by rw [hh]; rfl), h2, h3, h4, h5⟩
    · exact hinv
  | hupOpen ok =>
    simp only [step]
    split
    · rename_i hh
      obtain ⟨h1, h2, h3, h4, h5⟩ := hinv
      have hold : holdsW st.handler = true := by rw [hh]; rfl
      split
      · refine ⟨fun _ => h1 hold, ?_, h3, h4, ?_⟩
        · intro j pc hj g hg
          subst hg
          exact Bool.noConfusion (h1 hold j _ hj)
        · intro e he
          have := h5 e he
          dsimp only; omega
      · exact ⟨fun _ => h1 hold, h2, h3, h4, h5⟩
    · exact hinv
  | hupUnlock =>
    simp only [step]
    split
    · obtain ⟨h1, h2, h3, h4, h5⟩ := hinv
      refine ⟨?_, h2, h3, h4, h5⟩
      intro hw
      dsimp only at hw
      split at hw <;> simp [holdsW] at hw
    · exact hinv

theorem inv_run (hexit : Bool) (st : St) (sched : List Ev) (h : Inv st) : Inv (run ⟨hexit, false⟩ st sched) :=
  inv_run_total (fun _ => rfl) (fun _ _ _ => rfl) (inv_step hexit) sched st h

private theorem filter_singleton_of_count {l : List (Nat × Nat)} {i : Nat} (h : (l.map (·.2)).count i = 1) :
    ∃ g, l.filter (fun e => e.2 == i) = [(g, i)] := by
  have hlen : (l.filter (fun e => e.2 == i)).length = 1 := by
    rw [← h, List.count_eq_length_filter, List.filter_map, List.length_map]
    rfl
  obtain ⟨x, hf⟩ := List.length_eq_one_iff.mp hlen
  have hx : x ∈ l.filter (fun e => e.2 == i) := by rw [hf]; simp
  have := (List.mem_filter.mp hx).2
  have h2 : x.2 = i := by simpa using this
  exact ⟨x.1, by rw [hf, ← h2]⟩

/-- acknowledged ⇒ written exactly once, in one file generation: when `transport.Send` of message i has returned nil,
    the files contain exactly one unit of message i, whatever rotations (good or failing) were interleaved with the
    senders -/
theorem acked_written (hexit : Bool) (n : Nat) (sched : List Ev) (i : Nat)
    (hack : (run ⟨hexit, false⟩ (init n) sched).senders[i]? = some SPc.ok) :
    ∃ g, (run ⟨hexit, false⟩ (init n) sched).log.filter (fun e => e.2 == i) = [(g, i)] ∧
      (written (run ⟨hexit, false⟩ (init n) sched)).count i = 1 := by
  have h := (inv_run hexit (init n) sched (inv_init n)).2.2.1 i
  rw [hack] at h
  obtain ⟨g, hg⟩ := filter_singleton_of_count h
  exact ⟨g, hg, h⟩

/-- failed ⇒ nothing written: a Send that returned an error has put nothing of its message into any file, neither a
    unit nor a single token -/
theorem failed_not_written (hexit : Bool) (n : Nat) (sched : List Ev) (i : Nat)
    (hfail : (run ⟨hexit, false⟩ (init n) sched).senders[i]? = some SPc.failed) :
    (written (run ⟨hexit, false⟩ (init n) sched)).count i = 0 ∧
    ∀ g, (g, Tok.body i) ∉ (run ⟨hexit, false⟩ (init n) sched).out := by
  obtain ⟨_, _, h3, h4, _⟩ := inv_run hexit (init n) sched (inv_init n)
  have h := h3 i
  rw [hfail] at h
  refine ⟨h, ?_⟩
  intro g hmem
  rw [h4] at hmem
  simp only [List.mem_flatMap, unit, List.map_cons, List.map_nil, List.mem_cons, Prod.mk.injEq, List.not_mem_nil,
    or_false] at hmem
  obtain ⟨e, he, hcase⟩ := hmem
  rcases hcase with ⟨_, hb⟩ | ⟨_, hb⟩
  · have hi : e.2 = i := by cases hb; rfl
    have : i ∈ written (run ⟨hexit, false⟩ (init n) sched) := by
      simp only [written, List.mem_map]
      exact ⟨e, he, hi⟩
    have := List.count_pos_iff.mpr this
    simp only [wroteOk] at h
    omega
  · cases hb

/-- and the converse of the two: a message is in the files iff its write succeeded -/
theorem written_iff (hexit : Bool) (n : Nat) (sched : List Ev) (i : Nat) :
    (written (run ⟨hexit, false⟩ (init n) sched)).count i =
      wroteOk (run ⟨hexit, false⟩ (init n) sched).senders[i]? :=
  (inv_run hexit (init n) sched (inv_init n)).2.2.1 i

private theorem fileToks_units (log : List (Nat × Nat)) (g : Nat) :
    (((log.flatMap fun e => (unit e.2).map fun t => (e.1, t)).filter fun e => e.1 == g).map (·.2)) =
      ((log.filter fun e => e.1 == g).map (·.2)).flatMap unit := by
  induction log with
  | nil => rfl
  | cons x xs ih =>
    simp only [List.flatMap_cons, List.filter_append, List.map_append, ih, List.filter_cons]
    by_cases hx : x.1 = g
    · simp [hx, unit]
    · have : ¬ (x.1 == g) = true := by simpa using hx
      simp [hx, unit]

/-- no partial units: the file of every generation is the concatenation of the complete units (body followed by
    separator) of the messages successfully written to it, in write order -/
theorem no_partial_units (hexit : Bool) (n : Nat) (sched : List Ev) (g : Nat) :
    fileToks (run ⟨hexit, false⟩ (init n) sched) g = (fileOf (run ⟨hexit, false⟩ (init n) sched) g).flatMap unit := by
  have h4 := (inv_run hexit (init n) sched (inv_init n)).2.2.2.1
  simp only [fileToks, fileOf]
  rw [h4]
  exact fileToks_units _ g

/-- no sender is ever between `RLock` and `RUnlock` while the handler holds the write lock -/
theorem lock_exclusion (hexit : Bool) (n : Nat) (sched : List Ev) (j : Nat) (pc : SPc)
    (hw : holdsW (run ⟨hexit, false⟩ (init n) sched).handler = true)
    (hj : (run ⟨hexit, false⟩ (init n) sched).senders[j]? = some pc) : holdsR pc = false :=
  (inv_run hexit (init n) sched (inv_init n)).1 hw j pc hj

/-- the descriptor is the closed one and nobody will replace it -/
def Broken (st : St) : Prop := st.handler = HPc.exited ∧ st.cur ∈ st.closed

/-- a sender that cannot be acknowledged any more -/
def Doomed (st : St) (j : Nat) : Prop :=
  ∀ pc, st.senders[j]? = some pc →
    pc = SPc.idle ∨ pc = SPc.rlocked ∨ pc = SPc.picked st.cur ∨ pc = SPc.wrote false ∨ pc = SPc.failed

private theorem broken_step (st : St) (e : Ev) (hinv : Inv st) (hb : Broken st) :
    Broken (step go st e) ∧ (step go st e).log = st.log ∧ (step go st e).cur = st.cur ∧
    ∀ j, Doomed st j → Doomed (step go st e) j := by
  obtain ⟨hh, hc⟩ := hb
  have stay : ∀ e, step go st e = st → Broken (step go st e) ∧ (step go st e).log = st.log ∧
      (step go st e).cur = st.cur ∧ ∀ j, Doomed st j → Doomed (step go st e) j :=
    fun e h => by rw [h]; exact ⟨⟨hh, hc⟩, rfl, rfl, fun j hd => hd⟩
  cases e with
  | send i =>
    simp only [step]
    cases hs : st.senders[i]? with
    | none => exact ⟨⟨hh, hc⟩, rfl, rfl, fun j hd => hd⟩
    | some pc =>
      have key : ∀ new : SPc,
          (new = SPc.idle ∨ new = SPc.rlocked ∨ new = SPc.picked st.cur ∨ new = SPc.wrote false ∨ new = SPc.failed) →
          ∀ j, Doomed st j → Doomed { st with senders := st.senders.set i new } j := by
        intro new hnew j hd pc' hj
        rcases getElem?_set_cases hj with ⟨rfl, rfl⟩ | ⟨_, hj'⟩
        · exact hnew
        · exact hd pc' hj'
      cases pc with
      | idle =>
        dsimp only
        split
        · exact ⟨⟨hh, hc⟩, rfl, rfl, fun j hd => hd⟩
        · exact ⟨⟨hh, hc⟩, rfl, rfl, key _ (by simp)⟩
      | rlocked => exact ⟨⟨hh, hc⟩, rfl, rfl, key _ (by simp)⟩
      | picked g =>
        -- the descriptor it picked is the current, closed one: the write fails
        cases hinv.2.1 i _ hs g rfl
        dsimp only
        rw [if_pos (List.contains_iff_mem.mpr hc)]
        exact ⟨⟨hh, hc⟩, rfl, rfl, key _ (by simp)⟩
      | wrote ok =>
        dsimp only
        cases ok
        · exact ⟨⟨hh, hc⟩, rfl, rfl, key _ (by simp [wrapperSend, go])⟩
        · -- a sender past a successful write is not doomed, the others are untouched
          refine ⟨⟨hh, hc⟩, rfl, rfl, fun j hd pc' hj => ?_⟩
          rcases getElem?_set_cases hj with ⟨rfl, _⟩ | ⟨_, hj'⟩
          · rcases hd _ hs with h | h | h | h | h <;> cases h
          · exact hd pc' hj'
      | ok => exact ⟨⟨hh, hc⟩, rfl, rfl, fun j hd => hd⟩
      | failed => exact ⟨⟨hh, hc⟩, rfl, rfl, fun j hd => hd⟩
  -- the handler has ended: its events are disabled
  | hupLock => exact stay _ (by simp only [step, hh])
  | hupClose => exact stay _ (by simp only [step, hh])
  | hupOpen ok => exact stay _ (by simp only [step, hh])
  | hupUnlock => exact stay _ (by simp only [step, hh])

private theorem broken_run (st : St) (sched : List Ev) (hinv : Inv st) (hb : Broken st) :
    Broken (run go st sched) ∧ (run go st sched).log = st.log ∧ (run go st sched).cur = st.cur ∧
    ∀ j, Doomed st j → Doomed (run go st sched) j :=
  (inv_run_total (P := fun s => Inv s ∧ Broken s ∧ s.log = st.log ∧ s.cur = st.cur ∧ ∀ j, Doomed st j → Doomed s j)
    (fun _ => rfl) (fun _ _ _ => rfl)
    (fun s e ⟨hi, hb, hl, hc, hd⟩ =>
      have ⟨b1, l1, c1, d1⟩ := broken_step s e hi hb
      ⟨inv_step true s e hi, b1, l1.trans hl, c1.trans hc, fun j hj => d1 j (hd j hj)⟩)
    sched st ⟨hinv, hb, rfl, rfl, fun _ h => h⟩).2

/-- after a failed reopen (the Go handler: it has ended, the descriptor is the closed one), whatever happens
    afterwards, nothing is written any more, and every Send that had not completed its write before, in particular
    every Send that starts later, is never acknowledged: once it returns, it returns the error -/
theorem after_failed_reopen_sends_fail (n : Nat) (pre sched : List Ev)
    (hb : Broken (run go (init n) pre)) :
    (run go (init n) (pre ++ sched)).log = (run go (init n) pre).log ∧
    ∀ j, Doomed (run go (init n) pre) j →
      (run go (init n) (pre ++ sched)).senders[j]? ≠ some SPc.ok ∧
      (written (run go (init n) (pre ++ sched))).count j = 0 := by
  have happ : ∀ (st : St) (a b : List Ev), run go st (a ++ b) = run go (run go st a) b := by
    intro st a b
    induction a generalizing st with
    | nil => rfl
    | cons e rest ih => simp only [List.cons_append, run]; exact ih _
  rw [happ]
  have hinv := inv_run true (init n) pre (inv_init n)
  obtain ⟨_, hl, _, hd⟩ := broken_run (run go (init n) pre) sched hinv hb
  refine ⟨hl, fun j hj => ?_⟩
  have hdoom := hd j hj
  have hne : (run go (run go (init n) pre) sched).senders[j]? ≠ some SPc.ok := by
    intro hok
    rcases hdoom _ hok with h | h | h | h | h <;> cases h
  refine ⟨hne, ?_⟩
  have hinv' := inv_run true (run go (init n) pre) sched hinv
  have hcnt : (written (run go (run go (init n) pre) sched)).count j =
      wroteOk (run go (run go (init n) pre) sched).senders[j]? := hinv'.2.2.1 j
  rw [hcnt]
  cases hs : (run go (run go (init n) pre) sched).senders[j]? with
  | none => rfl
  | some pc =>
    rcases hdoom pc hs with h | h | h | h | h <;> subst h <;> rfl

/-- a good rotation, then a failing one: message 0 is in generation 0, message 1 in generation 1, Send 2 is refused and
    nothing of it is in any file; the handler has ended -/
example :
    let st := run go (init 3) (fullSend 0 ++ rotation true ++ fullSend 1 ++ rotation false ++ fullSend 2 ++ rotation true)
    st.senders = [SPc.ok, SPc.ok, SPc.failed] ∧ st.log = [(0, 0), (1, 1)] ∧ st.handler = HPc.exited ∧
    fileToks st 0 = [Tok.body 0, Tok.sep] ∧ fileToks st 1 = [Tok.body 1, Tok.sep] ∧ st.cur = 1 ∧ st.closed = [1, 0] := by
  decide

/-- interleaved: sender 2 takes the read lock before the failing rotation (which therefore has to wait: the first
    `hupLock` is not enabled) and is acknowledged; sender 1 comes after it and fails -/
example :
    let st := run go (init 3)
      ([.send 2, .send 2, .hupLock, .send 0, .send 2, .send 0, .send 2, .send 0, .send 0] ++ rotation false ++ fullSend 1)
    st.senders = [SPc.ok, SPc.failed, SPc.ok] ∧ st.log = [(0, 2), (0, 0)] ∧ Broken st := by
  refine ⟨by decide, by decide, by decide, by decide⟩

/-- the hypothesis of `after_failed_reopen_sends_fail` is satisfiable -/
example : Broken (run go (init 2) (fullSend 0 ++ rotation false)) ∧ Doomed (run go (init 2) (fullSend 0 ++ rotation false)) 1 := by
  refine ⟨⟨by decide, by decide⟩, ?_⟩
  intro pc h
  have : (run go (init 2) (fullSend 0 ++ rotation false)).senders[1]? = some SPc.idle := by decide
  rw [this] at h
  left; cases h; rfl

/-- the variant whose handler keeps serving signals: a later good rotation repairs the output -/
example :
    let st := run ⟨false, false⟩ (init 2) (rotation false ++ fullSend 0 ++ rotation true ++ fullSend 1)
    st.senders = [SPc.failed, SPc.ok] ∧ st.log = [(1, 1)] := by decide

end Goflow.C19Faults
