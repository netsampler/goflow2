import Goflow.Conc.Receiver
import Proofs.Lemmas.Count
import Proofs.Lemmas.Run
import Goflow.Generated.Sync
/-!
  C17 — Each received datagram is decoded exactly once, intact, or counted as dropped. Invariants of the receiver's
  transition system, for any number of sockets and workers, any queue size, blocking or not, and every schedule.
-/
namespace Goflow.C17
open Goflow Goflow.Conc.Receiver

/-- `step` as a relation, so that proofs go by cases on the enabled branch -/
inductive Step (st : St) : Ev → St → Prop
  | readPool {r b rest} : st.readers[r]? = some .idle → st.qClosed = false → st.pool = b :: rest →
      Step st (.read r) { st with
        pool := rest, nextId := st.nextId + 1,
        readers := st.readers.set r (.holding b st.nextId), readIds := st.nextId :: st.readIds }
  | readFresh {r} : st.readers[r]? = some .idle → st.qClosed = false → st.pool = [] →
      Step st (.read r) { st with
        nextBuf := st.nextBuf + 1, nextId := st.nextId + 1,
        readers := st.readers.set r (.holding st.nextBuf st.nextId), readIds := st.nextId :: st.readIds }
  | dispatch {r b d} : st.readers[r]? = some (.holding b d) → st.queue.length < st.cfg.qcap →
      Step st (.dispatch r) { st with readers := st.readers.set r .idle, queue := st.queue ++ [.pkt b d] }
  | handoff {r w b d} : st.readers[r]? = some (.holding b d) → st.workers[w]? = some .idle →
      st.cfg.qcap = 0 ∧ st.queue = [] →
      Step st (.handoff r w) { st with
        readers := st.readers.set r .idle,
        workers := st.workers.set w (.decoding b d), started := st.started ++ [d] }
  | drop {r b d} : st.readers[r]? = some (.holding b d) → st.cfg.blocking = false →
      Step st (.drop r) { st with readers := st.readers.set r .idle, dropped := d :: st.dropped, pool := b :: st.pool }
  | quitIdle {r} : st.qClosed = true → st.readers[r]? = some .idle →
      Step st (.quit r) { st with readers := st.readers.set r .exited }
  | quitHolding {r b d} : st.qClosed = true → st.readers[r]? = some (.holding b d) →
      Step st (.quit r) { st with readers := st.readers.set r .exited, lostAtStop := d :: st.lostAtStop }
  | takePkt {w b d rest} : st.workers[w]? = some .idle → st.queue = .pkt b d :: rest →
      Step st (.take w) { st with
        workers := st.workers.set w (.decoding b d), queue := rest,
        started := st.started ++ [d] }
  | takeSentinel {w rest} : st.workers[w]? = some .idle → st.queue = .sentinel :: rest →
      Step st (.take w) { st with workers := st.workers.set w .exited, queue := rest, sentinelTaken := true }
  | finish {w b d} : st.workers[w]? = some (.decoding b d) →
      Step st (.finish w) { st with workers := st.workers.set w .idle, decoded := d :: st.decoded, pool := b :: st.pool }
  | stop : st.qClosed = false →
      Step st .stop { st with
        qClosed := true, toSend := (st.workers.filter (· != .exited)).length,
        preStop := queueIds st.queue }
  | sendSentinel : 0 < st.toSend → st.queue.length < st.cfg.qcap →
      Step st .sendSentinel { st with toSend := st.toSend - 1, queue := st.queue ++ [.sentinel] }
  | sentinelTo {w} : st.workers[w]? = some .idle → 0 < st.toSend ∧ st.cfg.qcap = 0 ∧ st.queue = [] →
      Step st (.sentinelTo w) { st with
        toSend := st.toSend - 1, workers := st.workers.set w .exited,
        sentinelTaken := true }

theorem Step.of_step {st st' : St} {e : Ev} (h : step st e = some st') : Step st e st' := by
  cases e with
  | read r =>
    simp only [step] at h
    split at h
    · split at h
      · cases h
      · split at h <;> cases h
        · exact .readPool ‹_› (by simpa using ‹¬ st.qClosed = true›) ‹_›
        · exact .readFresh ‹_› (by simpa using ‹¬ st.qClosed = true›) ‹_›
    · cases h
  | dispatch r =>
    simp only [step] at h
    split at h
    · split at h <;> cases h
      exact .dispatch ‹_› ‹_›
    · cases h
  | handoff r w =>
    simp only [step] at h
    split at h
    · split at h <;> cases h
      exact .handoff ‹_› ‹_› ‹_›
    · cases h
  | drop r =>
    simp only [step] at h
    split at h
    · split at h <;> cases h
      exact .drop ‹_› (by simpa using (‹(!st.cfg.blocking) = true ∧ _›).1)
    · cases h
  | quit r =>
    simp only [step] at h
    split at h
    · cases h
    · have hq : st.qClosed = true := by simpa using ‹¬ (!st.qClosed) = true›
      split at h <;> cases h
      · exact .quitIdle hq ‹_›
      · exact .quitHolding hq ‹_›
  | take w =>
    simp only [step] at h
    split at h <;> cases h
    · exact .takePkt ‹_› ‹_›
    · exact .takeSentinel ‹_› ‹_›
  | finish w =>
    simp only [step] at h
    split at h <;> cases h
    exact .finish ‹_›
  | stop =>
    simp only [step] at h
    split at h <;> cases h
    exact .stop (by simpa using ‹¬ st.qClosed = true›)
  | sendSentinel =>
    simp only [step] at h
    split at h <;> cases h
    exact .sendSentinel (‹st.toSend > 0 ∧ _›).1 (‹st.toSend > 0 ∧ _›).2
  | sentinelTo w =>
    simp only [step] at h
    split at h
    · split at h <;> cases h
      exact .sentinelTo ‹_› ‹_›
    · cases h

theorem run_cons (st : St) (e : Ev) (sched : List Ev) : run st (e :: sched) = run ((step st e).getD st) sched := by
  rw [run]
  cases step st e <;> rfl

theorem run_inv {P : St → Prop} (hstep : ∀ st e st', P st → Step st e st' → P st') (sched : List Ev) (st : St)
    (h : P st) : P (run st sched) :=
  Goflow.inv_run (fun _ => rfl) run_cons (fun st e st' hP hs => hstep st e st' hP (.of_step hs)) sched st h

def ridOf : RPc → Option Nat
  | .holding _ d => some d
  | _ => none
def widOf : WPc → Option Nat
  | .decoding _ d => some d
  | _ => none
def qidOf : QItem → Option Nat
  | .pkt _ d => some d
  | .sentinel => none

theorem places_count (st : St) (x : Nat) :
    (places st).count x = (st.readers.filterMap ridOf).count x + (st.queue.filterMap qidOf).count x +
      (st.workers.filterMap widOf).count x + st.decoded.count x + st.dropped.count x + st.lostAtStop.count x := by
  simp only [places, List.count_append]
  rfl

private theorem filterMap_replicate_none {α} {f : α → Option Nat} {a : α} (h : f a = none) (n : Nat) :
    (List.replicate n a).filterMap f = [] :=
  List.filterMap_eq_nil_iff.mpr fun _ hb => List.eq_of_mem_replicate hb ▸ h

/-- every datagram read from a socket is in exactly one place (a reader's hand, the queue, a decoder call, decoded,
    dropped, or, only around Stop, lost in hand), and ids are fresh -/
def Inv (st : St) : Prop :=
  (∀ d : Nat, (places st).count d = st.readIds.count d) ∧
  (∀ d : Nat, st.readIds.count d ≤ 1) ∧
  (∀ d ∈ st.readIds, d < st.nextId)

theorem inv_init (cfg : Cfg) (r w : Nat) : Inv (init cfg r w) := by
  refine ⟨fun d => ?_, fun d => Nat.zero_le _, fun d hd => (List.not_mem_nil hd).elim⟩
  rw [places_count]
  simp only [init, filterMap_replicate_none (f := ridOf) (a := RPc.idle) rfl,
    filterMap_replicate_none (f := widOf) (a := WPc.idle) rfl]
  rfl

theorem Step.places_count {st st' : St} {e : Ev} (h : Step st e st') (x : Nat) :
    ((places st').count x = (places st).count x ∧ st'.readIds = st.readIds ∧ st'.nextId = st.nextId) ∨
    ((places st').count x = (places st).count x + hit st.nextId x ∧ st'.readIds = st.nextId :: st.readIds ∧
      st'.nextId = st.nextId + 1) := by
  cases h with
  | @readPool r b rest hr =>
    have h1 := count_set_take (f := ridOf) (new := .holding b st.nextId) hr rfl rfl x
    refine .inr ⟨?_, rfl, rfl⟩
    simp only [C17.places_count]
    omega
  | readFresh hr =>
    have h1 := count_set_take (f := ridOf) (new := .holding st.nextBuf st.nextId) hr rfl rfl x
    refine .inr ⟨?_, rfl, rfl⟩
    simp only [C17.places_count]
    omega
  | @dispatch r b d hr =>
    have h1 := count_set_give (f := ridOf) (new := .idle) hr rfl rfl x
    have h2 := count_push_some (f := qidOf) (a := .pkt b d) st.queue rfl x
    refine .inl ⟨?_, rfl, rfl⟩
    simp only [C17.places_count]
    omega
  | @handoff r w b d hr hw =>
    have h1 := count_set_give (f := ridOf) (new := .idle) hr rfl rfl x
    have h2 := count_set_take (f := widOf) (new := .decoding b d) hw rfl rfl x
    refine .inl ⟨?_, rfl, rfl⟩
    simp only [C17.places_count]
    omega
  | drop hr =>
    have h1 := count_set_give (f := ridOf) (new := .idle) hr rfl rfl x
    refine .inl ⟨?_, rfl, rfl⟩
    simp only [C17.places_count, count_cons_hit]
    omega
  | quitIdle _ hr =>
    have h1 := count_set_keep (f := ridOf) (new := .exited) hr rfl rfl x
    refine .inl ⟨?_, rfl, rfl⟩
    simp only [C17.places_count]
    omega
  | quitHolding _ hr =>
    have h1 := count_set_give (f := ridOf) (new := .exited) hr rfl rfl x
    refine .inl ⟨?_, rfl, rfl⟩
    simp only [C17.places_count, count_cons_hit]
    omega
  | @takePkt w b d rest hw hq =>
    have h1 := count_set_take (f := widOf) (new := .decoding b d) hw rfl rfl x
    have h2 := count_pop_some (f := qidOf) (a := .pkt b d) rest rfl x
    refine .inl ⟨?_, rfl, rfl⟩
    simp only [C17.places_count, hq]
    omega
  | @takeSentinel w rest hw hq =>
    have h1 := count_set_keep (f := widOf) (new := .exited) hw rfl rfl x
    have h2 := count_pop_none (f := qidOf) (a := .sentinel) rest rfl x
    refine .inl ⟨?_, rfl, rfl⟩
    simp only [C17.places_count, hq]
    omega
  | finish hw =>
    have h1 := count_set_give (f := widOf) (new := .idle) hw rfl rfl x
    refine .inl ⟨?_, rfl, rfl⟩
    simp only [C17.places_count, count_cons_hit]
    omega
  | stop => exact .inl ⟨rfl, rfl, rfl⟩
  | sendSentinel =>
    have h2 := count_push_none (f := qidOf) (a := .sentinel) st.queue rfl x
    refine .inl ⟨?_, rfl, rfl⟩
    simp only [C17.places_count]
    omega
  | sentinelTo hw =>
    have h1 := count_set_keep (f := widOf) (new := .exited) hw rfl rfl x
    refine .inl ⟨?_, rfl, rfl⟩
    simp only [C17.places_count]
    omega

theorem Step.inv {st st' : St} {e : Ev} (hinv : Inv st) (h : Step st e st') : Inv st' := by
  obtain ⟨hc, hn, hf⟩ := hinv
  have fresh : st.readIds.count st.nextId = 0 :=
    List.count_eq_zero_of_not_mem fun hm => Nat.lt_irrefl _ (hf _ hm)
  refine ⟨fun x => ?_, fun x => ?_, fun x hx => ?_⟩
  · rcases h.places_count x with ⟨h1, h2, _⟩ | ⟨h1, h2, _⟩
    · rw [h1, h2]; exact hc x
    · rw [h1, h2, count_cons_hit, hc x, Nat.add_comm]
  · have := hn x
    rcases h.places_count x with ⟨_, h2, _⟩ | ⟨_, h2, _⟩
    · rw [h2]; exact this
    · rw [h2, count_cons_hit]
      by_cases hx : st.nextId = x
      · rw [← hx, hit_self, fresh]; exact Nat.le_refl _
      · rw [hit_of_ne hx]; omega
  · rcases h.places_count x with ⟨_, h2, h3⟩ | ⟨_, h2, h3⟩
    · rw [h3]; exact hf x (h2 ▸ hx)
    · rw [h3]
      rcases List.mem_cons.mp (h2 ▸ hx) with rfl | hx
      · exact Nat.lt_succ_self _
      · exact Nat.lt_succ_of_lt (hf x hx)

theorem inv_step (st st' : St) (e : Ev) (hinv : Inv st) (h : step st e = some st') : Inv st' :=
  (Step.of_step h).inv hinv

theorem inv_run (st : St) (sched : List Ev) (h : Inv st) : Inv (run st sched) :=
  run_inv (fun _ _ _ hP hs => hs.inv hP) sched st h

/-- after any schedule every datagram read is in exactly one place: never both decoded and dropped, never twice, never
    nowhere -/
theorem conservation (cfg : Cfg) (r w : Nat) (sched : List Ev) (d : Nat) :
    (places (run (init cfg r w) sched)).count d = (run (init cfg r w) sched).readIds.count d ∧
    (places (run (init cfg r w) sched)).count d ≤ 1 := by
  have := inv_run (init cfg r w) sched (inv_init cfg r w)
  exact ⟨this.1 d, by rw [this.1 d]; exact this.2.1 d⟩

/-- a datagram is counted at most once over decoded ++ dropped -/
theorem decoded_dropped_disjoint (cfg : Cfg) (r w : Nat) (sched : List Ev) (d : Nat) :
    (run (init cfg r w) sched).decoded.count d + (run (init cfg r w) sched).dropped.count d ≤ 1 := by
  have := (conservation cfg r w sched d).2
  simp only [places, List.count_append] at this
  omega

/-- at quiescence and with no Stop in between, reads = decoded ⊎ dropped -/
theorem quiescent_accounting (cfg : Cfg) (r w : Nat) (sched : List Ev) (d : Nat) (st : St)
    (hst : st = run (init cfg r w) sched) :
    readerIds st.readers = [] → queueIds st.queue = [] → workerIds st.workers = [] → st.lostAtStop = [] →
    st.readIds.count d = st.decoded.count d + st.dropped.count d := by
  subst hst
  intro h1 h2 h3 h4
  have := (conservation cfg r w sched d).1
  simp only [places, List.count_append, h1, h2, h3, h4, List.count_nil] at this
  omega

/-- in blocking mode nothing is ever dropped -/
theorem blocking_no_drop (cfg : Cfg) (r w : Nat) (sched : List Ev) (hb : cfg.blocking = true) :
    (run (init cfg r w) sched).dropped = [] := by
  refine (run_inv (P := fun st => st.cfg.blocking = true ∧ st.dropped = []) ?_ sched _ ⟨hb, rfl⟩).2
  intro st e st' ⟨hb, hd⟩ h
  cases h with
  | drop _ hnb => rw [hb] at hnb; cases hnb
  | _ => exact ⟨hb, hd⟩

/-- the synchronisation skeleton of the socket reader is the one the transition system was written
    for: pool.Get, read, [hook], blocking select without default / non-blocking select with default,
    Dropped callback, pool.Put (regenerated from utils/udp.go on every run) -/
theorem skeleton_matches :
    Goflow.Generated.skReceiveRoutine =
      ["packetPool.Get()", "udpconn.ReadFromUDP(pkt.payload)", "packetPool.Put(pkt)", "verifEvent(\"udp.read\", pkt.size)",
       "select{r.dispatch <- pkt | <-r.q}", "select{r.dispatch <- pkt | <-r.q | default}",
       "r.cb.Dropped(Message{ Src: pkt.src.AddrPort(), Dst: pkt.dst.AddrPort(), Payload: pkt.payload[0:pkt.size], Received: pkt.received, })",
       "packetPool.Put(pkt)"] ∧
    Goflow.Generated.skDecoders =
      ["r.wg.Add(1)", "go", "defer r.wg.Done()", "range r.dispatch", "decodeFunc(&msg)", "packetPool.Put(pkt)"] :=
  ⟨rfl, rfl⟩

def rbufOf : RPc → Option Nat
  | .holding b _ => some b
  | _ => none
def wbufOf : WPc → Option Nat
  | .decoding b _ => some b
  | _ => none
def qbufOf : QItem → Option Nat
  | .pkt b _ => some b
  | .sentinel => none

private theorem readerBufs_eq (rs : List RPc) : readerBufs rs = rs.filterMap rbufOf := rfl
private theorem workerBufs_eq (ws : List WPc) : workerBufs ws = ws.filterMap wbufOf := rfl
private theorem queueBufs_eq (q : List QItem) : queueBufs q = q.filterMap qbufOf := rfl

theorem bufPlaces_count (st : St) (x : Nat) :
    (bufPlaces st).count x = st.pool.count x + (st.readers.filterMap rbufOf).count x +
      (st.queue.filterMap qbufOf).count x + (st.workers.filterMap wbufOf).count x := by
  simp only [bufPlaces, List.count_append]
  rfl

def BufInv (st : St) : Prop :=
  (∀ b : Nat, (bufPlaces st).count b ≤ 1) ∧ (∀ b ∈ bufPlaces st, b < st.nextBuf)

theorem bufInv_init (cfg : Cfg) (r w : Nat) : BufInv (init cfg r w) := by
  have h0 : ∀ x, (bufPlaces (init cfg r w)).count x = 0 := by
    intro x
    rw [bufPlaces_count]
    simp only [init, filterMap_replicate_none (f := rbufOf) (a := RPc.idle) rfl,
      filterMap_replicate_none (f := wbufOf) (a := WPc.idle) rfl]
    rfl
  exact ⟨fun b => by rw [h0]; exact Nat.zero_le _,
    fun b hb => absurd (List.count_pos_iff.mpr hb) (by rw [h0]; exact Nat.lt_irrefl _)⟩

private theorem mem_of_count_pos {l : List Nat} {b : Nat} (h : 0 < l.count b) : b ∈ l := by
  exact List.count_pos_iff.mp h

/-- `≤`, not `=`: a reader that quits with a datagram in hand loses its buffer -/
theorem Step.bufPlaces_count {st st' : St} {e : Ev} (h : Step st e st') (x : Nat) :
    ((bufPlaces st').count x ≤ (bufPlaces st).count x ∧ st'.nextBuf = st.nextBuf) ∨
    ((bufPlaces st').count x = (bufPlaces st).count x + hit st.nextBuf x ∧ st'.nextBuf = st.nextBuf + 1) := by
  cases h with
  | @readPool r b rest hr _ hp =>
    have h1 := count_set_take (f := rbufOf) (new := .holding b st.nextId) hr rfl rfl x
    refine .inl ⟨?_, rfl⟩
    simp only [C17.bufPlaces_count, hp, count_cons_hit]
    omega
  | readFresh hr _ hp =>
    have h1 := count_set_take (f := rbufOf) (new := .holding st.nextBuf st.nextId) hr rfl rfl x
    refine .inr ⟨?_, rfl⟩
    simp only [C17.bufPlaces_count]
    omega
  | @dispatch r b d hr =>
    have h1 := count_set_give (f := rbufOf) (new := .idle) hr rfl rfl x
    have h2 := count_push_some (f := qbufOf) (a := .pkt b d) st.queue rfl x
    refine .inl ⟨?_, rfl⟩
    simp only [C17.bufPlaces_count]
    omega
  | @handoff r w b d hr hw =>
    have h1 := count_set_give (f := rbufOf) (new := .idle) hr rfl rfl x
    have h2 := count_set_take (f := wbufOf) (new := .decoding b d) hw rfl rfl x
    refine .inl ⟨?_, rfl⟩
    simp only [C17.bufPlaces_count]
    omega
  | drop hr =>
    have h1 := count_set_give (f := rbufOf) (new := .idle) hr rfl rfl x
    refine .inl ⟨?_, rfl⟩
    simp only [C17.bufPlaces_count, count_cons_hit]
    omega
  | quitIdle _ hr =>
    have h1 := count_set_keep (f := rbufOf) (new := .exited) hr rfl rfl x
    refine .inl ⟨?_, rfl⟩
    simp only [C17.bufPlaces_count]
    omega
  | quitHolding _ hr =>
    have h1 := count_set_give (f := rbufOf) (new := .exited) hr rfl rfl x
    refine .inl ⟨?_, rfl⟩
    simp only [C17.bufPlaces_count]
    omega
  | @takePkt w b d rest hw hq =>
    have h1 := count_set_take (f := wbufOf) (new := .decoding b d) hw rfl rfl x
    have h2 := count_pop_some (f := qbufOf) (a := .pkt b d) rest rfl x
    refine .inl ⟨?_, rfl⟩
    simp only [C17.bufPlaces_count, hq]
    omega
  | @takeSentinel w rest hw hq =>
    have h1 := count_set_keep (f := wbufOf) (new := .exited) hw rfl rfl x
    have h2 := count_pop_none (f := qbufOf) (a := .sentinel) rest rfl x
    refine .inl ⟨?_, rfl⟩
    simp only [C17.bufPlaces_count, hq]
    omega
  | finish hw =>
    have h1 := count_set_give (f := wbufOf) (new := .idle) hw rfl rfl x
    refine .inl ⟨?_, rfl⟩
    simp only [C17.bufPlaces_count, count_cons_hit]
    omega
  | stop => exact .inl ⟨Nat.le_refl _, rfl⟩
  | sendSentinel =>
    have h2 := count_push_none (f := qbufOf) (a := .sentinel) st.queue rfl x
    refine .inl ⟨?_, rfl⟩
    simp only [C17.bufPlaces_count]
    omega
  | sentinelTo hw =>
    have h1 := count_set_keep (f := wbufOf) (new := .exited) hw rfl rfl x
    refine .inl ⟨?_, rfl⟩
    simp only [C17.bufPlaces_count]
    omega

theorem Step.bufInv {st st' : St} {e : Ev} (hinv : BufInv st) (h : Step st e st') : BufInv st' := by
  obtain ⟨hc, hf⟩ := hinv
  have fresh : (bufPlaces st).count st.nextBuf = 0 :=
    List.count_eq_zero_of_not_mem fun hm => Nat.lt_irrefl _ (hf _ hm)
  refine ⟨fun b => ?_, fun b hb => ?_⟩
  · have := hc b
    rcases h.bufPlaces_count b with ⟨h1, _⟩ | ⟨h1, _⟩
    · omega
    · by_cases hb : st.nextBuf = b
      · rw [h1, ← hb, fresh, hit_self]; exact Nat.le_refl _
      · rw [h1, hit_of_ne hb]; omega
  · have hpos := List.count_pos_iff.mpr hb
    rcases h.bufPlaces_count b with ⟨h1, h2⟩ | ⟨h1, h2⟩
    · rw [h2]
      exact hf b (List.count_pos_iff.mp (by omega))
    · rw [h2]
      by_cases hb : st.nextBuf = b
      · omega
      · rw [hit_of_ne hb] at h1
        exact Nat.lt_succ_of_lt (hf b (List.count_pos_iff.mp (by omega)))

theorem bufInv_step (st st' : St) (e : Ev) (hinv : BufInv st) (h : step st e = some st') : BufInv st' :=
  (Step.of_step h).bufInv hinv

/-- after any schedule no buffer is at once in the pool (or in another reader's hand, or queued) and under a running
    decoder call: a buffer is not reused for another datagram while its decoder call is still running -/
theorem buffer_exclusive (cfg : Cfg) (r w : Nat) (sched : List Ev) (b : Nat) :
    (bufPlaces (run (init cfg r w) sched)).count b ≤ 1 :=
  (run_inv (fun _ _ _ hP hs => hs.bufInv hP) sched _ (bufInv_init cfg r w)).1 b

/-- a run with a reused buffer, a drop and a completed decode -/
example :
    let st := run (init ⟨false, 1⟩ 1 1) [.read 0, .dispatch 0, .read 0, .drop 0, .take 0, .finish 0, .read 0]
    st.decoded = [0] ∧ st.dropped = [1] ∧ st.readIds = [2, 1, 0] ∧ bufPlaces st = [1, 0] := by decide

end Goflow.C17
