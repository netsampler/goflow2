import Proofs.C13Valid
import Goflow.Spec.JsonGrammar
/-!
  C13 — the recogniser `Spec.Json.valid` (a program) and `Spec.JsonGrammar` (RFC 8259 as inductive predicates) define
  the same language. `valid_sound` goes by induction on the fuel of `value` / `members` / `elements`, each returning
  "the consumed prefix is derivable"; `valid_complete` by the mutual recursor of the grammar, with fuel the length of
  the value. C13 is then restated over the grammar: the output is exactly one `JObject`, no surrounding whitespace.
-/
namespace Goflow.C13.Grammar
open Goflow Goflow.Spec.Json Goflow.Spec.JsonGrammar

theorem wsByte_iff (b : UInt8) : isWs b = true ↔ WsByte b := by
  constructor
  · intro h
    simp only [isWs, Bool.or_eq_true, beq_iff_eq] at h
    rcases h with ((h | h) | h) | h <;> subst h <;> constructor
  · intro h; cases h <;> decide

theorem digit_iff (b : UInt8) : isDigit b = true ↔ Digit b := by
  simp [isDigit, Digit]

theorem hex_iff (b : UInt8) : isHex b = true ↔ HexDig b := by
  simp [isHex, HexDig, ← digit_iff, or_assoc]

theorem simpleEscape_iff (e : UInt8) : isSimpleEscape e = true ↔ SimpleEscape e := by
  constructor
  · intro h
    simp only [isSimpleEscape, Bool.or_eq_true, beq_iff_eq] at h
    rcases h with ((((((h | h) | h) | h) | h) | h) | h) | h <;> subst h <;> constructor
  · intro h; cases h <;> decide

theorem skipWs_sound (bs : Bytes) : ∃ w, Ws w ∧ bs = w ++ skipWs bs := by
  induction bs with
  | nil => exact ⟨[], .nil, rfl⟩
  | cons b r ih =>
    by_cases h : isWs b = true
    · obtain ⟨w, hw, e⟩ := ih
      refine ⟨b :: w, .cons ((wsByte_iff b).mp h) hw, ?_⟩
      simp only [skipWs, h, if_true, List.cons_append]
      rw [← e]
    · exact ⟨[], .nil, by simp [skipWs, h]⟩

theorem ws_append {a b : Bytes} (ha : Ws a) (hb : Ws b) : Ws (a ++ b) := by
  induction ha with
  | nil => exact hb
  | cons h _ ih => exact .cons h ih

theorem take4_drop4 (l : Bytes) (h : 4 ≤ l.length) : ∃ a b c d, l = a :: b :: c :: d :: l.drop 4 := by
  match l, h with
  | a :: b :: c :: d :: r, _ => exact ⟨a, b, c, d, rfl⟩

theorem strBody_sound (bs rest : Bytes) : strBody bs = some rest → ∃ cs, JChars cs ∧ bs = cs ++ 0x22 :: rest := by
  fun_induction strBody bs <;> intro h
  case case2 => cases h; exact ⟨[], .nil, rfl⟩
  case case4 e r he _ ih =>
    obtain ⟨cs, hcs, e'⟩ := ih h
    exact ⟨[0x5c, e] ++ cs, .cons (.escape ((simpleEscape_iff e).mp he)) hcs, by rw [e']; rfl⟩
  case case5 r hx _ _ ih =>
    obtain ⟨a, b, c, d, e4⟩ := take4_drop4 r hx.1
    obtain ⟨cs, hcs, e'⟩ := ih h
    have hx := hx.2
    rw [e4] at hx
    simp only [List.take_succ_cons, List.take_zero, List.all_cons, List.all_nil, Bool.and_true, Bool.and_eq_true] at hx
    exact ⟨[0x5c, 0x75, a, b, c, d] ++ cs, .cons (.unicode ((hex_iff a).mp hx.1) ((hex_iff b).mp hx.2.1)
      ((hex_iff c).mp hx.2.2.1) ((hex_iff d).mp hx.2.2.2)) hcs, by rw [e4, e']; rfl⟩
  case case9 b r h1 h2 h3 ih =>
    obtain ⟨cs, hcs, e'⟩ := ih h
    exact ⟨[b] ++ cs, .cons (.unescaped ⟨UInt8.not_lt.mp h3, h1, h2⟩) hcs, by rw [e']; rfl⟩
  all_goals cases h
theorem strBody_complete {cs : Bytes} (h : JChars cs) (t : Bytes) : strBody (cs ++ 0x22 :: t) = some t := by
  induction h with
  | nil => exact strBody_quote t
  | cons hc _ ih =>
    cases hc with
    | unescaped hb => exact (strBody_plain _ _ hb.2.1 hb.2.2 (UInt8.not_lt.mpr hb.1)).trans ih
    | escape he => exact (strBody_simple _ _ ((simpleEscape_iff _).mpr he)).trans ih
    | unicode ha hb hc hd =>
      exact (strBody_u _ _ _ _ _ ((hex_iff _).mpr ha) ((hex_iff _).mpr hb) ((hex_iff _).mpr hc) ((hex_iff _).mpr hd)).trans ih

/-! `number` cut into the parts of `number = [ minus ] int [ frac ] [ exp ]` -/

def intPart (b : UInt8) (r : Bytes) : Bytes := if b = 0x30 then r else digits r

def fracPart (r1 : Bytes) : Option Bytes :=
  if r1.head? = some 0x2e then
    match r1.tail with
    | d :: r' => if isDigit d then some (digits r') else none
    | [] => none
  else some r1

def expPart (r2 : Bytes) : Option Bytes :=
  if r2.head? = some 0x65 ∨ r2.head? = some 0x45 then
    let r3 := r2.tail
    let r4 := if r3.head? = some 0x2b ∨ r3.head? = some 0x2d then r3.tail else r3
    match r4 with
    | d :: t => if isDigit d then some (digits t) else none
    | [] => none
  else some r2

theorem number_eq (bs0 : Bytes) : number bs0 =
    match (if bs0.head? = some 0x2d then bs0.tail else bs0) with
    | [] => none
    | b :: r => if !isDigit b then none else
      match fracPart (intPart b r) with
      | none => none
      | some r2 => expPart r2 := rfl

theorem digits_sound (bs : Bytes) : ∃ ds, Digits0 ds ∧ bs = ds ++ digits bs := by
  induction bs with
  | nil => exact ⟨[], .nil, rfl⟩
  | cons b r ih =>
    by_cases h : isDigit b = true
    · obtain ⟨ds, hds, e⟩ := ih
      refine ⟨b :: ds, .cons ((digit_iff b).mp h) hds, ?_⟩
      simp only [digits, h, if_true, List.cons_append]
      rw [← e]
    · exact ⟨[], .nil, by simp [digits, h]⟩

theorem digit19_of : ∀ b : UInt8, isDigit b = true → b ≠ 0x30 → Digit19 b := by
  intro b h h0
  have := (digit_iff b).mp h
  refine ⟨?_, this.2⟩
  have h1 := this.1
  rw [UInt8.le_iff_toNat_le] at h1 ⊢
  have : b.toNat ≠ (0x30 : UInt8).toNat := fun h => h0 (UInt8.toNat_inj.mp h)
  simp at h1 this ⊢
  omega

theorem intPart_sound (b : UInt8) (r : Bytes) (hb : isDigit b = true) : ∃ i, JInt i ∧ b :: r = i ++ intPart b r := by
  unfold intPart
  by_cases h0 : b = 0x30
  · subst h0; exact ⟨[0x30], .zero, rfl⟩
  · obtain ⟨ds, hds, e⟩ := digits_sound r
    refine ⟨b :: ds, .nonzero (digit19_of b hb h0) hds, ?_⟩
    simp only [h0, if_false, List.cons_append]
    rw [← e]

theorem head?_eq_some {l : Bytes} {c : UInt8} (h : l.head? = some c) : l = c :: l.tail := by
  cases l with
  | nil => cases h
  | cons a t => simp at h; subst h; rfl

theorem fracPart_sound (r1 r2 : Bytes) : fracPart r1 = some r2 → ∃ f, Opt Frac f ∧ r1 = f ++ r2 := by
  fun_cases fracPart r1 <;> intro h
  case case1 hd d r' ht hdd =>
    obtain ⟨ds, hds, e⟩ := digits_sound r'
    exact ⟨0x2e :: d :: ds, .some (.mk (.mk ((digit_iff d).mp hdd) hds)),
      by rw [head?_eq_some hd, ht, e, Option.some.inj h]; rfl⟩
  case case4 => cases h; exact ⟨[], .none, rfl⟩
  all_goals cases h

theorem expPart_sound (r2 rest : Bytes) : expPart r2 = some rest → ∃ e, Opt Exp e ∧ r2 = e ++ rest := by
  fun_cases expPart r2 <;> intro h
  case case1 hd r3 r4 d r' hr4 hdd =>
    obtain ⟨ds, hds, e⟩ := digits_sound r'
    have hD : Digits1 (d :: ds) := .mk ((digit_iff d).mp hdd) hds
    have hr4' : (if r2.tail.head? = some 0x2b ∨ r2.tail.head? = some 0x2d then r2.tail.tail else r2.tail) = d :: r' := hr4
    have hs : ∃ s, Opt Sign s ∧ r2.tail = s ++ d :: r' := by
      split at hr4'
      · next hsg =>
        rcases hsg with hsg | hsg
        · exact ⟨[0x2b], .some .plus, by rw [head?_eq_some hsg, hr4']; rfl⟩
        · exact ⟨[0x2d], .some .minus, by rw [head?_eq_some hsg, hr4']; rfl⟩
      · exact ⟨[], .none, hr4'⟩
    obtain ⟨s, hs, e3⟩ := hs
    rcases hd with hd | hd
    · exact ⟨0x65 :: (s ++ (d :: ds)), .some (.lower hs hD), by rw [head?_eq_some hd, e3, e, Option.some.inj h]; simp⟩
    · exact ⟨0x45 :: (s ++ (d :: ds)), .some (.upper hs hD), by rw [head?_eq_some hd, e3, e, Option.some.inj h]; simp⟩
  case case4 => cases h; exact ⟨[], .none, rfl⟩
  all_goals cases h
theorem number_sound (bs rest : Bytes) (h : number bs = some rest) : ∃ n, JNumber n ∧ bs = n ++ rest := by
  rw [number_eq] at h
  have hm : ∃ m bs', Opt Minus m ∧ bs = m ++ bs' ∧ (if bs.head? = some 0x2d then bs.tail else bs) = bs' := by
    by_cases hd : bs.head? = some 0x2d
    · exact ⟨[0x2d], bs.tail, .some .mk, head?_eq_some hd, by simp [hd]⟩
    · exact ⟨[], bs, .none, rfl, by simp [hd]⟩
  obtain ⟨m, bs', hm, e0, hif⟩ := hm
  rw [hif] at h
  cases bs' with
  | nil => cases h
  | cons b r =>
    simp only at h
    by_cases hb : isDigit b = true
    · simp only [hb, Bool.not_true, Bool.false_eq_true, if_false] at h
      obtain ⟨i, hi, e1⟩ := intPart_sound b r hb
      cases hf : fracPart (intPart b r) with
      | none => rw [hf] at h; cases h
      | some r2 =>
        rw [hf] at h
        simp only at h
        obtain ⟨f, hf', e2⟩ := fracPart_sound _ _ hf
        obtain ⟨e, he, e3⟩ := expPart_sound _ _ h
        refine ⟨m ++ i ++ f ++ e, .mk hm hi hf' he, ?_⟩
        rw [e0, e1, e2, e3]; simp
    · simp [hb] at h

/-! completeness for numbers: each part is read exactly, provided what follows cannot continue it -/

def HeadIs (P : UInt8 → Prop) (t : Bytes) : Prop := ∀ c, t.head? = some c → P c

theorem headIs_nil (P : UInt8 → Prop) : HeadIs P [] := fun _ h => by cases h
theorem headIs_cons {P : UInt8 → Prop} {c : UInt8} (h : P c) (t : Bytes) : HeadIs P (c :: t) := by
  intro c' h'; simp at h'; subst h'; exact h
theorem HeadIs.mono {P Q : UInt8 → Prop} {t : Bytes} (h : HeadIs P t) (hpq : ∀ c, P c → Q c) : HeadIs Q t :=
  fun c hc => hpq c (h c hc)

/-- not a digit, `.`, `e` or `E` -/
def NumEnd' : Bytes → Prop := HeadIs fun c => isDigit c = false ∧ c ≠ 0x2e ∧ c ≠ 0x65 ∧ c ≠ 0x45

theorem digits_complete {ds : Bytes} (h : Digits0 ds) (t : Bytes) (ht : HeadIs (fun c => isDigit c = false) t) :
    digits (ds ++ t) = t := by
  induction h with
  | nil =>
    cases t with
    | nil => rfl
    | cons c r => simp [digits, ht c rfl]
  | cons hd _ ih => simp only [List.cons_append, digits, (digit_iff _).mpr hd, if_true]; exact ih

theorem digit_of_digit19 {d : UInt8} (h : Digit19 d) : isDigit d = true ∧ d ≠ 0x30 := by
  have h1 := h.1
  refine ⟨(digit_iff d).mpr ⟨?_, h.2⟩, ?_⟩
  · rw [UInt8.le_iff_toNat_le] at h1 ⊢; simp at h1 ⊢; omega
  · intro e; subst e; exact absurd h1 (by decide)

theorem intPart_complete {i : Bytes} (h : JInt i) (t : Bytes) (ht : HeadIs (fun c => isDigit c = false) t) :
    ∃ b r, i = b :: r ∧ isDigit b = true ∧ intPart b (r ++ t) = t := by
  cases h with
  | zero => exact ⟨0x30, [], rfl, by decide, rfl⟩
  | nonzero hd hds =>
    have := digit_of_digit19 hd
    exact ⟨_, _, rfl, this.1, by simp only [intPart, this.2, if_false]; exact digits_complete hds t ht⟩

theorem fracPart_complete {f : Bytes} (h : Opt Frac f) (t : Bytes)
    (ht : HeadIs (fun c => isDigit c = false ∧ c ≠ 0x2e) t) : fracPart (f ++ t) = some t := by
  cases h with
  | none =>
    have : t.head? ≠ some 0x2e := fun e => (ht _ e).2 rfl
    simp [fracPart, this]
  | some hf =>
    cases hf with
    | mk hds =>
      cases hds with
      | mk hd hds =>
        simp only [fracPart, List.cons_append, List.head?_cons, if_true, List.tail_cons, (digit_iff _).mpr hd]
        rw [digits_complete hds t (ht.mono fun _ h => h.1)]

theorem digits1_complete {ds : Bytes} (h : Digits1 ds) (t : Bytes) (ht : HeadIs (fun c => isDigit c = false) t) :
    ∃ d r, ds = d :: r ∧ isDigit d = true ∧ digits (r ++ t) = t := by
  cases h with
  | mk hd hds => exact ⟨_, _, rfl, (digit_iff _).mpr hd, digits_complete hds t ht⟩

theorem digit_ne {d : UInt8} (hd : isDigit d = true) (c : UInt8) (hc : isDigit c = false) : d ≠ c := by
  intro e; subst e; rw [hd] at hc; cases hc

theorem digit_not_sign (d : UInt8) (hd : isDigit d = true) : d ≠ 0x2b ∧ d ≠ 0x2d :=
  ⟨digit_ne hd _ (by decide), digit_ne hd _ (by decide)⟩

theorem expTail_complete {s ds : Bytes} (hs : Opt Sign s) (hds : Digits1 ds) (t : Bytes)
    (ht : HeadIs (fun c => isDigit c = false) t) :
    (let r3 := s ++ ds ++ t
     let r4 := if r3.head? = some 0x2b ∨ r3.head? = some 0x2d then r3.tail else r3
     match r4 with
     | d :: t => if isDigit d then some (digits t) else none
     | [] => none) = some t := by
  obtain ⟨d, r, e, hd, hr⟩ := digits1_complete hds t ht
  subst e
  have hns := digit_not_sign d hd
  cases hs with
  | none => simp [hns.1, hns.2, hd, hr]
  | some hs => cases hs <;> simp [hd, hr]

theorem expPart_complete {e : Bytes} (h : Opt Exp e) (t : Bytes) (ht : NumEnd' t) : expPart (e ++ t) = some t := by
  cases h with
  | none =>
    have h1 : t.head? ≠ some 0x65 := fun e => (ht _ e).2.2.1 rfl
    have h2 : t.head? ≠ some 0x45 := fun e => (ht _ e).2.2.2 rfl
    simp [expPart, h1, h2]
  | some he =>
    cases he with
    | lower hs hds =>
      have := expTail_complete hs hds t (ht.mono fun _ h => h.1)
      simpa [expPart, List.append_assoc] using this
    | upper hs hds =>
      have := expTail_complete hs hds t (ht.mono fun _ h => h.1)
      simpa [expPart, List.append_assoc] using this

theorem exp_head {e : Bytes} (h : Opt Exp e) {t : Bytes} (ht : NumEnd' t) :
    HeadIs (fun c => isDigit c = false ∧ c ≠ 0x2e) (e ++ t) := by
  cases h with
  | none => exact ht.mono fun _ h => ⟨h.1, h.2.1⟩
  | some he => cases he <;> exact headIs_cons (by decide) _

theorem frac_head {f : Bytes} (h : Opt Frac f) {t : Bytes} (ht : HeadIs (fun c => isDigit c = false ∧ c ≠ 0x2e) t) :
    HeadIs (fun c => isDigit c = false) (f ++ t) := by
  cases h with
  | none => exact ht.mono fun _ h => h.1
  | some hf => cases hf; exact headIs_cons (by decide) _

theorem digit_not_minus (d : UInt8) (hd : isDigit d = true) : d ≠ 0x2d := digit_ne hd _ (by decide)

theorem number_complete {n : Bytes} (h : JNumber n) (t : Bytes) (ht : NumEnd' t) : number (n ++ t) = some t := by
  cases h with
  | @mk m i f e hm hi hf he =>
    have h3 := exp_head he ht
    have h2 := frac_head hf h3
    obtain ⟨b, r, ei, hb, hint⟩ := intPart_complete hi (f ++ (e ++ t)) h2
    subst ei
    have key : (match b :: (r ++ (f ++ (e ++ t))) with
        | [] => none
        | b :: r => if !isDigit b then none else
          match fracPart (intPart b r) with
          | none => none
          | some r2 => expPart r2) = some t := by
      simp only [hb, Bool.not_true, Bool.false_eq_true, if_false, hint, fracPart_complete hf _ h3, expPart_complete he t ht]
    rw [number_eq]
    cases hm with
    | none =>
      simp only [List.nil_append, List.cons_append, List.append_assoc, List.head?_cons, Option.some.injEq,
        digit_not_minus b hb, if_false]
      exact key
    | some hm =>
      cases hm
      simp only [List.cons_append, List.nil_append, List.append_assoc, List.head?_cons, if_true, List.tail_cons]
      exact key

theorem number_head {n : Bytes} (h : JNumber n) : ∃ c r, n = c :: r ∧ (c = 0x2d ∨ isDigit c = true) := by
  cases h with
  | @mk m i f e hm hi hf he =>
    cases hm with
    | some hm => cases hm; exact ⟨_, _, rfl, Or.inl rfl⟩
    | none =>
      cases hi with
      | zero => exact ⟨_, _, rfl, Or.inr (by decide)⟩
      | nonzero hd _ => exact ⟨_, _, rfl, Or.inr (digit_of_digit19 hd).1⟩

theorem lit_sound (w bs rest : Bytes) (h : lit w bs = some rest) : bs = w ++ rest := by
  unfold lit at h
  by_cases hw : (bs.take w.length == w) = true
  · simp only [hw, if_true, Option.some.injEq] at h
    have := List.take_append_drop w.length bs
    rw [beq_iff_eq.mp hw, h] at this
    exact this.symm
  · simp only [hw] at h; cases h

/-- induction hypotheses of soundness: what `value` consumed is `ws value`; what `members` / `elements` consumed,
    behind any whitespace already skipped by the caller, is a sequence up to the closing bracket -/
def VSound (fuel : Nat) : Prop :=
  ∀ bs rest, value fuel bs = some rest → ∃ w v, Ws w ∧ JValue v ∧ bs = w ++ v ++ rest
def SeqSound (rd : Nat → Bytes → Option Bytes) (S : Bytes → Prop) (close : UInt8) (fuel : Nat) : Prop :=
  ∀ bs rest, rd fuel bs = some rest → ∀ w, Ws w → ∃ s, S s ∧ w ++ bs = s ++ close :: rest

theorem value_sound (fuel : Nat) (ihM : SeqSound members JMembers 0x7d fuel) (ihE : SeqSound elements JElements 0x5d fuel) :
    VSound (fuel + 1) := by
  intro bs rest
  obtain ⟨w, hw, ebs⟩ := skipWs_sound bs
  generalize hn : fuel + 1 = n
  fun_cases value n bs <;> intro h
  all_goals try (cases h; done)
  all_goals cases hn
  all_goals rw [‹skipWs bs = _›] at ebs
  case case3 =>
    obtain ⟨cs, hcs, e⟩ := strBody_sound _ _ h
    exact ⟨w, 0x22 :: (cs ++ [0x22]), hw, .string (.mk hcs), by rw [ebs, e]; simp⟩
  case case5 r _ _ hs' _ =>
    obtain ⟨w', hw', er⟩ := skipWs_sound r
    cases h
    exact ⟨w, 0x7b :: (w' ++ [0x7d]), hw, .object (.empty hw'), by rw [ebs, er, hs']; simp⟩
  case case6 r _ _ hs' _ _ _ =>
    obtain ⟨w', hw', er⟩ := skipWs_sound r
    obtain ⟨ms, hms, e⟩ := ihM _ _ h w' hw'
    exact ⟨w, 0x7b :: (ms ++ [0x7d]), hw, .object (.members hms), by rw [ebs, er, hs', e]; simp⟩
  case case8 r _ _ _ hs' _ =>
    obtain ⟨w', hw', er⟩ := skipWs_sound r
    cases h
    exact ⟨w, 0x5b :: (w' ++ [0x5d]), hw, .array (.empty hw'), by rw [ebs, er, hs']; simp⟩
  case case9 r _ _ hs' _ _ _ _ =>
    obtain ⟨w', hw', er⟩ := skipWs_sound r
    obtain ⟨es, hes, e⟩ := ihE _ _ h w' hw'
    exact ⟨w, 0x5b :: (es ++ [0x5d]), hw, .array (.elements hes), by rw [ebs, er, hs', e]; simp⟩
  case case10 => exact ⟨w, _, hw, .true_, by rw [ebs, lit_sound _ _ _ h]; simp⟩
  case case11 => exact ⟨w, _, hw, .false_, by rw [ebs, lit_sound _ _ _ h]; simp⟩
  case case12 => exact ⟨w, _, hw, .null_, by rw [ebs, lit_sound _ _ _ h]; simp⟩
  case case13 =>
    obtain ⟨n, hn, e⟩ := number_sound _ _ h
    exact ⟨w, n, hw, .number hn, by rw [ebs, e]; simp⟩

/-- `ws value ws` in front of a delimiter `d`, behind whitespace `w0` -/
theorem element_of_parts {fuel : Nat} {bs r d t w0 : Bytes} (ihV : VSound fuel)
    (hv : value fuel bs = some r) (hs : skipWs r = d ++ t) (hw0 : Ws w0) : ∃ e, JElement e ∧ w0 ++ bs = e ++ d ++ t := by
  obtain ⟨w1, v, hw1, hv', e1⟩ := ihV _ _ hv
  obtain ⟨w2, hw2, e2⟩ := skipWs_sound r
  exact ⟨_, .mk (ws_append hw0 hw1) hv' hw2, by rw [e1, e2, hs]; simp⟩

/-- `ws string ws : element` in front of a delimiter `d`, behind whitespace `w0` -/
theorem member_of_parts {fuel : Nat} {bs r r1 r2 r3 d t w0 : Bytes} {b c : UInt8} (ihV : VSound fuel)
    (hs : skipWs bs = b :: r) (hb : ¬ b ≠ 0x22) (hsb : strBody r = some r1) (hs2 : skipWs r1 = c :: r2)
    (hc : ¬ c ≠ 0x3a) (hv : value fuel r2 = some r3) (hs4 : skipWs r3 = d ++ t) (hw0 : Ws w0) :
    ∃ m, JMember m ∧ w0 ++ bs = m ++ d ++ t := by
  obtain ⟨w1, hw1, ebs⟩ := skipWs_sound bs
  obtain ⟨cs, hcs, e1⟩ := strBody_sound _ _ hsb
  obtain ⟨w2, hw2, e2⟩ := skipWs_sound r1
  obtain ⟨e, he, e3⟩ := element_of_parts ihV hv hs4 .nil
  refine ⟨_, .mk (ws_append hw0 hw1) (.mk hcs) hw2 he, ?_⟩
  rw [ebs, hs, Decidable.not_not.1 hb, e1, e2, hs2, Decidable.not_not.1 hc, ← List.nil_append r2, e3]
  simp

theorem members_sound (fuel : Nat) (ihV : VSound fuel) (ihM : SeqSound members JMembers 0x7d fuel) :
    SeqSound members JMembers 0x7d (fuel + 1) := by
  intro bs rest
  generalize hn : fuel + 1 = n
  fun_cases members n bs <;> intro h w0 hw0
  all_goals try (cases h; done)
  all_goals cases hn
  all_goals obtain ⟨m, hm, e⟩ := member_of_parts (d := [_]) ihV ‹skipWs bs = _› ‹_› ‹_› ‹_› ‹_› ‹_› ‹_› hw0
  · obtain ⟨ms, hms, e5⟩ := ihM _ _ h [] .nil
    exact ⟨_, .cons hm hms, by rw [e, (List.nil_append _).symm.trans e5]; simp⟩
  · cases h
    exact ⟨_, .one hm, by rw [e]; simp⟩

theorem elements_sound (fuel : Nat) (ihV : VSound fuel) (ihE : SeqSound elements JElements 0x5d fuel) :
    SeqSound elements JElements 0x5d (fuel + 1) := by
  intro bs rest
  generalize hn : fuel + 1 = n
  fun_cases elements n bs <;> intro h w0 hw0
  all_goals try (cases h; done)
  all_goals cases hn
  all_goals obtain ⟨el, hel, e⟩ := element_of_parts (d := [_]) ihV ‹_› ‹_› hw0
  · obtain ⟨es, hes, e5⟩ := ihE _ _ h [] .nil
    exact ⟨_, .cons hel hes, by rw [e, (List.nil_append _).symm.trans e5]; simp⟩
  · cases h
    exact ⟨_, .one hel, by rw [e]; simp⟩

theorem sound_aux (fuel : Nat) :
    VSound fuel ∧ SeqSound members JMembers 0x7d fuel ∧ SeqSound elements JElements 0x5d fuel := by
  induction fuel with
  | zero => refine ⟨?_, ?_, ?_⟩ <;> intro bs rest h <;> simp [value, members, elements] at h
  | succ fuel ih =>
    obtain ⟨ihV, ihM, ihE⟩ := ih
    exact ⟨value_sound fuel ihM ihE, members_sound fuel ihV ihM, elements_sound fuel ihV ihE⟩

/-- soundness: whatever the recogniser accepts is a JSON text of the grammar -/
theorem valid_sound (bs : Bytes) (h : valid bs = true) : JText bs := by
  unfold valid at h
  cases hv : value (bs.length + 2) bs with
  | none => rw [hv] at h; cases h
  | some r =>
    rw [hv] at h
    simp only [List.isEmpty_iff] at h
    obtain ⟨w, v, hw, hv', e⟩ := (sound_aux _).1 _ _ hv
    obtain ⟨w2, hw2, e2⟩ := skipWs_sound r
    rw [h, List.append_nil] at e2
    have : JElement (w ++ v ++ w2) := .mk hw hv' hw2
    rw [e, e2]; exact this

/-- what may follow a value: nothing, whitespace, `,` `}` `]` -/
def Delim : Bytes → Prop := HeadIs fun c => isWs c = true ∨ c = 0x2c ∨ c = 0x7d ∨ c = 0x5d

theorem Delim.numEnd {t : Bytes} (h : Delim t) : NumEnd' t := by
  refine HeadIs.mono h ?_
  intro c hc
  rcases hc with hc | hc | hc | hc
  · cases (wsByte_iff c).mp hc <;> decide
  all_goals (subst hc; decide)

theorem skipWs_ws {w : Bytes} (hw : Ws w) (c : UInt8) (r : Bytes) (hc : isWs c = false) : skipWs (w ++ c :: r) = c :: r := by
  induction hw with
  | nil => exact skipWs_nonws c r hc
  | cons hb _ ih => simp only [List.cons_append, skipWs, (wsByte_iff _).mpr hb, if_true]; exact ih

theorem skipWs_ws_nil {w : Bytes} (hw : Ws w) : skipWs w = [] := by
  induction hw with
  | nil => rfl
  | cons hb _ ih => simp only [skipWs, (wsByte_iff _).mpr hb, if_true]; exact ih

theorem skipWs_idem (bs : Bytes) : skipWs (skipWs bs) = skipWs bs := by
  induction bs with
  | nil => rfl
  | cons b r ih =>
    by_cases h : isWs b = true
    · simp only [skipWs, h, if_true]; exact ih
    · simp [skipWs, h]

theorem delim_ws_append {w t : Bytes} (hw : Ws w) (ht : Delim t) : Delim (w ++ t) := by
  cases hw with
  | nil => exact ht
  | cons hb _ => exact headIs_cons (Or.inl ((wsByte_iff _).mpr hb)) _

theorem delim_cons {d : UInt8} (hd : d = 0x2c ∨ d = 0x7d ∨ d = 0x5d) (t : Bytes) : Delim (d :: t) :=
  headIs_cons (Or.inr hd) _

theorem value_skip (f : Nat) (bs : Bytes) : value f (skipWs bs) = value f bs := by
  cases f with
  | zero => simp [value]
  | succ f => simp only [value, skipWs_idem]

theorem members_skip (f : Nat) (bs : Bytes) : members f (skipWs bs) = members f bs := by
  cases f with
  | zero => simp [members]
  | succ f => simp only [members, skipWs_idem]

theorem elements_skip (f : Nat) (bs : Bytes) : elements f (skipWs bs) = elements f bs := by
  cases f with
  | zero => simp [elements]
  | succ f => simp only [elements, value_skip]

theorem value_dispatch {w : Bytes} (hw : Ws w) (c : UInt8) (r : Bytes) (hc : isWs c = false) (fuel : Nat) :
    value (fuel + 1) (w ++ c :: r) =
      if c = 0x22 then strBody r
      else if c = 0x7b then
        (match skipWs r with
         | [] => none
         | c :: r => if c = 0x7d then some r else members fuel (c :: r))
      else if c = 0x5b then
        (match skipWs r with
         | [] => none
         | c :: r => if c = 0x5d then some r else elements fuel (c :: r))
      else if c = 0x74 then lit [0x72, 0x75, 0x65] r
      else if c = 0x66 then lit [0x61, 0x6c, 0x73, 0x65] r
      else if c = 0x6e then lit [0x75, 0x6c, 0x6c] r
      else if c = 0x2d ∨ isDigit c then number (c :: r)
      else none := by
  simp only [value, skipWs_ws hw c r hc]
  rfl

theorem lit_complete (w t : Bytes) : lit w (w ++ t) = some t := by simp [lit]

theorem value_head {v : Bytes} (h : JValue v) : Head v := by
  cases h with
  | object h => cases h <;> exact ⟨_, _, rfl, by decide⟩
  | array h => cases h <;> exact ⟨_, _, rfl, by decide⟩
  | string h => cases h; exact ⟨_, _, rfl, by decide⟩
  | number h =>
    obtain ⟨c, r, e, hc⟩ := number_head h
    refine ⟨c, r, e, ?_⟩
    rcases hc with hc | hc
    · subst hc; decide
    · exact ⟨(digit_head_facts c hc).1, digit_ne hc _ (by decide), digit_ne hc _ (by decide)⟩
  | true_ => exact ⟨_, _, rfl, by decide⟩
  | false_ => exact ⟨_, _, rfl, by decide⟩
  | null_ => exact ⟨_, _, rfl, by decide⟩

theorem element_head {e : Bytes} (h : JElement e) (t : Bytes) : ∃ c r, skipWs (e ++ t) = c :: r ∧ c ≠ 0x5d := by
  cases h with
  | @mk w1 v w2 hw1 hv hw2 =>
    obtain ⟨c, r, e, hc, h1, _⟩ := value_head hv
    subst e
    refine ⟨c, r ++ w2 ++ t, ?_, h1⟩
    have := skipWs_ws hw1 c (r ++ w2 ++ t) hc
    simpa [List.append_assoc] using this

theorem elements_head {es : Bytes} (h : JElements es) (t : Bytes) : ∃ c r, skipWs (es ++ t) = c :: r ∧ c ≠ 0x5d := by
  cases h with
  | one he => exact element_head he t
  | cons he _ =>
    obtain ⟨c, r, e, hc⟩ := element_head he (0x2c :: _ ++ t)
    exact ⟨c, r, by simpa [List.append_assoc] using e, hc⟩

theorem member_head {m : Bytes} (h : JMember m) (t : Bytes) : ∃ c r, skipWs (m ++ t) = c :: r ∧ c ≠ 0x7d := by
  cases h with
  | @mk w1 s w2 e hw1 hs hw2 he =>
    cases hs with
    | @mk cs hcs =>
      refine ⟨0x22, cs ++ [0x22] ++ w2 ++ 0x3a :: e ++ t, ?_, by decide⟩
      have := skipWs_ws hw1 0x22 (cs ++ [0x22] ++ w2 ++ 0x3a :: e ++ t) (by decide)
      simpa [List.append_assoc] using this

theorem members_head {ms : Bytes} (h : JMembers ms) (t : Bytes) : ∃ c r, skipWs (ms ++ t) = c :: r ∧ c ≠ 0x7d := by
  cases h with
  | one hm => exact member_head hm t
  | cons hm _ =>
    obtain ⟨c, r, e, hc⟩ := member_head hm (0x2c :: _ ++ t)
    exact ⟨c, r, by simpa [List.append_assoc] using e, hc⟩

/-- induction hypotheses of the completeness proof, one per nonterminal -/
def PV (v : Bytes) : Prop := ∀ w t fuel, Ws w → Delim t → v.length ≤ fuel → value fuel (w ++ (v ++ t)) = some t
def PEl (e : Bytes) : Prop := ∀ fuel d t, (d = 0x2c ∨ d = 0x7d ∨ d = 0x5d) → e.length ≤ fuel →
  ∃ r, value fuel (e ++ d :: t) = some r ∧ skipWs r = d :: t
/-- one item of a bracketed sequence read by `rd`: up to its delimiter, then on or out -/
def PItem (rd : Nat → Bytes → Option Bytes) (close : UInt8) (m : Bytes) : Prop :=
  ∀ fuel d t, (d = 0x2c ∨ d = close) → m.length ≤ fuel →
    rd (fuel + 1) (m ++ d :: t) = if d = 0x2c then rd fuel t else some t
def PSeq (rd : Nat → Bytes → Option Bytes) (close : UInt8) (ms : Bytes) : Prop :=
  ∀ t fuel, ms.length + 1 ≤ fuel → rd fuel (ms ++ close :: t) = some t

section
variable {rd : Nat → Bytes → Option Bytes} {close : UInt8} {m ms : Bytes}

theorem pseq_one (hc : close ≠ 0x2c) (h : PItem rd close m) : PSeq rd close m := by
  intro t fuel hf
  obtain ⟨f, rfl⟩ : ∃ f, fuel = f + 1 := ⟨fuel - 1, by omega⟩
  rw [h f close t (Or.inr rfl) (by omega), if_neg hc]

theorem pseq_cons (h : PItem rd close m) (hs : PSeq rd close ms) : PSeq rd close (m ++ 0x2c :: ms) := by
  intro t fuel hf
  obtain ⟨f, rfl⟩ : ∃ f, fuel = f + 1 := ⟨fuel - 1, by omega⟩
  rw [List.append_assoc, List.cons_append, h f 0x2c _ (Or.inl rfl) (by simp at hf; omega), if_pos rfl]
  exact hs t f (by simp at hf; omega)

end

theorem pitem_of_pel {e : Bytes} (h : PEl e) : PItem elements 0x5d e := by
  intro fuel d t hd hf
  obtain ⟨r, hv, hr⟩ := h fuel d t (hd.imp_right Or.inr) hf
  simp only [elements, hv, hr]
  rcases hd with rfl | rfl <;> simp

/-- `value` behind an opening bracket, the same for objects and arrays -/
def bracket (c : UInt8) (rd : Bytes → Option Bytes) (r : Bytes) : Option Bytes :=
  match skipWs r with
  | [] => none
  | x :: r' => if x = c then some r' else rd (x :: r')

theorem value_object {w : Bytes} (hw : Ws w) (r : Bytes) (f : Nat) :
    value (f + 1) (w ++ 0x7b :: r) = bracket 0x7d (members f) r := by
  rw [value_dispatch hw _ _ (by decide)]; rfl

theorem value_array {w : Bytes} (hw : Ws w) (r : Bytes) (f : Nat) :
    value (f + 1) (w ++ 0x5b :: r) = bracket 0x5d (elements f) r := by
  rw [value_dispatch hw _ _ (by decide)]; rfl

section
variable {c : UInt8} {rd : Bytes → Option Bytes}

theorem bracket_empty {w' : Bytes} (hc : isWs c = false) (hw' : Ws w') (t : Bytes) :
    bracket c rd (w' ++ c :: t) = some t := by
  simp [bracket, skipWs_ws hw' c t hc]

theorem bracket_seq {bs : Bytes} (hh : ∃ x r, skipWs bs = x :: r ∧ x ≠ c) (hsk : rd (skipWs bs) = rd bs) :
    bracket c rd bs = rd bs := by
  obtain ⟨x, r, hs, hx⟩ := hh
  rw [← hsk]
  simp [bracket, hs, hx]

end

theorem pv_of_bracket {o c : UInt8} {rd : Nat → Bytes → Option Bytes} {body : Bytes}
    (hd : ∀ {w}, Ws w → ∀ r f, value (f + 1) (w ++ o :: r) = bracket c (rd f) r)
    (hb : ∀ f t, body.length + 1 ≤ f → bracket c (rd f) (body ++ c :: t) = some t) : PV (o :: (body ++ [c])) := by
  intro w t fuel hw _ hf
  obtain ⟨f, rfl⟩ : ∃ f, fuel = f + 1 := ⟨fuel - 1, by simp at hf; omega⟩
  rw [List.cons_append, hd hw, List.append_assoc]
  exact hb f t (by simp at hf; omega)

theorem pv_string {s : Bytes} (h : JString s) : PV s := by
  intro w t fuel hw _ hf
  cases h with
  | mk hcs =>
    obtain ⟨f, rfl⟩ : ∃ f, fuel = f + 1 := ⟨fuel - 1, by simp at hf; omega⟩
    rw [List.cons_append, value_dispatch hw _ _ (by decide)]
    simp only [if_true, List.append_assoc, List.singleton_append]
    exact strBody_complete hcs t

theorem pv_number {n : Bytes} (h : JNumber n) : PV n := by
  intro w t fuel hw ht hf
  obtain ⟨c, r, e, hc⟩ := number_head h
  have hnum := number_complete h t ht.numEnd
  subst e
  obtain ⟨f, rfl⟩ : ∃ f, fuel = f + 1 := ⟨fuel - 1, by simp at hf; omega⟩
  have facts : isWs c = false ∧ c ≠ 0x22 ∧ c ≠ 0x7b ∧ c ≠ 0x5b ∧ c ≠ 0x74 ∧ c ≠ 0x66 ∧ c ≠ 0x6e := by
    rcases hc with hc | hc
    · subst hc; decide
    · exact digit_head_facts c hc
  rw [List.cons_append, value_dispatch hw _ _ facts.1]
  simp only [facts, hc, if_false, if_true]
  exact hnum

theorem pv_lit (c : UInt8) (l : Bytes)
    (hd : ∀ (f : Nat) (w r : Bytes), Ws w → value (f + 1) (w ++ c :: r) = lit l r) : PV (c :: l) := by
  intro w t fuel hw _ hf
  obtain ⟨f, rfl⟩ : ∃ f, fuel = f + 1 := ⟨fuel - 1, by simp at hf; omega⟩
  rw [List.cons_append, hd f w _ hw]
  exact lit_complete l t

theorem pel_mk {w1 v w2 : Bytes} (hw1 : Ws w1) (hw2 : Ws w2) (ih : PV v) : PEl (w1 ++ v ++ w2) := by
  intro fuel d t hd hf
  refine ⟨w2 ++ d :: t, ?_, ?_⟩
  · have := ih w1 (w2 ++ d :: t) fuel hw1 (delim_ws_append hw2 (delim_cons hd t)) (by simp at hf; omega)
    simpa [List.append_assoc] using this
  · refine skipWs_ws hw2 d t ?_
    rcases hd with hd | hd | hd <;> subst hd <;> decide

theorem pmem_mk {w1 s w2 e : Bytes} (hw1 : Ws w1) (hs : JString s) (hw2 : Ws w2) (ih : PEl e) :
    PItem members 0x7d (w1 ++ s ++ w2 ++ 0x3a :: e) := by
  intro fuel d t hd hf
  cases hs with
  | @mk cs hcs =>
    obtain ⟨r, hv, hr⟩ := ih fuel d t (by rcases hd with hd | hd <;> simp [hd]) (by simp at hf ⊢; omega)
    have e1 : w1 ++ 0x22 :: (cs ++ [0x22]) ++ w2 ++ 0x3a :: e ++ d :: t
        = w1 ++ 0x22 :: (cs ++ 0x22 :: (w2 ++ 0x3a :: (e ++ d :: t))) := by simp
    rw [e1]
    simp only [members, skipWs_ws hw1 _ _ (show isWs 0x22 = false by decide), ne_eq, not_true_eq_false, if_false,
      strBody_complete hcs, skipWs_ws hw2 _ _ (show isWs 0x3a = false by decide), hv, hr]
    rcases hd with hd | hd <;> subst hd <;> simp

theorem value_complete {v : Bytes} (h : JValue v) : PV v := by
  refine JValue.rec (motive_1 := fun v _ => PV v) (motive_2 := fun v _ => PV v)
    (motive_3 := fun ms _ => PSeq members 0x7d ms) (motive_4 := fun m _ => PItem members 0x7d m)
    (motive_5 := fun v _ => PV v) (motive_6 := fun es _ => PSeq elements 0x5d es)
    (motive_7 := fun e _ => PEl e) ?_ ?_ ?_ ?_ ?_ ?_ ?_ ?_ ?_ ?_ ?_ ?_ ?_ ?_ ?_ ?_ ?_ h
  · intro _ _ ih; exact ih
  · intro _ _ ih; exact ih
  · intro _ hs; exact pv_string hs
  · intro _ hn; exact pv_number hn
  · exact pv_lit 0x74 _ (fun f w r hw => by rw [value_dispatch hw _ _ (by decide)]; rfl)
  · exact pv_lit 0x66 _ (fun f w r hw => by rw [value_dispatch hw _ _ (by decide)]; rfl)
  · exact pv_lit 0x6e _ (fun f w r hw => by rw [value_dispatch hw _ _ (by decide)]; rfl)
  · intro _ hw; exact pv_of_bracket value_object fun _ t _ => bracket_empty (by decide) hw t
  · intro _ hms ih
    exact pv_of_bracket value_object fun f t hf =>
      (bracket_seq (members_head hms _) (members_skip f _)).trans (ih t f hf)
  · intro _ _ ih; exact pseq_one (by decide) ih
  · intro _ _ _ _ ihm ihms; exact pseq_cons ihm ihms
  · intro _ _ _ _ hw1 hs hw2 _ ih; exact pmem_mk hw1 hs hw2 ih
  · intro _ hw; exact pv_of_bracket value_array fun _ t _ => bracket_empty (by decide) hw t
  · intro _ hes ih
    exact pv_of_bracket value_array fun f t hf =>
      (bracket_seq (elements_head hes _) (elements_skip f _)).trans (ih t f hf)
  · intro _ _ ih; exact pseq_one (by decide) (pitem_of_pel ih)
  · intro _ _ _ _ ihe ihes; exact pseq_cons (pitem_of_pel ihe) ihes
  · intro _ _ _ hw1 _ hw2 ih; exact pel_mk hw1 hw2 ih

/-- completeness: every JSON text of the grammar is accepted by the recogniser -/
theorem valid_complete (bs : Bytes) (h : JText bs) : valid bs = true := by
  cases h with
  | @mk w1 v w2 hw1 hv hw2 =>
    have e : w1 ++ v ++ w2 = w1 ++ (v ++ w2) := by simp
    rw [e]
    have := value_complete hv w1 w2 ((w1 ++ (v ++ w2)).length + 2) hw1
      (by have := delim_ws_append hw2 (headIs_nil _); simpa using this) (by simp; omega)
    unfold valid
    rw [this]
    simp [skipWs_ws_nil hw2]

/-- the executable specification is the grammar -/
theorem valid_iff (bs : Bytes) : valid bs = true ↔ JText bs := ⟨valid_sound bs, valid_complete bs⟩

theorem ws_mem {w : Bytes} (hw : Ws w) : ∀ b ∈ w, WsByte b := by
  induction hw with
  | nil => intro b hb; cases hb
  | cons h _ ih =>
    intro b hb
    rcases List.mem_cons.mp hb with e | hb
    · subst e; exact h
    · exact ih b hb

theorem getLast?_append_cons (x : Bytes) (b : UInt8) (w : Bytes) : (x ++ b :: w).getLast? = (b :: w).getLast? := by
  rw [List.getLast?_append, List.getLast?_cons]; rfl

theorem value_object_of_head {v : Bytes} (h : JValue v) (hh : v.head? = some 0x7b) : JObject v := by
  cases h with
  | object h => exact h
  | array h => cases h <;> simp at hh
  | string h => cases h; simp at hh
  | number h =>
    obtain ⟨c, r, e, hc⟩ := number_head h
    subst e
    simp only [List.head?_cons, Option.some.injEq] at hh
    subst hh
    rcases hc with hc | hc <;> exact absurd hc (by decide)
  | true_ => simp at hh
  | false_ => simp at hh
  | null_ => simp at hh

theorem text_object_of_braces (body : Bytes) (h : JText (0x7b :: (body ++ [0x7d]))) : JObject (0x7b :: (body ++ [0x7d])) := by
  generalize e : 0x7b :: (body ++ [0x7d]) = bs at h
  cases h with
  | @mk w1 v w2 hw1 hv hw2 =>
    -- no leading whitespace: the first byte is `{`
    have e1 : w1 = [] := by
      cases hw1 with
      | nil => rfl
      | cons hb _ =>
        simp only [List.cons_append, List.cons.injEq] at e
        have := (wsByte_iff _).mpr hb
        rw [← e.1] at this
        exact absurd this (by decide)
    -- no trailing whitespace: the last byte is `}`
    have e2 : w2 = [] := by
      cases w2 with
      | nil => rfl
      | cons b w =>
        have hl : (0x7b :: (body ++ [0x7d])).getLast? = some 0x7d := by
          rw [← List.cons_append, List.getLast?_concat]
        rw [e, getLast?_append_cons] at hl
        have := (wsByte_iff _).mpr (ws_mem hw2 _ (List.mem_of_getLast? hl))
        exact absurd this (by decide)
    subst e1 e2
    simp only [List.nil_append, List.append_nil] at e ⊢
    refine value_object_of_head hv ?_
    rw [← e]; rfl

theorem object_of_valid (body : Bytes) (h : valid (0x7b :: (body ++ [0x7d])) = true) : JObject (0x7b :: (body ++ [0x7d])) :=
  text_object_of_braces body (valid_sound _ h)

theorem formatJSON_braces (f : Format.Fmt) (m : FlowMsg) :
    ∃ body, Format.formatJSON f m = 0x7b :: (body ++ [0x7d]) := ⟨_, rfl⟩

/-- C13 over the grammar: the JSON form of a message is exactly one JSON object of RFC 8259, with no surrounding
    whitespace, for every formatter whose printed names need no escaping and every message in which a field that
    carries a list is printed as an array. -/
theorem formatJSON_is_json_object (f : Format.Fmt) (m : FlowMsg) (hn : namesOK f = true) (hl : listsAreSlices f m = true) :
    JObject (Format.formatJSON f m) :=
  object_of_valid _ (formatJSON_valid_sharp f m hn hl)

/-- the same under the weaker shape condition of `formatJSON_valid` -/
theorem formatJSON_is_json_object_of_shape (f : Format.Fmt) (m : FlowMsg) (hn : namesOK f = true) (hs : shapeOK f m = true) :
    JObject (Format.formatJSON f m) :=
  object_of_valid _ (formatJSON_valid f m hn hs)

theorem text_of_object {bs : Bytes} (h : JObject bs) : JText bs := by
  have : JElement ([] ++ bs ++ []) := .mk .nil (.object h) .nil
  simpa [JText] using this

theorem formatJSON_is_json_text (f : Format.Fmt) (m : FlowMsg) (hn : namesOK f = true) (hl : listsAreSlices f m = true) :
    JText (Format.formatJSON f m) :=
  text_of_object (formatJSON_is_json_object f m hn hl)

/-- C13 for the default configuration, unconditionally -/
theorem default_is_json_object (m : FlowMsg) : JObject (Format.formatJSON defaultFmt m) :=
  formatJSON_is_json_object_of_shape defaultFmt m namesOK_default (shapeOK_default m)

/-- `jsonQuote` writes a JSON string, for every byte string -/
theorem jsonQuote_is_json_string (v : Bytes) : JString (Format.jsonQuote v) := by
  obtain ⟨body, e, h⟩ := jsonQuote_valid v []
  obtain ⟨cs, hcs, e'⟩ := strBody_sound _ _ h
  rw [List.append_nil] at e'
  rw [e, e']
  exact .mk hcs

/-- the decimal printer writes a JSON number of the grammar -/
theorem decimal_is_json_number (n : Nat) : JNumber (Format.decimal n) := by
  obtain ⟨k, hk, e⟩ := number_sound _ _ (number_decimal n [] trivial)
  simp only [List.append_nil] at e
  rw [e]; exact hk

/-! Non-vacuity. The recogniser side is checked by evaluation (`decide +kernel` where the well-founded `strBody` has
to be unfolded); the grammar side by explicit derivations and, through `valid_complete`, by refutations. -/

section examples

/-- `{"a":1}` -/
def exObj : Bytes := [0x7b, 0x22, 0x61, 0x22, 0x3a, 0x31, 0x7d]
/-- `{"a":01}`: leading zero -/
def exLeadingZero : Bytes := [0x7b, 0x22, 0x61, 0x22, 0x3a, 0x30, 0x31, 0x7d]
/-- `{"a":"\x1f"}` with a raw control byte inside the string -/
def exControl : Bytes := [0x7b, 0x22, 0x61, 0x22, 0x3a, 0x22, 0x1f, 0x22, 0x7d]
/-- `{,}` -/
def exComma : Bytes := [0x7b, 0x2c, 0x7d]
/-- `{"a":1}x`: trailing garbage -/
def exTrailing : Bytes := [0x7b, 0x22, 0x61, 0x22, 0x3a, 0x31, 0x7d, 0x78]
/-- `{"a":1} {}`: two texts -/
def exTwo : Bytes := [0x7b, 0x22, 0x61, 0x22, 0x3a, 0x31, 0x7d, 0x20, 0x7b, 0x7d]
/-- ` [ -0.5e+1 , null ]` followed by a newline -/
def exArr : Bytes := [0x20, 0x5b, 0x20, 0x2d, 0x30, 0x2e, 0x35, 0x65, 0x2b, 0x31, 0x20, 0x2c, 0x20, 0x6e, 0x75, 0x6c, 0x6c, 0x20, 0x5d, 0x0a]
/-- `"¯\n"` -/
def exStr : Bytes := [0x22, 0x5c, 0x75, 0x30, 0x30, 0x61, 0x46, 0x5c, 0x6e, 0x22]

example : valid exObj = true := by decide +kernel
example : valid exArr = true := by decide
example : valid exStr = true := by decide +kernel
example : valid [0x7b, 0x7d] = true := by decide
example : valid [0x5b, 0x20, 0x5d] = true := by decide
example : valid [0x2d, 0x30] = true := by decide                       -- -0
example : valid [0x31, 0x45, 0x35] = true := by decide                 -- 1E5
example : valid exLeadingZero = false := by decide +kernel
example : valid exControl = false := by decide +kernel
example : valid exComma = false := by decide
example : valid exTrailing = false := by decide +kernel
example : valid exTwo = false := by decide +kernel
example : valid [] = false := by decide
example : valid [0x30, 0x31] = false := by decide                      -- 01
example : valid [0x31, 0x2e] = false := by decide                      -- 1.
example : valid [0x2e, 0x35] = false := by decide                      -- .5
example : valid [0x2b, 0x31] = false := by decide                      -- +1
example : valid [0x5b, 0x31, 0x2c, 0x5d] = false := by decide          -- [1,]
example : valid [0x74, 0x72, 0x75] = false := by decide                -- tru

theorem exObj_object : JObject exObj :=
  .members (ms := [0x22, 0x61, 0x22, 0x3a, 0x31])
    (.one
      (.mk (w1 := []) (s := [0x22, 0x61, 0x22]) (w2 := []) (e := [0x31])
        .nil
        (.mk (cs := [0x61]) (.cons (c := [0x61]) (cs := []) (.unescaped ⟨by decide, by decide, by decide⟩) .nil))
        .nil
        (.mk (w1 := []) (v := [0x31]) (w2 := []) .nil
          (.number (.mk (m := []) (i := [0x31]) (f := []) (e := []) .none (.nonzero ⟨by decide, by decide⟩ .nil) .none .none))
          .nil)))

theorem exObj_text : JText exObj := text_of_object exObj_object

/-- whitespace in every place the grammar allows it, and a number with all four parts -/
theorem exArr_text : JText exArr :=
  have sp : Ws [0x20] := .cons .space .nil
  have num : JNumber [0x2d, 0x30, 0x2e, 0x35, 0x65, 0x2b, 0x31] :=
    .mk (m := [0x2d]) (i := [0x30]) (f := [0x2e, 0x35]) (e := [0x65, 0x2b, 0x31])
      (.some .mk) .zero
      (.some (.mk (.mk (d := 0x35) ⟨by decide, by decide⟩ .nil)))
      (.some (.lower (s := [0x2b]) (ds := [0x31]) (.some .plus) (.mk (d := 0x31) ⟨by decide, by decide⟩ .nil)))
  have e1 : JElement [0x20, 0x2d, 0x30, 0x2e, 0x35, 0x65, 0x2b, 0x31, 0x20] :=
    .mk (w1 := [0x20]) (v := [0x2d, 0x30, 0x2e, 0x35, 0x65, 0x2b, 0x31]) (w2 := [0x20]) sp (.number num) sp
  have e2 : JElement [0x20, 0x6e, 0x75, 0x6c, 0x6c, 0x20] :=
    .mk (w1 := [0x20]) (v := [0x6e, 0x75, 0x6c, 0x6c]) (w2 := [0x20]) sp .null_ sp
  have arr : JArray [0x5b, 0x20, 0x2d, 0x30, 0x2e, 0x35, 0x65, 0x2b, 0x31, 0x20, 0x2c, 0x20, 0x6e, 0x75, 0x6c, 0x6c, 0x20, 0x5d] :=
    .elements (es := [0x20, 0x2d, 0x30, 0x2e, 0x35, 0x65, 0x2b, 0x31, 0x20, 0x2c, 0x20, 0x6e, 0x75, 0x6c, 0x6c, 0x20])
      (.cons (e := [0x20, 0x2d, 0x30, 0x2e, 0x35, 0x65, 0x2b, 0x31, 0x20]) (es := [0x20, 0x6e, 0x75, 0x6c, 0x6c, 0x20]) e1 (.one e2))
  JElement.mk (w1 := [0x20])
    (v := [0x5b, 0x20, 0x2d, 0x30, 0x2e, 0x35, 0x65, 0x2b, 0x31, 0x20, 0x2c, 0x20, 0x6e, 0x75, 0x6c, 0x6c, 0x20, 0x5d])
    (w2 := [0x0a]) sp (.array arr) (.cons .lf .nil)

/-- by completeness, a derivation would make the recogniser accept -/
theorem not_text_of_invalid {bs : Bytes} (h : valid bs = false) : ¬ JText bs :=
  fun ht => by rw [valid_complete bs ht] at h; cases h

example : ¬ JText exLeadingZero := not_text_of_invalid (by decide +kernel)
example : ¬ JText exControl := not_text_of_invalid (by decide +kernel)
example : ¬ JText exComma := not_text_of_invalid (by decide)
example : ¬ JText exTrailing := not_text_of_invalid (by decide +kernel)
example : ¬ JText exTwo := not_text_of_invalid (by decide +kernel)
example : ¬ JText [] := not_text_of_invalid (by decide)

end examples

end Goflow.C13.Grammar

section axioms
open Goflow.C13.Grammar
#print axioms valid_sound
#print axioms valid_complete
#print axioms valid_iff
#print axioms formatJSON_is_json_object
#print axioms default_is_json_object
#print axioms jsonQuote_is_json_string
#print axioms decimal_is_json_number
#print axioms exArr_text
end axioms
