import Goflow.Pipe
import Proofs.C01
import Proofs.C03
import Proofs.C04Roundtrip
import Proofs.C05
import Proofs.C06
import Proofs.C07
import Proofs.C08
/-!
  C07 end to end: for every datagram the collector emits exactly one flow message per flow record it
  carries, in wire order, and none for templates, options records, counter samples or drop samples.
  Stated against the wire encoders of the specification side (Goflow/Spec/{V5,Netflow,Sflow}.lean) and
  through the whole pipe (`netflowPipe`, `sflowPipe`, `autoPipe`), for every pipe state. The per-stage
  counts on the decoded packet and the bounds for arbitrary bytes are in Proofs/C07.lean.

  v9 / IPFIX messages may refer to templates the collector does not hold (C03's `MsgWFU`, `roundtripU`).
  Conversion can fail, and then nothing at all is emitted. A NetFlow record fails (`applyAction`,
  `convertFields`) through (1) a non-enterprise element that the switch of ConvertNetFlowDataSet reads
  with DecodeUNumber and whose value is wider than 8 bytes, (2) a custom `ipfix.mapping` /
  `netflowv9.mapping` entry whose MapCustom fails, (3) element 315 through layer mappings
  (`sflow.mapping`); without custom mappings only (1) is left, and `WidthsOK` decides it. An sFlow
  sample fails only through a raw-header record (header protocol 1) whose dissection applies a failing
  layer mapping. The sampling-rate lookup never fails (`C01.searchSamplingRate_ok`).

  Histories, (d), are counted against a specification-side template knowledge `Know` = exporter ↦
  (version, domain, id) ↦ layout; `msgWFK_sound` shows that the collector's packed-key stores refine
  it (C06's `store_refines` and `templateKey_injective`).
-/
namespace Goflow.C07E2E
open Goflow Goflow.Producer Goflow.Pipe

def v5Msg (recv : Nat) (exporter : Bytes) (h : V5.Header) (r : V5.Record) : FlowMsg :=
  stampRecv recv (unmap exporter)
    { convertLegacyRecord (h.unixSecs * 1000000000 + h.unixNSecs) h.sysUptime r with
      sequenceNum := h.flowSequence, samplingRate := h.samplingInterval % 16384 }

section
open Goflow.Netflow Goflow.Spec.Netflow Goflow.C03

instance (v d : Nat) (s : Store) (set : SSet) : Decidable (UnknownSetWF v d s set) := by
  cases set <;> unfold UnknownSetWF <;> infer_instance
instance (v d : Nat) (s : Store) (set : SSet) : Decidable (SetWFU v d s set) := by
  unfold SetWFU; infer_instance
def SetsWFU.dec (v d : Nat) : (s : Store) → (sets : List SSet) → Decidable (SetsWFU v d s sets)
  | _, [] => isTrue trivial
  | s, set :: rest =>
    match SetsWFU.dec v d (setStore v d s set) rest with
    | isTrue h => if hs : SetWFU v d s set then isTrue ⟨hs, h⟩ else isFalse (fun h' => hs h'.1)
    | isFalse h => isFalse (fun h' => h h'.2)
instance (v d : Nat) (s : Store) (sets : List SSet) : Decidable (SetsWFU v d s sets) := SetsWFU.dec v d s sets
instance (s : Store) (m : Msg) : Decidable (MsgWFU s m) := by unfold MsgWFU; infer_instance

def setFlowRecords (version dom : Nat) (s : Store) (set : SSet) : List (List DataField) :=
  match set with
  | .data _ tpl recs _ => if isUnknown version dom s set then [] else recs.map (expRecord tpl)
  | _ => []

/-- in wire order; a template set counts for the sets after it in the same message -/
def knownRecords (version dom : Nat) : Store → List SSet → List (List DataField)
  | _, [] => []
  | s, set :: rest => setFlowRecords version dom s set ++ knownRecords version dom (setStore version dom s set) rest

/-- options records carry the sampling rate -/
def setOptionRecords (version dom : Nat) (s : Store) (set : SSet) : List OptionsDataRecord :=
  match set with
  | .optsData _ scopes options recs _ =>
      if isUnknown version dom s set then [] else recs.map fun r => ⟨expRecord scopes r.1, expRecord options r.2⟩
  | _ => []

def knownOptionRecords (version dom : Nat) : Store → List SSet → List OptionsDataRecord
  | _, [] => []
  | s, set :: rest => setOptionRecords version dom s set ++ knownOptionRecords version dom (setStore version dom s set) rest

def knownFlowRecords (version dom : Nat) (s : Store) (sets : List SSet) : Nat :=
  (knownRecords version dom s sets).length

/-- v9 sysUptime; IPFIX has none -/
def Msg.up (m : Msg) : Nat := if m.version = 9 then m.uptime else 0

def recordMsg (cfg : Config) (m : Msg) (r : List DataField) : Res FlowMsg :=
  convertNetFlowDataSet (some cfg) m.version m.time (Msg.up m) r

/-- the rate announced by an options record of `m`, else the one remembered for (version, domain)
    of this exporter address -/
def rateOf (st : State) (src : Src) (m : Msg) : Nat :=
  (applyRate (match searchSamplingRate (knownOptionRecords m.version m.domain (st.templatesOf src) m.sets) with
              | .ok f => f | .error _ => none)
    (st.ratesOf src.ip) (m.version, m.domain)).1

def nfStamp (st : State) (src : Src) (recv : Nat) (m : Msg) (x : FlowMsg) : FlowMsg :=
  stampRecv recv (unmap src.ip) (stampNetflow m.seq (rateOf st src m) m.domain x)

def Res.val {α} [Inhabited α] : Res α → α
  | .ok a => a
  | .error _ => default

def RecordsConvert (cfg : Config) (s : Store) (m : Msg) : Prop :=
  ∀ r ∈ knownRecords m.version m.domain s m.sets, ∃ x, recordMsg cfg m r = .ok x

/-- the information elements the collector reads as unsigned numbers (docs/protocols.md); a value
    wider than 8 bytes makes the conversion fail -/
def numericElements : List Nat :=
  [1, 2, 4, 5, 6, 7, 9, 10, 11, 13, 14, 16, 17, 21, 22, 23, 24, 29, 30, 31, 32, 52, 54, 56, 57, 58, 59, 70, 71, 72,
   80, 81, 88, 89, 138, 139, 150, 151, 152, 153, 154, 155, 156, 157, 158, 159, 176, 177, 178, 179, 197, 312]

def ValuesOK : List SField → List SValue → Prop
  | f :: fs, v :: vs => (f.ent = none → f.id ∈ numericElements → v.bytes.length ≤ 8) ∧ ValuesOK fs vs
  | _, _ => True

def SetValuesOK : SSet → Prop
  | .data _ tpl recs _ => ∀ r ∈ recs, ValuesOK tpl r
  | _ => True

def WidthsOK (m : Msg) : Prop := ∀ set ∈ m.sets, SetValuesOK set

def ValuesOK.dec : (fs : List SField) → (vs : List SValue) → Decidable (ValuesOK fs vs)
  | f :: fs, v :: vs =>
    match ValuesOK.dec fs vs with
    | isTrue h =>
      if hv : (f.ent = none → f.id ∈ numericElements → v.bytes.length ≤ 8) then isTrue ⟨hv, h⟩
      else isFalse (fun h' => hv h'.1)
    | isFalse h => isFalse (fun h' => h h'.2)
  | [], _ => isTrue (by unfold ValuesOK; trivial)
  | _ :: _, [] => isTrue (by unfold ValuesOK; trivial)
instance (fs : List SField) (vs : List SValue) : Decidable (ValuesOK fs vs) := ValuesOK.dec fs vs
instance (set : SSet) : Decidable (SetValuesOK set) := by cases set <;> unfold SetValuesOK <;> infer_instance
instance (m : Msg) : Decidable (WidthsOK m) := by unfold WidthsOK; infer_instance

end

section
open Goflow.Sflow Goflow.Spec.Sflow

def isFlowSample : SSample → Bool
  | .flow .. => true
  | .expFlow .. => true
  | _ => false

/-- `none` for samples that are not flow samples -/
def sampleMsg (cfg : Config) (s : SSample) : Option (Res FlowMsg) := convertSample (some cfg) (expSample s)

def sfStamp (recv : Nat) (d : Datagram) (x : FlowMsg) : FlowMsg :=
  stampSflow recv { x with samplerAddress := d.agent, sequenceNum := d.seq }

def flowSampleMsg (cfg : Config) (s : SSample) : FlowMsg :=
  match sampleMsg cfg s with
  | some (.ok x) => x
  | _ => default

def SamplesConvert (cfg : Config) (d : Datagram) : Prop :=
  ∀ s ∈ d.samples, ∀ e, sampleMsg cfg s ≠ some (.error e)

end

section V5
open Goflow.V5 Goflow.Spec.V5

/-- AutoFlowPipe reads the first two 16-bit fields of a datagram as one 32-bit word -/
private theorem readU4_two (a b : Nat) (rest : Bytes) (ha : a < 65536) :
    readU 4 (encBE 2 a ++ (encBE 2 b ++ rest)) = .ok (a * 65536 + b % 65536, rest) := by
  rw [← List.append_assoc, readU_append _ _ (by simp), beNat_append, beNat_encBE_of_lt (by simpa using ha),
    beNat_encBE, encBE_length]

theorem autoPipe_netflow (cfg : Config) (st : State) (src : Src) (recv : Nat) (d b : Bytes) (v x : Nat)
    (h : readU 4 d = .ok (v * 65536 + x, b)) (hx : x < 65536) (hv : v = 5 ∨ v = 9 ∨ v = 10) :
    autoPipe cfg st src recv d = netflowPipe cfg st src recv d := by
  have h1 : ¬ (v * 65536 + x = 5) := by omega
  have h2 : (v * 65536 + x) / 65536 = v := by omega
  unfold autoPipe
  rw [h]
  simp only [h1, h2, hv, if_false, if_true]

theorem netflowPipe_v5 (cfg : Config) (st : State) (src : Src) (recv : Nat) (d b : Bytes) (p : V5.Packet)
    (h1 : readU 2 d = .ok (5, b)) (h2 : V5.decodeMessage b = .ok p) :
    netflowPipe cfg st src recv d =
      ⟨st.setTemplates src (st.templatesOf src), (processLegacy p).map (stampRecv recv (unmap src.ip)), none⟩ := by
  unfold netflowPipe
  simp only [h1, h2, if_true]

/-- cut or padded v5 datagrams, under any header count: exactly the first `count` complete records
    yield one message each -/
theorem v5_pipe_messages_trunc (cfg : Config) (st : State) (src : Src) (recv : Nat)
    (h : Header) (rs : List Record) (p : Bytes)
    (hw : HeaderWF h) (hwf : ∀ r ∈ rs, RecordWF r) (hp : p.length < 48) :
    netflowPipe cfg st src recv (encode h rs ++ p) =
      ⟨st.setTemplates src (st.templatesOf src), (rs.take h.count).map (v5Msg recv src.ip h), none⟩ := by
  have ht := C05.truncation h rs p hw hwf hp
  obtain ⟨h1, _, _⟩ := C05.header_roundtrip h (rs.flatMap encodeRecord ++ p) hw
  have e : encode h rs ++ p = encodeHeader h ++ (rs.flatMap encodeRecord ++ p) := by simp [encode]
  rw [e] at ht ⊢
  unfold decodeMessageVersion at ht
  rw [h1] at ht
  simp only [ne_eq, not_true_eq_false, if_false] at ht
  rw [netflowPipe_v5 cfg st src recv _ _ _ h1 ht, C07.produce_order_v5, List.map_map]
  rfl

/-- **C07 (a)** — a well-formed NetFlow v5 datagram (C05's hypotheses): no error, and exactly one
    message per record, in wire order, each the stamped conversion of its record -/
theorem v5_pipe_messages (cfg : Config) (st : State) (src : Src) (recv : Nat)
    (h : Header) (rs : List Record)
    (hw : HeaderWF h) (hwf : ∀ r ∈ rs, RecordWF r) (hc : rs.length = h.count) :
    (netflowPipe cfg st src recv (encode h rs)).err = none ∧
    (netflowPipe cfg st src recv (encode h rs)).msgs = rs.map (v5Msg recv src.ip h) ∧
    (netflowPipe cfg st src recv (encode h rs)).msgs.length = rs.length := by
  have := v5_pipe_messages_trunc cfg st src recv h rs [] hw hwf (by decide)
  simp only [List.append_nil] at this
  rw [this, ← hc]
  simp

theorem v5_auto_eq (cfg : Config) (st : State) (src : Src) (recv : Nat)
    (h : Header) (rs : List Record) (p : Bytes) :
    autoPipe cfg st src recv (encode h rs ++ p) = netflowPipe cfg st src recv (encode h rs ++ p) := by
  have e : ∃ t, encode h rs ++ p = encBE 2 5 ++ (encBE 2 h.count ++ t) :=
    ⟨_, by simp only [encode, encodeHeader, List.append_assoc]; rfl⟩
  obtain ⟨t, e⟩ := e
  exact autoPipe_netflow cfg st src recv _ _ 5 _ (by rw [e, readU4_two _ _ _ (by decide)])
    (Nat.mod_lt _ (by decide)) (Or.inl rfl)

theorem v5_auto_messages (cfg : Config) (st : State) (src : Src) (recv : Nat)
    (h : Header) (rs : List Record)
    (hw : HeaderWF h) (hwf : ∀ r ∈ rs, RecordWF r) (hc : rs.length = h.count) :
    (decodeFlow .auto cfg st src recv (encode h rs)).err = none ∧
    (decodeFlow .auto cfg st src recv (encode h rs)).msgs = rs.map (v5Msg recv src.ip h) ∧
    (decodeFlow .auto cfg st src recv (encode h rs)).msgs.length = rs.length := by
  have := v5_auto_eq cfg st src recv h rs []
  simp only [List.append_nil] at this
  simp only [decodeFlow, this]
  exact v5_pipe_messages cfg st src recv h rs hw hwf hc

end V5

section Netflow
open Goflow.Netflow Goflow.Spec.Netflow Goflow.C03

private theorem dataRecordsOf_cons (x : FlowSet) (xs : List FlowSet) :
    dataRecordsOf (x :: xs) = (match x with | .data _ _ rs => rs | _ => []) ++ dataRecordsOf xs :=
  List.flatMap_cons

private theorem optionRecordsOf_cons (x : FlowSet) (xs : List FlowSet) :
    optionRecordsOf (x :: xs) = (match x with | .optsData _ _ rs => rs | _ => []) ++ optionRecordsOf xs :=
  List.flatMap_cons

theorem dataRecordsOf_expSetsU (version dom : Nat) (s : Store) (sets : List SSet) :
    dataRecordsOf (expSetsU version dom s sets) = (knownRecords version dom s sets).map DataRecord.mk := by
  induction sets generalizing s with
  | nil => rfl
  | cons set rest ih =>
    simp only [expSetsU, knownRecords, dataRecordsOf_cons, ih, List.map_append]
    congr 1
    cases set with
    | data tid tpl recs pad =>
      by_cases hk : isUnknown version dom s (.data tid tpl recs pad) = true
      · simp [expSetU, setFlowRecords, hk]
      · simp [expSetU, setFlowRecords, hk, expSet, List.map_map, Function.comp_def]
    | optsData tid scopes options recs pad =>
      by_cases hk : isUnknown version dom s (.optsData tid scopes options recs pad) = true
      · simp [expSetU, setFlowRecords, hk]
      · simp [expSetU, setFlowRecords, hk, expSet]
    | template _ _ | v9opts _ _ | ipfixopts _ _ => simp [expSetU, setFlowRecords, expSet]

theorem optionRecordsOf_expSetsU (version dom : Nat) (s : Store) (sets : List SSet) :
    optionRecordsOf (expSetsU version dom s sets) = knownOptionRecords version dom s sets := by
  induction sets generalizing s with
  | nil => rfl
  | cons set rest ih =>
    simp only [expSetsU, knownOptionRecords, optionRecordsOf_cons, ih]
    congr 1
    cases set with
    | data tid tpl recs pad =>
      by_cases hk : isUnknown version dom s (.data tid tpl recs pad) = true
      · simp [expSetU, setOptionRecords, hk]
      · simp [expSetU, setOptionRecords, hk, expSet]
    | optsData tid scopes options recs pad =>
      by_cases hk : isUnknown version dom s (.optsData tid scopes options recs pad) = true
      · simp [expSetU, setOptionRecords, hk]
      · simp [expSetU, setOptionRecords, hk, expSet]
    | template _ _ | v9opts _ _ | ipfixopts _ _ => simp [expSetU, setOptionRecords, expSet]

private theorem expectedU_fields (s : Store) (m : Msg) (hv : m.version = 9 ∨ m.version = 10) :
    (expectedU s m).version = m.version ∧ (expectedU s m).baseTime = m.time ∧ (expectedU s m).uptime = Msg.up m ∧
    (expectedU s m).seqNum = m.seq ∧ (expectedU s m).domain = m.domain ∧
    (expectedU s m).flowSets = expSetsU m.version m.domain s m.sets := by
  rcases hv with hv | hv
  · simp [expectedU, expected, hv, Packet.baseTime, Packet.uptime, Packet.seqNum, Packet.domain, Msg.up]
  · simp [expectedU, expected, hv, Packet.baseTime, Packet.uptime, Packet.seqNum, Packet.domain, Msg.up]

private theorem convertRecords_spec (cfg : Option Config) (v bt up : Nat) (recs : List (List DataField))
    (hok : ∀ r ∈ recs, ∃ x, convertNetFlowDataSet cfg v bt up r = .ok x) :
    convertRecords cfg v bt up (recs.map DataRecord.mk) =
      .ok (recs.map fun r => Res.val (convertNetFlowDataSet cfg v bt up r)) := by
  induction recs with
  | nil => rfl
  | cons r rs ih =>
    obtain ⟨x, hx⟩ := hok r (by simp)
    simp only [List.map_cons]
    unfold convertRecords
    simp only [hx, ih (fun y hy => hok y (by simp [hy])), Res.val]

private theorem convertRecords_fail (cfg : Option Config) (v bt up : Nat) (recs : List (List DataField))
    (hbad : ∃ r ∈ recs, ∃ e, convertNetFlowDataSet cfg v bt up r = .error e) :
    ∃ e, convertRecords cfg v bt up (recs.map DataRecord.mk) = .error e := by
  induction recs with
  | nil => obtain ⟨r, hr, _⟩ := hbad; cases hr
  | cons r rs ih =>
    simp only [List.map_cons]
    unfold convertRecords
    cases hx : convertNetFlowDataSet cfg v bt up r with
    | error e => exact ⟨e, rfl⟩
    | ok x =>
      simp only
      have : ∃ r' ∈ rs, ∃ e, convertNetFlowDataSet cfg v bt up r' = .error e := by
        obtain ⟨r', hr', e, he⟩ := hbad
        rcases List.mem_cons.1 hr' with rfl | h
        · rw [hx] at he; cases he
        · exact ⟨r', h, e, he⟩
      obtain ⟨e, he⟩ := ih this
      rw [he]
      exact ⟨e, rfl⟩

private theorem readU2_encode (m : Msg) (hv : m.version = 9 ∨ m.version = 10) :
    ∃ b, readU 2 (encode m) = .ok (m.version, b) := by
  rcases hv with hv | hv
  · unfold encode
    simp only [hv, if_true, List.append_assoc]
    exact ⟨_, readU_enc _ (by decide)⟩
  · unfold encode
    have hne : ¬ m.version = 9 := by omega
    simp only [hne, if_false, List.append_assoc]
    rw [hv]
    exact ⟨_, readU_enc _ (by decide)⟩

private theorem ratesOf_setTemplates (st : State) (k : Src) (t : Store) (ip : Bytes) :
    (st.setTemplates k t).ratesOf ip = st.ratesOf ip := rfl

private theorem templatesOf_setTemplates (st : State) (k : Src) (t : Store) :
    (st.setTemplates k t).templatesOf k = t := by
  simp [State.setTemplates, State.templatesOf]

private theorem templatesOf_setRates (st : State) (k : Src) (ip : Bytes) (r : Rates) :
    (st.setRates ip r).templatesOf k = st.templatesOf k := rfl

private theorem netflowPipe_encode (cfg : Config) (st : State) (src : Src) (recv : Nat) (m : Msg)
    (hwf : MsgWFU (st.templatesOf src) m) :
    netflowPipe cfg st src recv (encode m) =
      (let s0 := st.templatesOf src
       let st1 := (st.setTemplates src s0).setTemplates src (storeAfter m.version m.domain s0 m.sets)
       let r := processNetflow (some cfg) (expectedU s0 m) (st.ratesOf src.ip)
       match r.err with
       | some e => ⟨st1.setRates src.ip r.rates, [], some e⟩
       | none => ⟨st1.setRates src.ip r.rates, r.msgs.map (stampRecv recv (unmap src.ip)),
                  if anyUnknown m.version m.domain s0 m.sets then some .tnf else none⟩) := by
  have hv := hwf.1
  obtain ⟨b, hb⟩ := readU2_encode m hv
  have hdec : (if m.version = 9 then decodeMessageNetFlow (st.templatesOf src) b
      else decodeMessageIPFIX (st.templatesOf src) b) = decodeMessageVersion (st.templatesOf src) (encode m) := by
    unfold decodeMessageVersion
    rw [hb]
    rcases hv with hv | hv
    · simp [hv]
    · simp [hv]
  unfold netflowPipe
  simp only [hb]
  have h5 : ¬ m.version = 5 := by omega
  simp only [h5, if_false, hv, if_true, hdec, roundtripU _ m hwf, ratesOf_setTemplates]
  rfl

private theorem processNetflow_expectedU (cfg : Config) (s : Store) (m : Msg) (rates : Rates)
    (hv : m.version = 9 ∨ m.version = 10) :
    processNetflow (some cfg) (expectedU s m) rates =
      match convertRecords (some cfg) m.version m.time (Msg.up m) ((knownRecords m.version m.domain s m.sets).map DataRecord.mk) with
      | .error e => ⟨[], rates, some e⟩
      | .ok msgs =>
        match searchSamplingRate (knownOptionRecords m.version m.domain s m.sets) with
        | .error e => ⟨[], rates, some e⟩
        | .ok found =>
          ⟨msgs.map (stampNetflow m.seq (applyRate found rates (m.version, m.domain)).1 m.domain),
            (applyRate found rates (m.version, m.domain)).2, none⟩ := by
  obtain ⟨h1, h2, h3, h4, h5, h6⟩ := expectedU_fields s m hv
  unfold processNetflow
  simp only [h1, h2, h3, h4, h5, h6, dataRecordsOf_expSetsU, optionRecordsOf_expSetsU]
  rfl

/-- **C07 (b)** — a well-formed v9 / IPFIX message (C03's hypotheses relative to the exporter's
    current templates, data sets of unknown templates allowed) all of whose flow records convert:
    the messages are exactly, in wire order, the stamped conversions of the data records of the
    data sets whose template is known when the set is reached. Template, options template and
    options data sets yield none; data sets of unknown templates yield none and turn the outcome
    into template-not-found, without touching the messages of the other sets. -/
theorem netflow_pipe_messages (cfg : Config) (st : State) (src : Src) (recv : Nat) (m : Msg)
    (hwf : MsgWFU (st.templatesOf src) m) (hok : RecordsConvert cfg (st.templatesOf src) m) :
    (netflowPipe cfg st src recv (encode m)).msgs =
      (knownRecords m.version m.domain (st.templatesOf src) m.sets).map
        (fun r => nfStamp st src recv m (Res.val (recordMsg cfg m r))) ∧
    (netflowPipe cfg st src recv (encode m)).msgs.length =
      knownFlowRecords m.version m.domain (st.templatesOf src) m.sets ∧
    (netflowPipe cfg st src recv (encode m)).err =
      (if anyUnknown m.version m.domain (st.templatesOf src) m.sets then some .tnf else none) ∧
    (netflowPipe cfg st src recv (encode m)).state.templatesOf src =
      storeAfter m.version m.domain (st.templatesOf src) m.sets := by
  obtain ⟨f, hf⟩ := ErrIn.exists_ok <| C01.searchSamplingRate_ok (knownOptionRecords m.version m.domain (st.templatesOf src) m.sets)
  have hconv := convertRecords_spec (some cfg) m.version m.time (Msg.up m)
    (knownRecords m.version m.domain (st.templatesOf src) m.sets) hok
  rw [netflowPipe_encode cfg st src recv m hwf]
  simp only [processNetflow_expectedU cfg _ m _ hwf.1, hconv, hf]
  refine ⟨?_, ?_, ?_, ?_⟩
  · simp only [List.map_map]
    apply List.map_congr_left
    intro r _
    simp [nfStamp, rateOf, hf, recordMsg]
  · simp [knownFlowRecords]
  · trivial
  · rw [templatesOf_setRates, templatesOf_setTemplates]

/-- a flow record that does not convert: no partial output; the announced templates are learned all the same -/
theorem netflow_pipe_conversion_failure (cfg : Config) (st : State) (src : Src) (recv : Nat) (m : Msg)
    (hwf : MsgWFU (st.templatesOf src) m) (hbad : ¬ RecordsConvert cfg (st.templatesOf src) m) :
    (netflowPipe cfg st src recv (encode m)).msgs = [] ∧
    (∃ e, (netflowPipe cfg st src recv (encode m)).err = some e) ∧
    (netflowPipe cfg st src recv (encode m)).state.templatesOf src =
      storeAfter m.version m.domain (st.templatesOf src) m.sets := by
  have : ∃ r ∈ knownRecords m.version m.domain (st.templatesOf src) m.sets,
      ∃ e, convertNetFlowDataSet (some cfg) m.version m.time (Msg.up m) r = .error e := by
    apply Classical.byContradiction
    intro hn
    apply hbad
    intro r hr
    cases hx : recordMsg cfg m r with
    | ok x => exact ⟨x, rfl⟩
    | error e => exact absurd ⟨r, hr, e, hx⟩ hn
  obtain ⟨e, he⟩ := convertRecords_fail (some cfg) m.version m.time (Msg.up m) _ this
  rw [netflowPipe_encode cfg st src recv m hwf]
  simp only [processNetflow_expectedU cfg _ m _ hwf.1, he]
  refine ⟨?_, ?_, ?_⟩
  · trivial
  · exact ⟨e, by trivial⟩
  · rw [templatesOf_setRates, templatesOf_setTemplates]

private theorem knownRecords_length (version dom : Nat) (s : Store) (sets : List SSet) (h : SetsWF version dom s sets) :
    (knownRecords version dom s sets).length =
      (sets.map fun s => match s with | .data _ _ rs _ => rs.length | _ => 0).foldr (· + ·) 0 := by
  induction sets generalizing s with
  | nil => rfl
  | cons set rest ih =>
    obtain ⟨h1, h2⟩ := h
    have hk := isUnknown_of_wf version dom s set h1
    simp only [knownRecords, List.length_append, ih _ h2, List.map_cons, List.foldr_cons]
    congr 1
    cases set <;> simp [setFlowRecords, hk]

/-- **C07 (b), all templates known** — for C03's well-formed messages: no error and exactly
    `flowRecords m` messages, one per data record, in wire order -/
theorem netflow_pipe_messages_known (cfg : Config) (st : State) (src : Src) (recv : Nat) (m : Msg)
    (hwf : MsgWF (st.templatesOf src) m) (hok : RecordsConvert cfg (st.templatesOf src) m) :
    (netflowPipe cfg st src recv (encode m)).msgs =
      (knownRecords m.version m.domain (st.templatesOf src) m.sets).map
        (fun r => nfStamp st src recv m (Res.val (recordMsg cfg m r))) ∧
    (netflowPipe cfg st src recv (encode m)).msgs.length = flowRecords m ∧
    (netflowPipe cfg st src recv (encode m)).err = none := by
  obtain ⟨h1, h2, h3, _⟩ := netflow_pipe_messages cfg st src recv m (msgWFU_of_msgWF _ _ hwf) hok
  have hsets := hwf.2.2.2.2.2.2.1
  refine ⟨h1, ?_, ?_⟩
  · rw [h2, knownFlowRecords, knownRecords_length _ _ _ _ hsets]; rfl
  · rw [h3, (setsWFU_of_setsWF _ _ _ _ hsets).2.1]; rfl

/-- the `case` bodies that go through DecodeUNumber -/
def readsNumber : Action → Bool
  | .unum _ => true | .unum2 _ _ => true | .icmpTypeCode => true | .fragOffset => true | .ipFlags => true
  | .mplsLabel _ => true | .v9First => true | .v9Last => true | .ipfixTime _ _ => true | .ipfixDelta _ => true
  | .frameSize => true
  | _ => false

private theorem caseTable_numeric :
    ∀ e ∈ caseTable, readsNumber e.2.2 = true → ∀ id ∈ e.2.1, id ∈ numericElements := by
  decide

private theorem lookupAction_numeric (version id : Nat) (a : Action) (h : lookupAction version id = some a)
    (hn : readsNumber a = true) : id ∈ numericElements := by
  unfold lookupAction at h
  split at h
  · rename_i e he
    cases h
    have hm := List.mem_of_find?_eq_some he
    have hp := List.find?_some he
    simp only [Bool.and_eq_true, List.contains_eq_mem, decide_eq_true_eq] at hp
    exact caseTable_numeric e hm hn id hp.2
  · split at h
    · rename_i e he
      cases h
      have hm := List.mem_of_find?_eq_some he
      have hp := List.find?_some he
      simp only [Bool.and_eq_true, List.contains_eq_mem, decide_eq_true_eq] at hp
      exact caseTable_numeric e hm hn id hp.2
    · cases h

private theorem applyAction_ok (cfg : Config) (hl : cfg.layers = []) (bt up : Nat) (m : FlowMsg) (v : Bytes) (a : Action)
    (h : readsNumber a = true → v.length ≤ 8) : ∃ m', applyAction (some cfg) bt up m v a = .ok m' := by
  cases a with
  | unum c => simp only [applyAction, C08.writeDecoded_trunc _ v (h rfl)]; exact ⟨_, rfl⟩
  | unum2 a b => simp only [applyAction, C08.writeDecoded_trunc _ v (h rfl)]; exact ⟨_, rfl⟩
  | ipVersion => cases v <;> exact ⟨_, rfl⟩
  | addr c v6 => exact ⟨_, rfl⟩
  | bytes c => exact ⟨_, rfl⟩
  | icmpTypeCode => simp only [applyAction, C08.writeDecoded_trunc _ v (h rfl)]; exact ⟨_, rfl⟩
  | fragOffset => simp only [applyAction, C08.writeDecoded_trunc _ v (h rfl)]; exact ⟨_, rfl⟩
  | ipFlags => simp only [applyAction, C08.writeDecoded_trunc _ v (h rfl)]; exact ⟨_, rfl⟩
  | mplsLabel i => simp only [applyAction, C08.writeDecoded_trunc _ v (h rfl)]; exact ⟨_, rfl⟩
  | mplsIp => exact ⟨_, rfl⟩
  | v9First => simp only [applyAction, C08.writeDecoded_trunc _ v (h rfl)]; exact ⟨_, rfl⟩
  | v9Last => simp only [applyAction, C08.writeDecoded_trunc _ v (h rfl)]; exact ⟨_, rfl⟩
  | ipfixTime s mult => simp only [applyAction, C08.writeDecoded_trunc _ v (h rfl)]; exact ⟨_, rfl⟩
  | ipfixDelta s => simp only [applyAction, C08.writeDecoded_trunc _ v (h rfl)]; exact ⟨_, rfl⟩
  | frameSize => simp only [applyAction, C08.writeDecoded_trunc _ v (h rfl)]; exact ⟨_, rfl⟩
  | frameSection =>
    obtain ⟨m1, h1⟩ := Producer.parsePacket_safe cfg hl m v
    simp only [applyAction, h1]
    exact ⟨_, rfl⟩

private theorem expDataField_fields (f : SField) (v : SValue) :
    (expDataField f v).value = some v.bytes ∧ (expDataField f v).type = f.id ∧
    (expDataField f v).penProvided = f.ent.isSome := by
  unfold expDataField
  cases f.ent <;> exact ⟨rfl, rfl, rfl⟩

private theorem convertFields_ok (cfg : Config) (hcfg : C01.NoMappings cfg) (version bt up : Nat)
    (tpl : List SField) (vals : List SValue) (hv : ValuesOK tpl vals) (m : FlowMsg) :
    ∃ m', convertFields (some cfg) version bt up (expRecord tpl vals) m = .ok m' := by
  induction tpl generalizing vals m with
  | nil => exact ⟨m, by simp [expRecord, convertFields]⟩
  | cons f fs ih =>
    cases vals with
    | nil => exact ⟨m, by simp [expRecord, convertFields]⟩
    | cons v vs =>
      obtain ⟨hfv, hrest⟩ := hv
      obtain ⟨e1, e2, e3⟩ := expDataField_fields f v
      simp only [expRecord]
      unfold convertFields
      have hmap : (if version = 10 then cfg.ipfix else cfg.v9) = [] := by
        split
        · exact hcfg.2.1
        · exact hcfg.2.2
      simp only [e1, e2, e3, hmap, lookupNetflow, List.filter_nil, List.getLast?_nil]
      cases hent : f.ent with
      | some pen => simp only [Option.isSome_some, if_true]; exact ih vs hrest m
      | none =>
        simp only [Option.isSome_none, Bool.false_eq_true, if_false]
        cases ha : lookupAction version f.id with
        | none => exact ih vs hrest m
        | some a =>
          obtain ⟨m2, h2⟩ := applyAction_ok cfg hcfg.1 bt up m v.bytes a
            (fun hn => hfv hent (lookupAction_numeric version f.id a ha hn))
          simp only [h2]
          exact ih vs hrest m2

private theorem mem_knownRecords (version dom : Nat) (s : Store) (sets : List SSet) (r : List DataField)
    (h : r ∈ knownRecords version dom s sets) :
    ∃ tid tpl recs pad vals, SSet.data tid tpl recs pad ∈ sets ∧ vals ∈ recs ∧ r = expRecord tpl vals := by
  induction sets generalizing s with
  | nil => cases h
  | cons set rest ih =>
    simp only [knownRecords, List.mem_append] at h
    rcases h with h | h
    · cases set with
      | data tid tpl recs pad =>
        simp only [setFlowRecords] at h
        split at h
        · cases h
        · obtain ⟨vals, hv, rfl⟩ := List.mem_map.1 h
          exact ⟨tid, tpl, recs, pad, vals, by simp, hv, rfl⟩
      | _ => simp [setFlowRecords] at h
    · obtain ⟨tid, tpl, recs, pad, vals, h1, h2, h3⟩ := ih _ h
      exact ⟨tid, tpl, recs, pad, vals, by simp [h1], h2, h3⟩

theorem recordsConvert_of_widths (cfg : Config) (hcfg : C01.NoMappings cfg) (s : Store) (m : Msg)
    (hw : WidthsOK m) : RecordsConvert cfg s m := by
  intro r hr
  obtain ⟨tid, tpl, recs, pad, vals, h1, h2, rfl⟩ := mem_knownRecords _ _ _ _ _ hr
  have := hw _ h1 vals h2
  exact convertFields_ok cfg hcfg _ _ _ tpl vals this _

/-- **C07 (b), default configuration** — unconditional but for the decidable width condition -/
theorem netflow_pipe_messages_default (cfg : Config) (hcfg : C01.NoMappings cfg) (st : State) (src : Src) (recv : Nat)
    (m : Msg) (hwf : MsgWFU (st.templatesOf src) m) (hw : WidthsOK m) :
    (netflowPipe cfg st src recv (encode m)).msgs =
      (knownRecords m.version m.domain (st.templatesOf src) m.sets).map
        (fun r => nfStamp st src recv m (Res.val (recordMsg cfg m r))) ∧
    (netflowPipe cfg st src recv (encode m)).msgs.length =
      knownFlowRecords m.version m.domain (st.templatesOf src) m.sets ∧
    (netflowPipe cfg st src recv (encode m)).err =
      (if anyUnknown m.version m.domain (st.templatesOf src) m.sets then some .tnf else none) ∧
    (netflowPipe cfg st src recv (encode m)).state.templatesOf src =
      storeAfter m.version m.domain (st.templatesOf src) m.sets :=
  netflow_pipe_messages cfg st src recv m hwf (recordsConvert_of_widths cfg hcfg _ m hw)

theorem netflow_auto_eq (cfg : Config) (st : State) (src : Src) (recv : Nat) (m : Msg)
    (hv : m.version = 9 ∨ m.version = 10) (hc : m.count < 65536) :
    decodeFlow .auto cfg st src recv (encode m) = netflowPipe cfg st src recv (encode m) := by
  have e : ∃ x t, encode m = encBE 2 m.version ++ (encBE 2 x ++ t) := by
    rcases hv with hv | hv
    · exact ⟨m.count, _, by simp only [encode, hv, if_true, List.append_assoc]; rfl⟩
    · exact ⟨16 + (m.sets.flatMap (encSSet 10)).length, _, by
        simp only [encode, hv, show ¬ ((10:Nat) = 9) by decide, if_false, List.append_assoc]; rfl⟩
  obtain ⟨x, t, e⟩ := e
  exact autoPipe_netflow cfg st src recv _ _ m.version _ (by rw [e, readU4_two _ _ _ (by omega)])
    (Nat.mod_lt _ (by decide)) (Or.inr hv)

end Netflow

section SFlow
open Goflow.Sflow Goflow.Spec.Sflow Goflow.C04

theorem sampleMsg_none_iff (cfg : Config) (s : SSample) : sampleMsg cfg s = none ↔ isFlowSample s = false := by
  cases s <;> simp [sampleMsg, expSample, convertSample, isFlowSample]

private theorem convertSamples_spec (cfg : Config) (ss : List SSample)
    (hok : ∀ s ∈ ss, ∀ e, sampleMsg cfg s ≠ some (.error e)) :
    convertSamples (some cfg) (ss.map expSample) = .ok ((ss.filter isFlowSample).map (flowSampleMsg cfg)) := by
  induction ss with
  | nil => rfl
  | cons s ss ih =>
    have ih' := ih (fun x hx => hok x (by simp [hx]))
    have hs := hok s (by simp)
    simp only [List.map_cons]
    unfold convertSamples
    cases hm : sampleMsg cfg s with
    | none =>
      have hf := (sampleMsg_none_iff cfg s).1 hm
      unfold sampleMsg at hm
      simp only [hm, ih', List.filter_cons, hf, Bool.false_eq_true, if_false]
    | some r =>
      have hf : isFlowSample s = true := by
        cases hfs : isFlowSample s with
        | true => rfl
        | false => rw [(sampleMsg_none_iff cfg s).2 hfs] at hm; cases hm
      cases r with
      | error e => exact absurd hm (hs e)
      | ok x =>
        have hx : flowSampleMsg cfg s = x := by simp [flowSampleMsg, hm]
        unfold sampleMsg at hm
        simp only [hm, ih', List.filter_cons, hf, if_true, List.map_cons, hx]

private theorem convertSamples_fail (cfg : Config) (ss : List SSample)
    (hbad : ∃ s ∈ ss, ∃ e, sampleMsg cfg s = some (.error e)) :
    ∃ e, convertSamples (some cfg) (ss.map expSample) = .error e := by
  induction ss with
  | nil => obtain ⟨s, hs, _⟩ := hbad; cases hs
  | cons s ss ih =>
    simp only [List.map_cons]
    unfold convertSamples
    cases hm : convertSample (some cfg) (expSample s) with
    | none =>
      simp only
      apply ih
      obtain ⟨s', hs', e, he⟩ := hbad
      rcases List.mem_cons.1 hs' with rfl | h
      · unfold sampleMsg at he; rw [hm] at he; cases he
      · exact ⟨s', h, e, he⟩
    | some r =>
      cases r with
      | error e => exact ⟨e, rfl⟩
      | ok x =>
        simp only
        by_cases hb : ∃ s' ∈ ss, ∃ e, sampleMsg cfg s' = some (.error e)
        · obtain ⟨e, he⟩ := ih hb
          rw [he]; exact ⟨e, rfl⟩
        · obtain ⟨s', hs', e, he⟩ := hbad
          rcases List.mem_cons.1 hs' with rfl | h
          · unfold sampleMsg at he; rw [hm] at he; cases he
          · exact absurd ⟨s', h, e, he⟩ hb

private theorem sflowPipe_encode (cfg : Config) (st : State) (recv : Nat) (d : Datagram) (h : DatagramWF d) :
    sflowPipe cfg st recv (encode d) =
      match convertSamples (some cfg) (d.samples.map expSample) with
      | .error e => ⟨st, [], some e⟩
      | .ok ms => ⟨st, ms.map (sfStamp recv d), none⟩ := by
  unfold sflowPipe
  rw [C04.roundtrip d h]
  simp only [processSflow, expected]
  cases convertSamples (some cfg) (d.samples.map expSample) with
  | error e => rfl
  | ok ms =>
    simp only [List.map_map]
    rfl

/-- **C07 (c)** — a well-formed sFlow datagram (C04's `DatagramWF`) none of whose samples fails to
    convert: no error, and exactly one message per flow / expanded flow sample, in wire order, each
    the stamped conversion of its sample; counter, expanded counter and drop samples yield none. -/
theorem sflow_pipe_messages (cfg : Config) (st : State) (recv : Nat) (d : Datagram)
    (h : DatagramWF d) (hok : SamplesConvert cfg d) :
    (sflowPipe cfg st recv (encode d)).err = none ∧
    (sflowPipe cfg st recv (encode d)).msgs =
      (d.samples.filter isFlowSample).map (fun s => sfStamp recv d (flowSampleMsg cfg s)) ∧
    (sflowPipe cfg st recv (encode d)).msgs.length = flowSamples d ∧
    (sflowPipe cfg st recv (encode d)).state = st := by
  rw [sflowPipe_encode cfg st recv d h, convertSamples_spec cfg d.samples hok]
  refine ⟨rfl, by simp [List.map_map, Function.comp_def], ?_, rfl⟩
  simp only [List.length_map, flowSamples]
  congr 2

/-- a sample that does not convert: no partial output -/
theorem sflow_pipe_conversion_failure (cfg : Config) (st : State) (recv : Nat) (d : Datagram)
    (h : DatagramWF d) (hbad : ¬ SamplesConvert cfg d) :
    (∃ e, (sflowPipe cfg st recv (encode d)).err = some e) ∧ (sflowPipe cfg st recv (encode d)).msgs = [] := by
  have : ∃ s ∈ d.samples, ∃ e, sampleMsg cfg s = some (.error e) := by
    apply Classical.byContradiction
    intro hn
    apply hbad
    intro s hs e he
    exact hn ⟨s, hs, e, he⟩
  obtain ⟨e, he⟩ := convertSamples_fail cfg d.samples this
  rw [sflowPipe_encode cfg st recv d h, he]
  exact ⟨⟨e, rfl⟩, rfl⟩

theorem sflow_no_output_on_error (cfg : Config) (st : State) (recv : Nat) (b : Bytes) (e : Err)
    (he : (sflowPipe cfg st recv b).err = some e) : (sflowPipe cfg st recv b).msgs = [] := by
  revert he
  unfold sflowPipe
  cases Sflow.decodeMessageVersion b with
  | error e' => intro _; rfl
  | ok p =>
    simp only
    cases processSflow (some cfg) p with
    | error e' => intro _; rfl
    | ok ms => intro he; simp at he

/-- only the sampled-header record can fail, and without layer mappings its dissector is total -/
private theorem applyRecords_ok (cfg : Config) (hcfg : cfg.layers = []) (rs : List FlowRecord) (m : FlowMsg) :
    ∃ m', applyRecords (some cfg) rs m = .ok m' := by
  have rec1 : ∀ (m : FlowMsg) (r : FlowRecord), ∃ m', applyRecord (some cfg) m r = .ok m' := by
    intro m r
    unfold applyRecord
    split
    · split
      · exact Producer.parsePacket_safe _ (by simpa using hcfg) _ _
      · exact ⟨_, rfl⟩
    · split
      · exact ⟨_, rfl⟩
      · split
        · exact ⟨_, rfl⟩
        · split <;> exact ⟨_, rfl⟩
    · exact ⟨_, rfl⟩
    · exact ⟨_, rfl⟩
    · exact ⟨_, rfl⟩
  induction rs generalizing m with
  | nil => exact ⟨m, rfl⟩
  | cons r rs ih =>
    obtain ⟨m1, h1⟩ := rec1 m r
    obtain ⟨m2, h2⟩ := ih m1
    exact ⟨m2, by simp [applyRecords, h1, h2]⟩

theorem samplesConvert_of_noLayers (cfg : Config) (hcfg : cfg.layers = []) (d : Datagram) : SamplesConvert cfg d := by
  intro s _ e he
  cases s with
  | flow seq st sv vals recs =>
    obtain ⟨m', hm⟩ := applyRecords_ok cfg hcfg (recs.map expRecord)
      (sampleBase ((vals ++ [recs.length]).getD 0 0) ((vals ++ [recs.length]).getD 3 0) ((vals ++ [recs.length]).getD 4 0))
    simp only [sampleMsg, expSample, convertSample, hm] at he
    cases he
  | expFlow seq st sv vals recs =>
    obtain ⟨m', hm⟩ := applyRecords_ok cfg hcfg (recs.map expRecord)
      (sampleBase ((vals ++ [recs.length]).getD 0 0) ((vals ++ [recs.length]).getD 4 0) ((vals ++ [recs.length]).getD 6 0))
    simp only [sampleMsg, expSample, convertSample, hm] at he
    cases he
  | counter seq st sv recs => simp [sampleMsg, expSample, convertSample] at he
  | expCounter seq st sv recs => simp [sampleMsg, expSample, convertSample] at he
  | drop seq st sv vals recs => simp [sampleMsg, expSample, convertSample] at he

/-- **C07 (c), default configuration** — unconditional for every configuration without layer
    mappings (whatever its NetFlow mappings and port table) -/
theorem sflow_pipe_messages_default (cfg : Config) (hcfg : cfg.layers = []) (st : State) (recv : Nat) (d : Datagram)
    (h : DatagramWF d) :
    (sflowPipe cfg st recv (encode d)).err = none ∧
    (sflowPipe cfg st recv (encode d)).msgs =
      (d.samples.filter isFlowSample).map (fun s => sfStamp recv d (flowSampleMsg cfg s)) ∧
    (sflowPipe cfg st recv (encode d)).msgs.length = flowSamples d ∧
    (sflowPipe cfg st recv (encode d)).state = st :=
  sflow_pipe_messages cfg st recv d h (samplesConvert_of_noLayers cfg hcfg d)

theorem sflow_auto_eq (cfg : Config) (st : State) (src : Src) (recv : Nat) (d : Datagram) :
    decodeFlow .auto cfg st src recv (encode d) = sflowPipe cfg st recv (encode d) := by
  simp only [decodeFlow]
  unfold autoPipe
  have : readU 4 (encode d) = .ok (5, xdrAddr d.agent ++ u32 d.subAgent ++ u32 d.seq ++ u32 d.uptime ++
      u32 d.samples.length ++ d.samples.flatMap encSample) := by
    unfold encode
    simp only [List.append_assoc]
    exact readU_u32 _ (by decide)
  rw [this]
  simp

end SFlow

section History
open Goflow.Netflow Goflow.Spec.Netflow Goflow.C03

/-- what an exporter has announced under one template id -/
inductive Layout where
  | data (fields : List SField)
  | v9opts (scopes options : List SField)
  | ipfixopts (scopes options : List SField)
  deriving DecidableEq, Repr

/-- the knowledge about one exporter: (version, domain, template id) ↦ layout -/
abbrev Know1 := Nat → Nat → Nat → Option Layout
/-- the knowledge about all exporters, keyed by the UDP source -/
abbrev Know := Src → Know1

def Know.empty : Know := fun _ _ _ _ => none

def Know1.add (k : Know1) (version dom tid : Nat) (l : Layout) : Know1 :=
  fun v d i => if v = version ∧ d = dom ∧ i = tid then some l else k v d i

/-- announcements are processed in wire order: the latest one wins -/
def Know1.learn (k : Know1) (version dom : Nat) : List (Nat × Layout) → Know1
  | [] => k
  | (tid, l) :: rest => (k.add version dom tid l).learn version dom rest

def announcesL : SSet → List (Nat × Layout)
  | .template recs _ => recs.map fun r => (r.1, .data r.2)
  | .v9opts recs _ => recs.map fun r => (r.1, .v9opts r.2.1 r.2.2)
  | .ipfixopts recs _ => recs.map fun r => (r.1, .ipfixopts r.2.1 r.2.2)
  | _ => []

def Know1.afterSet (k : Know1) (version dom : Nat) (set : SSet) : Know1 := k.learn version dom (announcesL set)
def Know1.afterSets (k : Know1) (version dom : Nat) (sets : List SSet) : Know1 :=
  sets.foldl (fun k set => k.afterSet version dom set) k

/-- C03's `SetWF` with "the template the data set uses is the one announced last under its id",
    or nothing was announced under that id -/
def SetWFK (k : Know1) (version dom : Nat) : SSet → Prop
  | .data tid tpl records pad =>
      256 ≤ tid ∧ tid < 65536 ∧ 4 + (records.flatMap (encRecord tpl)).length + pad < 65536 ∧
      (k version dom tid = none ∨
        (k version dom tid = some (.data tpl) ∧ (∀ r ∈ records, RecordWF tpl r) ∧
          0 < templateSize (tpl.map expField) ∧ pad < templateSize (tpl.map expField)))
  | .optsData tid scopes options records pad =>
      256 ≤ tid ∧ tid < 65536 ∧
      4 + (records.flatMap fun r => encRecord scopes r.1 ++ encRecord options r.2).length + pad < 65536 ∧
      (k version dom tid = none ∨
        ((k version dom tid = some (.v9opts scopes options) ∨ k version dom tid = some (.ipfixopts scopes options)) ∧
          (∀ r ∈ records, RecordWF scopes r.1 ∧ RecordWF options r.2) ∧
          0 < templateSize (scopes.map expField) + templateSize (options.map expField) ∧
          pad < templateSize (scopes.map expField) + templateSize (options.map expField)))
  | set => SetWF version dom [] set        -- template and options template sets: no reference to the knowledge

def SetsWFK (version dom : Nat) : Know1 → List SSet → Prop
  | _, [] => True
  | k, set :: rest => SetWFK k version dom set ∧ SetsWFK version dom (k.afterSet version dom set) rest

def MsgWFK (k : Know1) (m : Msg) : Prop :=
  (m.version = 9 ∨ m.version = 10) ∧ m.count < 65536 ∧ m.uptime < 2 ^ 32 ∧ m.time < 2 ^ 32 ∧ m.seq < 2 ^ 32 ∧
  m.domain < 2 ^ 32 ∧ SetsWFK m.version m.domain k m.sets ∧
  (m.version = 9 → m.sets.length ≤ m.count) ∧
  (m.version = 10 → 16 + (m.sets.flatMap (encSSet m.version)).length < 65536)

instance (k : Know1) (v d : Nat) (set : SSet) : Decidable (SetWFK k v d set) := by
  cases set <;> unfold SetWFK <;> infer_instance
def SetsWFK.dec (v d : Nat) : (k : Know1) → (sets : List SSet) → Decidable (SetsWFK v d k sets)
  | _, [] => isTrue trivial
  | k, set :: rest =>
    match SetsWFK.dec v d (k.afterSet v d set) rest with
    | isTrue h => if hs : SetWFK k v d set then isTrue ⟨hs, h⟩ else isFalse (fun h' => hs h'.1)
    | isFalse h => isFalse (fun h' => h h'.2)
instance (v d : Nat) (k : Know1) (sets : List SSet) : Decidable (SetsWFK v d k sets) := SetsWFK.dec v d k sets
instance (k : Know1) (m : Msg) : Decidable (MsgWFK k m) := by unfold MsgWFK; infer_instance

def setCountK (k : Know1) (version dom : Nat) : SSet → Nat
  | .data tid _ recs _ => if (k version dom tid).isSome then recs.length else 0
  | _ => 0

/-- the data records of the data sets whose template was announced before the set, by an earlier
    datagram of the same exporter or earlier in the message -/
def countK (version dom : Nat) : Know1 → List SSet → Nat
  | _, [] => 0
  | k, set :: rest => setCountK k version dom set + countK version dom (k.afterSet version dom set) rest

def setFlowRecordsK (k : Know1) (version dom : Nat) : SSet → List (List DataField)
  | .data tid tpl recs _ => if (k version dom tid).isSome then recs.map (expRecord tpl) else []
  | _ => []

def knownRecordsK (version dom : Nat) : Know1 → List SSet → List (List DataField)
  | _, [] => []
  | k, set :: rest => setFlowRecordsK k version dom set ++ knownRecordsK version dom (k.afterSet version dom set) rest

def RecordsConvertK (cfg : Config) (k : Know1) (m : Msg) : Prop :=
  ∀ r ∈ knownRecordsK m.version m.domain k m.sets, ∃ x, recordMsg cfg m r = .ok x

inductive Dgram where
  | v5 (h : V5.Header) (rs : List V5.Record)
  | nf (m : Msg)
  | sflow (d : Spec.Sflow.Datagram)

def Dgram.encode : Dgram → Bytes
  | .v5 h rs => Spec.V5.encode h rs
  | .nf m => Spec.Netflow.encode m
  | .sflow d => Spec.Sflow.encode d

structure Event where
  src : Src
  recv : Nat
  dgram : Dgram

def Event.WF (cfg : Config) (K : Know) (e : Event) : Prop :=
  match e.dgram with
  | .v5 h rs => Spec.V5.HeaderWF h ∧ (∀ r ∈ rs, Spec.V5.RecordWF r) ∧ rs.length = h.count
  | .nf m => MsgWFK (K e.src) m ∧ RecordsConvertK cfg (K e.src) m
  | .sflow d => C04.DatagramWF d ∧ SamplesConvert cfg d

def Event.count (K : Know) (e : Event) : Nat :=
  match e.dgram with
  | .v5 _ rs => rs.length
  | .nf m => countK m.version m.domain (K e.src) m.sets
  | .sflow d => Spec.Sflow.flowSamples d

/-- only v9 / IPFIX messages change the knowledge, and only that of their own exporter -/
def Know.step (K : Know) (e : Event) : Know :=
  match e.dgram with
  | .nf m => fun s => if s = e.src then (K s).afterSets m.version m.domain m.sets else K s
  | _ => K

def HistoryWF (cfg : Config) : Know → List Event → Prop
  | _, [] => True
  | K, e :: es => e.WF cfg K ∧ HistoryWF cfg (K.step e) es

def specCounts : Know → List Event → List Nat
  | _, [] => []
  | K, e :: es => e.count K :: specCounts (K.step e) es

def runCounts (kind : Kind) (cfg : Config) : State → List Event → List Nat
  | _, [] => []
  | st, e :: es =>
    let o := decodeFlow kind cfg st e.src e.recv e.dgram.encode
    o.msgs.length :: runCounts kind cfg o.state es

def Layout.toTemplate (tid : Nat) : Layout → Template
  | .data fs => .data ⟨tid, fs.length, fs.map expField⟩
  | .v9opts sc op => .v9opts ⟨tid, 4 * sc.length, 4 * op.length, sc.map expField, op.map expField⟩
  | .ipfixopts sc op => .ipfixopts ⟨tid, sc.length + op.length, sc.length, op.map expField, sc.map expField⟩

/-- the store of one exporter holds exactly the announced layouts, under the packed keys -/
def Refines (k : Know1) (s : Store) : Prop :=
  ∀ v d i, d < 2 ^ 32 → i < 2 ^ 16 → s.get (templateKey v d i) = (k v d i).map (Layout.toTemplate i)

def Inv (K : Know) (st : State) : Prop := ∀ src, Refines (K src) (st.templatesOf src)

private theorem refines_add (k : Know1) (s : Store) (version dom tid : Nat) (l : Layout)
    (h : Refines k s) (hd : dom < 2 ^ 32) (ht : tid < 2 ^ 16) :
    Refines (k.add version dom tid l) (s.add (templateKey version dom tid) (l.toTemplate tid)) := by
  intro v d i hd' hi'
  rw [C06.store_refines]
  unfold Know1.add
  by_cases hk : v = version ∧ d = dom ∧ i = tid
  · obtain ⟨rfl, rfl, rfl⟩ := hk
    simp
  · have : templateKey v d i ≠ templateKey version dom tid := by
      intro he
      exact hk (C06.templateKey_injective v d i version dom tid hi' ht hd' hd he)
    simp only [this, if_false, hk]
    exact h v d i hd' hi'

private theorem refines_learn (version dom : Nat) (hd : dom < 2 ^ 32) (anns : List (Nat × Layout))
    (ht : ∀ a ∈ anns, a.1 < 2 ^ 16) (k : Know1) (s : Store) (h : Refines k s) :
    Refines (k.learn version dom anns)
      (addTemplates version dom s (anns.map fun a => (a.1, a.2.toTemplate a.1))) := by
  induction anns generalizing k s with
  | nil => exact h
  | cons a rest ih =>
    obtain ⟨tid, l⟩ := a
    simp only [List.map_cons, addTemplates, Know1.learn]
    exact ih (fun a ha => ht a (by simp [ha])) _ _ (refines_add k s version dom tid l h hd (ht (tid, l) (by simp)))

private theorem announces_eq (set : SSet) :
    announces set = (announcesL set).map fun a => (a.1, a.2.toTemplate a.1) := by
  cases set <;> simp [announces, announcesL, Layout.toTemplate, List.map_map, Function.comp_def]

private theorem setWFK_sound (k : Know1) (s : Store) (version dom : Nat) (set : SSet)
    (hr : Refines k s) (hd : dom < 2 ^ 32) (h : SetWFK k version dom set) :
    SetWFU version dom s set ∧
    setFlowRecords version dom s set = setFlowRecordsK k version dom set ∧
    (setFlowRecordsK k version dom set).length = setCountK k version dom set ∧
    Refines (k.afterSet version dom set) (setStore version dom s set) := by
  have hstep : (∀ a ∈ announcesL set, a.1 < 2 ^ 16) →
      Refines (k.afterSet version dom set) (setStore version dom s set) := by
    intro ht
    unfold Know1.afterSet setStore
    rw [announces_eq]
    exact refines_learn version dom hd _ ht k s hr
  cases set with
  | data tid tpl records pad =>
    obtain ⟨h1, h2, h3, h4⟩ := h
    have hg := hr version dom tid hd (by simpa using h2)
    refine ⟨?_, ?_, ?_, hstep (by simp [announcesL])⟩
    · rcases h4 with h4 | ⟨h4, h5, h6, h7⟩
      · right
        rw [h4] at hg
        exact ⟨h1, h2, hg, h3⟩
      · left
        rw [h4] at hg
        exact ⟨h1, h2, hg, h5, h6, h7, h3⟩
    · simp only [setFlowRecords, isUnknown, setFlowRecordsK, hg]
      cases k version dom tid <;> simp
    · simp only [setFlowRecordsK, setCountK]
      cases k version dom tid <;> simp
  | optsData tid scopes options records pad =>
    obtain ⟨h1, h2, h3, h4⟩ := h
    have hg := hr version dom tid hd (by simpa using h2)
    refine ⟨?_, by simp [setFlowRecords, setFlowRecordsK], by simp [setFlowRecordsK, setCountK], hstep (by simp [announcesL])⟩
    rcases h4 with h4 | ⟨h4, h5, h6, h7⟩
    · right
      rw [h4] at hg
      exact ⟨h1, h2, hg, h3⟩
    · left
      refine ⟨h1, h2, ?_, h5, h6, h7, h3⟩
      rcases h4 with h4 | h4
      · left; rw [h4] at hg; exact hg
      · right; rw [h4] at hg; exact hg
  | template recs pad | v9opts recs pad | ipfixopts recs pad =>
    refine ⟨Or.inl h, by simp [setFlowRecords, setFlowRecordsK], by simp [setFlowRecordsK, setCountK], hstep ?_⟩
    intro a ha
    simp only [announcesL, List.mem_map] at ha
    obtain ⟨r, hr', rfl⟩ := ha
    exact (h.2.1 r hr').1

private theorem setsWFK_sound (version dom : Nat) (hd : dom < 2 ^ 32) (sets : List SSet) (k : Know1) (s : Store)
    (hr : Refines k s) (h : SetsWFK version dom k sets) :
    SetsWFU version dom s sets ∧
    knownRecords version dom s sets = knownRecordsK version dom k sets ∧
    (knownRecordsK version dom k sets).length = countK version dom k sets ∧
    Refines (k.afterSets version dom sets) (storeAfter version dom s sets) := by
  induction sets generalizing k s with
  | nil => exact ⟨trivial, rfl, rfl, hr⟩
  | cons set rest ih =>
    obtain ⟨h1, h2⟩ := h
    obtain ⟨a, b, b2, c⟩ := setWFK_sound k s version dom set hr hd h1
    obtain ⟨a', b', b2', c'⟩ := ih _ _ c h2
    refine ⟨⟨a, a'⟩, ?_, ?_, ?_⟩
    · simp only [knownRecords, knownRecordsK, b, b']
    · simp only [knownRecordsK, List.length_append, countK, b2, b2']
    · simpa [Know1.afterSets, storeAfter] using c'

/-- **soundness of the knowledge**: a message that is well-formed relative to what the exporter
    announced so far is so relative to the collector's store, and the collector uses exactly the
    data sets the knowledge says it can use -/
theorem msgWFK_sound (k : Know1) (s : Store) (m : Msg) (hr : Refines k s) (h : MsgWFK k m) :
    MsgWFU s m ∧
    knownRecords m.version m.domain s m.sets = knownRecordsK m.version m.domain k m.sets ∧
    knownFlowRecords m.version m.domain s m.sets = countK m.version m.domain k m.sets ∧
    Refines (k.afterSets m.version m.domain m.sets) (storeAfter m.version m.domain s m.sets) := by
  obtain ⟨h1, h2, h3, h4, h5, h6, h7, h8, h9⟩ := h
  obtain ⟨a, b, b2, c⟩ := setsWFK_sound m.version m.domain h6 m.sets k s hr h7
  exact ⟨⟨h1, h2, h3, h4, h5, h6, a, h8, h9⟩, b, by rw [knownFlowRecords, b, b2], c⟩

private theorem mem_knownRecordsK (version dom : Nat) (k : Know1) (sets : List SSet) (r : List DataField)
    (h : r ∈ knownRecordsK version dom k sets) :
    ∃ tid tpl recs pad vals, SSet.data tid tpl recs pad ∈ sets ∧ vals ∈ recs ∧ r = expRecord tpl vals := by
  induction sets generalizing k with
  | nil => cases h
  | cons set rest ih =>
    simp only [knownRecordsK, List.mem_append] at h
    rcases h with h | h
    · cases set with
      | data tid tpl recs pad =>
        simp only [setFlowRecordsK] at h
        split at h
        · obtain ⟨vals, hv, rfl⟩ := List.mem_map.1 h
          exact ⟨tid, tpl, recs, pad, vals, by simp, hv, rfl⟩
        · cases h
      | _ => simp [setFlowRecordsK] at h
    · obtain ⟨tid, tpl, recs, pad, vals, h1, h2, h3⟩ := ih _ h
      exact ⟨tid, tpl, recs, pad, vals, by simp [h1], h2, h3⟩

theorem recordsConvertK_of_widths (cfg : Config) (hcfg : C01.NoMappings cfg) (k : Know1) (m : Msg) (hw : WidthsOK m) :
    RecordsConvertK cfg k m := by
  intro r hr
  obtain ⟨tid, tpl, recs, pad, vals, h1, h2, rfl⟩ := mem_knownRecordsK _ _ _ _ _ hr
  exact convertFields_ok cfg hcfg _ _ _ tpl vals (hw _ h1 vals h2) _

theorem history_step (cfg : Config) (K : Know) (st : State) (e : Event) (hinv : Inv K st) (hwf : e.WF cfg K) :
    (decodeFlow .auto cfg st e.src e.recv e.dgram.encode).msgs.length = e.count K ∧
    Inv (K.step e) (decodeFlow .auto cfg st e.src e.recv e.dgram.encode).state := by
  obtain ⟨src, recv, dg⟩ := e
  cases dg with
  | v5 h rs =>
    obtain ⟨hw, hrs, hc⟩ := hwf
    have heq := v5_auto_eq cfg st src recv h rs []
    have hp := v5_pipe_messages_trunc cfg st src recv h rs [] hw hrs (by decide)
    simp only [List.append_nil] at heq hp
    simp only [Dgram.encode, decodeFlow, heq, hp, Event.count, Know.step, List.length_map, ← hc, List.take_length]
    refine ⟨trivial, ?_⟩
    intro src'
    by_cases hs : src' = src
    · subst hs; rw [templatesOf_setTemplates]; exact hinv src'
    · have := C06.exporter_isolation cfg st src src' recv (Spec.V5.encode h rs) hs
      rw [hp] at this
      simp only at this
      rw [this]; exact hinv src'
  | nf m =>
    obtain ⟨hk, hconv⟩ := hwf
    simp only at hk
    obtain ⟨hU, hrecs, hcount, href⟩ := msgWFK_sound (K src) (st.templatesOf src) m (hinv src) hk
    have heq := netflow_auto_eq cfg st src recv m hk.1 hk.2.1
    have hconv' : RecordsConvert cfg (st.templatesOf src) m := by
      intro r hr
      rw [hrecs] at hr
      exact hconv r hr
    obtain ⟨_, h2, _, h4⟩ := netflow_pipe_messages cfg st src recv m hU hconv'
    simp only [Dgram.encode, heq, Event.count, Know.step]
    refine ⟨by rw [h2, hcount], ?_⟩
    intro src'
    by_cases hs : src' = src
    · subst hs; simp only [if_true]; rw [h4]; exact href
    · simp only [hs, if_false]
      rw [C06.exporter_isolation cfg st src src' recv (encode m) hs]
      exact hinv src'
  | sflow d =>
    obtain ⟨hw, hconv⟩ := hwf
    obtain ⟨_, _, h3, h4⟩ := sflow_pipe_messages cfg st recv d hw hconv
    simp only [Dgram.encode, sflow_auto_eq, Event.count, Know.step, h3, h4]
    exact ⟨trivial, hinv⟩

theorem history_counts_from (cfg : Config) (es : List Event) (K : Know) (st : State)
    (hinv : Inv K st) (hwf : HistoryWF cfg K es) :
    runCounts .auto cfg st es = specCounts K es := by
  induction es generalizing K st with
  | nil => rfl
  | cons e es ih =>
    obtain ⟨h1, h2⟩ := hwf
    obtain ⟨a, b⟩ := history_step cfg K st e hinv h1
    simp only [runCounts, specCounts, a, ih _ _ b h2]

/-- **C07 (d)** — a whole history of well-formed datagrams of several exporters through the
    auto pipe: the message count of the i-th call is the specification-side count of the i-th
    datagram under the template knowledge accumulated from the earlier datagrams of the same
    exporter (UDP source) -/
theorem history_counts (cfg : Config) (es : List Event) (hwf : HistoryWF cfg Know.empty es) :
    runCounts .auto cfg {} es = specCounts Know.empty es :=
  history_counts_from cfg es Know.empty {} (by intro src v d i _ _; rfl) hwf

/-- without custom mappings the conversion hypotheses become the decidable width condition
    (v9 / IPFIX) or disappear (sFlow) -/
def Event.WFD (K : Know) (e : Event) : Prop :=
  match e.dgram with
  | .v5 h rs => Spec.V5.HeaderWF h ∧ (∀ r ∈ rs, Spec.V5.RecordWF r) ∧ rs.length = h.count
  | .nf m => MsgWFK (K e.src) m ∧ WidthsOK m
  | .sflow d => C04.DatagramWF d

def HistoryWFD : Know → List Event → Prop
  | _, [] => True
  | K, e :: es => e.WFD K ∧ HistoryWFD (K.step e) es

theorem historyWF_of_default (cfg : Config) (hcfg : C01.NoMappings cfg) (es : List Event) (K : Know)
    (h : HistoryWFD K es) : HistoryWF cfg K es := by
  induction es generalizing K with
  | nil => trivial
  | cons e es ih =>
    obtain ⟨h1, h2⟩ := h
    refine ⟨?_, ih _ h2⟩
    obtain ⟨src, recv, dg⟩ := e
    cases dg with
    | v5 h rs => exact h1
    | nf m => exact ⟨h1.1, recordsConvertK_of_widths cfg hcfg _ m h1.2⟩
    | sflow d => exact ⟨h1, samplesConvert_of_noLayers cfg hcfg.1 d⟩

/-- **C07 (d), default configuration** -/
theorem history_counts_default (cfg : Config) (hcfg : C01.NoMappings cfg) (es : List Event)
    (hwf : HistoryWFD Know.empty es) :
    runCounts .auto cfg {} es = specCounts Know.empty es :=
  history_counts cfg es (historyWF_of_default cfg hcfg es _ hwf)

theorem history_counts_get (cfg : Config) (es : List Event) (hwf : HistoryWF cfg Know.empty es) (i : Nat) :
    (runCounts .auto cfg {} es)[i]? = (specCounts Know.empty es)[i]? := by
  rw [history_counts cfg es hwf]

end History

/-! Non-vacuity: concrete datagrams meet the hypotheses, and the model evaluates as the theorems say. -/
section Examples
open Goflow.Spec.Netflow Goflow.C03

def exSrcA : Src := ⟨[192, 0, 2, 1], 2055⟩
def exSrcB : Src := ⟨[192, 0, 2, 2], 2055⟩
def exCfg : Config := {}
theorem exCfg_noMappings : C01.NoMappings exCfg := ⟨rfl, rfl, rfl⟩

def exTpl : List SField := [⟨8, 4, none⟩, ⟨12, 4, none⟩, ⟨1, 4, none⟩, ⟨2, 2, none⟩]

/-- IPFIX: a template set followed by two data sets of that template (2 + 1 records) -/
def exKnown : Msg := ⟨10, 0, 0, 1700000000, 42, 7, [
  .template [(256, exTpl)] 0,
  .data 256 exTpl
    [[⟨[10, 0, 0, 1], false⟩, ⟨[10, 0, 0, 2], false⟩, ⟨[0, 0, 5, 220], false⟩, ⟨[0, 3], false⟩],
     [⟨[10, 0, 0, 3], false⟩, ⟨[10, 0, 0, 4], false⟩, ⟨[0, 0, 0, 64], false⟩, ⟨[0, 1], false⟩]] 0,
  .data 256 exTpl
    [[⟨[10, 0, 0, 5], false⟩, ⟨[10, 0, 0, 6], false⟩, ⟨[0, 0, 1, 0], false⟩, ⟨[0, 2], false⟩]] 2]⟩

/-- the same, with an options template, its options data (sampling interval 100) and a data set
    of a template that was never announced (2 records the collector cannot use) -/
def exMixed : Msg := { exKnown with sets := exKnown.sets ++ [
  .ipfixopts [(257, [⟨1, 4, none⟩], [⟨34, 4, none⟩])] 2,
  .optsData 257 [⟨1, 4, none⟩] [⟨34, 4, none⟩] [([⟨[0, 0, 0, 1], false⟩], [⟨[0, 0, 0, 100], false⟩])] 0,
  .data 300 [⟨4, 1, none⟩] [[⟨[6], false⟩], [⟨[17], false⟩]] 0] }

/-- a later message of the same exporter that only carries data of template 256 -/
def exDataOnly : Msg := ⟨10, 0, 0, 1700000060, 43, 7, [
  .data 256 exTpl
    [[⟨[10, 0, 0, 7], false⟩, ⟨[10, 0, 0, 8], false⟩, ⟨[0, 0, 0, 40], false⟩, ⟨[0, 1], false⟩]] 0]⟩

/-- a numeric element (octetDeltaCount) announced on 16 bytes: its records do not convert -/
def exWide : Msg := ⟨10, 0, 0, 1700000000, 42, 7, [
  .template [(256, [⟨1, 16, none⟩])] 0,
  .data 256 [⟨1, 16, none⟩] [[⟨List.replicate 16 1, false⟩]] 0]⟩

private theorem exKnown_wf : MsgWF [] exKnown ∧ WidthsOK exKnown ∧ flowRecords exKnown = 3 := by decide +kernel
private theorem exMixed_wf : MsgWFU [] exMixed ∧ ¬ MsgWF [] exMixed ∧ WidthsOK exMixed ∧ flowRecords exMixed = 5 ∧
    knownFlowRecords 10 7 [] exMixed.sets = 3 ∧ anyUnknown 10 7 [] exMixed.sets = true := by decide +kernel

set_option maxRecDepth 100000 in
example : MsgWF [] exKnown ∧ WidthsOK exKnown ∧ flowRecords exKnown = 3 := exKnown_wf
set_option maxRecDepth 100000 in
example : MsgWFU [] exMixed ∧ ¬ MsgWF [] exMixed ∧ WidthsOK exMixed ∧ flowRecords exMixed = 5 ∧
    knownFlowRecords 10 7 [] exMixed.sets = 3 ∧ anyUnknown 10 7 [] exMixed.sets = true := exMixed_wf
set_option maxRecDepth 100000 in
example : MsgWF [] exWide ∧ ¬ WidthsOK exWide := by decide +kernel

example := netflow_pipe_messages_known exCfg {} exSrcA 5 exKnown exKnown_wf.1
  (recordsConvert_of_widths exCfg exCfg_noMappings _ _ exKnown_wf.2.1)
example := netflow_pipe_messages_default exCfg exCfg_noMappings {} exSrcA 5 exMixed exMixed_wf.1 exMixed_wf.2.2.1

/-- three messages for the three records of the known template, none for templates, options and the
    set of the unknown template, which is reported as template-not-found; the sampling rate of the
    options record is stamped on every message -/
example :
    (netflowPipe exCfg {} exSrcA 5 (encode exKnown)).msgs.length = 3 ∧
    (netflowPipe exCfg {} exSrcA 5 (encode exKnown)).err = none ∧
    (netflowPipe exCfg {} exSrcA 5 (encode exMixed)).err = some .tnf ∧
    (netflowPipe exCfg {} exSrcA 5 (encode exMixed)).msgs.map (fun x => (x.srcAddr, x.bytes, x.packets, x.samplingRate)) =
      [([10, 0, 0, 1], 1500, 3, 100), ([10, 0, 0, 3], 64, 1, 100), ([10, 0, 0, 5], 256, 2, 100)] ∧
    -- conversion failure: nothing at all
    (netflowPipe exCfg {} exSrcA 5 (encode exWide)).msgs = [] ∧
    (netflowPipe exCfg {} exSrcA 5 (encode exWide)).err = some .bad := by decide +kernel

def exV5Header : V5.Header := ⟨2, 1000, 1700000000, 5, 42, 0, 0, 16385⟩
def exV5Records : List V5.Record := [
  ⟨0x0a000001, 0x0a000002, 0, 1, 2, 10, 1000, 500, 900, 443, 55000, 0, 0x18, 6, 0, 65000, 65001, 24, 24, 0⟩,
  ⟨0x0a000003, 0x0a000004, 0, 2, 1, 1, 40, 600, 600, 53, 40000, 0, 0, 17, 0, 65001, 65000, 24, 24, 0⟩]

example := v5_pipe_messages exCfg {} exSrcA 5 exV5Header exV5Records (by decide) (by decide) rfl
example : (netflowPipe exCfg {} exSrcA 5 (Spec.V5.encode exV5Header exV5Records)).msgs.map (fun x => (x.srcPort, x.bytes)) =
    [(443, 1000), (53, 40)] := by decide +kernel

/-- sFlow: C04's example datagram carries a flow sample, a counter sample and a drop sample -/
example := sflow_pipe_messages_default exCfg rfl {} 5 C04.exampleDatagram C04.exampleDatagram_wf
example : Spec.Sflow.flowSamples C04.exampleDatagram = 1 ∧
    (sflowPipe exCfg {} 5 (Spec.Sflow.encode C04.exampleDatagram)).msgs.length = 1 ∧
    (sflowPipe exCfg {} 5 (Spec.Sflow.encode C04.exampleDatagram)).err = none := by decide +kernel

/-- a history over two exporters: A announces template 256 and uses it; B uses id 256 without ever
    announcing it (unknown to the collector *for B*: nothing is emitted); A uses it again in a later
    datagram without re-announcing it; then a v5 and an sFlow datagram -/
def exHistory : List Event := [
  ⟨exSrcA, 1, .nf exMixed⟩,
  ⟨exSrcB, 2, .nf exDataOnly⟩,
  ⟨exSrcA, 3, .nf exDataOnly⟩,
  ⟨exSrcB, 4, .v5 exV5Header exV5Records⟩,
  ⟨exSrcA, 5, .sflow C04.exampleDatagram⟩]

private theorem exHistory_wfd : HistoryWFD Know.empty exHistory :=
  ⟨⟨by decide +kernel, exMixed_wf.2.2.1⟩, ⟨by decide +kernel, by decide +kernel⟩, ⟨by decide +kernel, by decide +kernel⟩,
   ⟨by decide, by decide, rfl⟩, C04.exampleDatagram_wf, trivial⟩

theorem exHistory_wf : HistoryWF exCfg Know.empty exHistory :=
  historyWF_of_default exCfg exCfg_noMappings exHistory _ exHistory_wfd

example : specCounts Know.empty exHistory = [3, 0, 1, 2, 1] := by decide +kernel
example : runCounts .auto exCfg {} exHistory = [3, 0, 1, 2, 1] := by decide +kernel
example : runCounts .auto exCfg {} exHistory = specCounts Know.empty exHistory := history_counts _ _ exHistory_wf

set_option maxRecDepth 100000 in
example : HistoryWFD Know.empty exHistory := exHistory_wfd

end Examples

end Goflow.C07E2E
