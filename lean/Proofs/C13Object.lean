import Proofs.C13Json
/-!
  C13 — the JSON form is one well-formed JSON object: numbers, arrays, members, and the assembly
  `{"name":value,…}` against the recogniser of Goflow.Spec.Json (which every run compares with
  encoding/json's own verdict on generated and mutated texts).
-/
namespace Goflow.C13
open Goflow Goflow.Format Goflow.Spec.Json

theorem isDigit_digit : ∀ k : Fin 10, isDigit (UInt8.ofNat (48 + k.val)) = true := by decide
theorem digit_zero : ∀ k : Fin 10, UInt8.ofNat (48 + k.val) = 0x30 → k.val = 0 := by decide

theorem digitsOf_spec (fuel n : Nat) (h : n < fuel) :
    ∃ d ds, digitsOf fuel n = d :: ds ∧ isDigit d = true ∧ (∀ x ∈ ds, isDigit x = true) ∧ (d = 0x30 → n = 0) ∧ (n = 0 → ds = []) := by
  induction fuel generalizing n with
  | zero => omega
  | succ f ih =>
    unfold digitsOf
    by_cases hn : n < 10
    · simp only [hn, if_true]
      exact ⟨_, [], rfl, isDigit_digit ⟨n, hn⟩, by simp, digit_zero ⟨n, hn⟩, fun _ => rfl⟩
    · simp only [hn, if_false]
      obtain ⟨d, ds, e, hd, hds, hz, _⟩ := ih (n / 10) (by omega)
      refine ⟨d, ds ++ [UInt8.ofNat (48 + n % 10)], by rw [e]; rfl, hd, ?_, ?_, ?_⟩
      · intro x hx
        rcases List.mem_append.mp hx with h1 | h1
        · exact hds x h1
        · have h2 := List.mem_singleton.mp h1; subst h2; exact isDigit_digit ⟨n % 10, Nat.mod_lt _ (by decide)⟩
      · intro h0; have := hz h0; omega
      · intro h0; omega

def NumEnd : Bytes → Prop
  | [] => True
  | c :: _ => isDigit c = false ∧ c ≠ 0x2e ∧ c ≠ 0x65 ∧ c ≠ 0x45

theorem digits_app (ds t : Bytes) (hd : ∀ x ∈ ds, isDigit x = true) (ht : NumEnd t) : digits (ds ++ t) = t := by
  induction ds with
  | nil =>
    cases t with
    | nil => rfl
    | cons c r => simp only [List.nil_append, digits]; simp [ht.1]
  | cons x xs ih =>
    simp only [List.cons_append, digits, hd x (by simp), if_true]
    exact ih (fun y hy => hd y (by simp [hy]))

theorem number_decimal (n : Nat) (t : Bytes) (ht : NumEnd t) : number (decimal n ++ t) = some t := by
  obtain ⟨d, ds, e, hd, hds, hz, hz'⟩ := digitsOf_spec (n + 1) n (by omega)
  unfold decimal
  rw [e]
  have hnm : d ≠ 0x2d := by intro h; subst h; simp [isDigit] at hd
  have r1 : (if d = 0x30 then ds ++ t else digits (ds ++ t)) = t := by
    by_cases h0 : d = 0x30
    · simp [h0, hz' (hz h0)]
    · simp [h0, digits_app ds t hds ht]
  unfold number
  simp only [List.cons_append, List.head?_cons, Option.some.injEq, hnm, if_false, hd, Bool.not_true, Bool.false_eq_true, r1]
  cases t with
  | nil => simp
  | cons c r =>
    have := ht
    simp only [NumEnd] at this
    simp [this.2.1, this.2.2.1, this.2.2.2]

/-- what follows a value inside an array or object: `,` `}` `]` -/
def Follow (t : Bytes) : Prop := ∃ c r, t = c :: r ∧ (c = 0x2c ∨ c = 0x7d ∨ c = 0x5d)

theorem Follow.numEnd {t : Bytes} (h : Follow t) : NumEnd t := by
  obtain ⟨c, r, e, hc⟩ := h
  subst e
  rcases hc with h | h | h <;> subst h <;> exact ⟨by decide, by decide, by decide, by decide⟩

theorem skipWs_nonws (b : UInt8) (r : Bytes) (h : isWs b = false) : skipWs (b :: r) = b :: r := by
  simp [skipWs, h]

theorem Follow.skip {t : Bytes} (h : Follow t) : skipWs t = t := by
  obtain ⟨c, r, e, hc⟩ := h
  subst e
  rcases hc with h | h | h <;> subst h <;> exact skipWs_nonws _ _ (by decide)

/-- `bs` is read as one JSON value by `value` with at least `k` units of fuel, whatever follows -/
def ValOK (k : Nat) (bs : Bytes) : Prop := ∀ fuel t, k ≤ fuel → Follow t → value fuel (bs ++ t) = some t

theorem valOK_mono {k k' : Nat} {bs : Bytes} (h : ValOK k bs) (hk : k ≤ k') : ValOK k' bs :=
  fun fuel t hf ht => h fuel t (by omega) ht

theorem valOK_string (v : Bytes) : ValOK 1 (jsonQuote v) := by
  intro fuel t hf _
  obtain ⟨f, rfl⟩ : ∃ f, fuel = f + 1 := ⟨fuel - 1, by omega⟩
  obtain ⟨body, e, hb⟩ := jsonQuote_valid v t
  rw [e]
  simp only [List.cons_append, value, skipWs_nonws 0x22 _ (by decide), if_true]
  exact hb

theorem digit_head_facts : ∀ d : UInt8, isDigit d = true →
    isWs d = false ∧ d ≠ 0x22 ∧ d ≠ 0x7b ∧ d ≠ 0x5b ∧ d ≠ 0x74 ∧ d ≠ 0x66 ∧ d ≠ 0x6e := by
  intro d hd
  have hl : 0x30 ≤ d ∧ d ≤ 0x39 := by simpa [isDigit] using hd
  have h1 : 48 ≤ d.toNat := by simpa [UInt8.le_iff_toNat_le] using hl.1
  have h2 : d.toNat ≤ 57 := by simpa [UInt8.le_iff_toNat_le] using hl.2
  refine ⟨?_, ?_, ?_, ?_, ?_, ?_, ?_⟩
  · simp only [isWs, Bool.or_eq_false_iff, beq_eq_false_iff_ne]
    refine ⟨⟨⟨?_, ?_⟩, ?_⟩, ?_⟩ <;> (intro e; subst e; simp at h1)
  all_goals (intro e; subst e; first | (simp at h2; done) | (simp at h1; done))

theorem valOK_decimal (n : Nat) : ValOK 1 (decimal n) := by
  intro fuel t hf ht
  obtain ⟨f, rfl⟩ : ∃ f, fuel = f + 1 := ⟨fuel - 1, by omega⟩
  obtain ⟨d, ds, e, hd, _⟩ := digitsOf_spec (n + 1) n (by omega)
  have hnum := number_decimal n t ht.numEnd
  unfold decimal at hnum ⊢
  rw [e] at hnum ⊢
  obtain ⟨w, q1, q2, q3, q4, q5, q6⟩ := digit_head_facts d hd
  simp only [List.cons_append, value, skipWs_nonws d _ w, q1, q2, q3, q4, q5, q6, if_false, hd, or_true, if_true]
  exact hnum

def joinC : List Bytes → Bytes
  | [] => []
  | [v] => v
  | v :: w :: rest => v ++ 0x2c :: joinC (w :: rest)

/-- not white space and not a closing bracket -/
def Head (v : Bytes) : Prop := ∃ c r, v = c :: r ∧ isWs c = false ∧ c ≠ 0x5d ∧ c ≠ 0x7d

def total (vs : List Bytes) : Nat := (vs.map List.length).sum

theorem le_total {vs : List Bytes} {v : Bytes} (h : v ∈ vs) : v.length ≤ total vs := by
  induction vs with
  | nil => cases h
  | cons x xs ih =>
    simp only [total, List.map_cons, List.sum_cons]
    rcases List.mem_cons.mp h with e | e
    · subst e; omega
    · have := ih e; simp only [total] at this; omega

/-- a comma-separated sequence up to its closing bracket, for a reader `rd` (`elements`, `members`) that
    reads one item and then goes on at a comma or stops at the bracket -/
theorem joined_ok {rd : Nat → Bytes → Option Bytes} {close : UInt8} (hclose : close = 0x7d ∨ close = 0x5d)
    (xs : List Bytes) (hne : xs ≠ []) (k : Nat)
    (step : ∀ x ∈ xs, ∀ f cont, k ≤ f → Follow cont → rd (f + 1) (x ++ cont) =
      match skipWs cont with
      | [] => none
      | d :: t' => if d = 0x2c then rd f t' else if d = close then some t' else none)
    (fuel : Nat) (hf : xs.length + k ≤ fuel) (t : Bytes) : rd fuel (joinC xs ++ close :: t) = some t := by
  induction xs generalizing fuel with
  | nil => contradiction
  | cons v rest ih =>
    obtain ⟨f, rfl⟩ : ∃ f, fuel = f + 1 := ⟨fuel - 1, by simp at hf; omega⟩
    cases rest with
    | nil =>
      rw [joinC, step v (by simp) f _ (by simp at hf; omega) ⟨_, _, rfl, Or.inr hclose⟩]
      rcases hclose with rfl | rfl
      · simp [skipWs_nonws 0x7d _ (by decide)]
      · simp [skipWs_nonws 0x5d _ (by decide)]
    | cons w rest' =>
      rw [joinC, List.append_assoc, List.cons_append,
        step v (by simp) f _ (by simp at hf; omega) ⟨_, _, rfl, Or.inl rfl⟩]
      simp only [skipWs_nonws 0x2c _ (by decide), if_true]
      exact ih (by simp) (fun x hx => step x (by simp [hx])) f (by simp at hf ⊢; omega)

theorem elements_ok (vs : List Bytes) (hne : vs ≠ []) (k : Nat) (hv : ∀ v ∈ vs, ValOK k v)
    (fuel : Nat) (hf : vs.length + k ≤ fuel) (t : Bytes) :
    elements fuel (joinC vs ++ 0x5d :: t) = some t :=
  joined_ok (Or.inr rfl) vs hne k (fun v hx f cont hk hc => by simp only [elements, hv v hx f cont hk hc]; rfl) fuel hf t

theorem joinC_head (vs : List Bytes) (hne : vs ≠ []) (hh : ∀ v ∈ vs, Head v) (t : Bytes) :
    ∃ c r, joinC vs ++ t = c :: r ∧ isWs c = false ∧ c ≠ 0x5d ∧ c ≠ 0x7d := by
  cases vs with
  | nil => contradiction
  | cons v rest =>
    obtain ⟨c, r, e, h1, h2, h3⟩ := hh v (by simp)
    subst e
    cases rest with
    | nil => exact ⟨c, r ++ t, by simp [joinC], h1, h2, h3⟩
    | cons w rest' => exact ⟨c, _, by simp [joinC]; rfl, h1, h2, h3⟩

/-- `[v1,v2,…]` -/
theorem valOK_array (vs : List Bytes) (k : Nat) (hv : ∀ v ∈ vs, ValOK k v) (hh : ∀ v ∈ vs, Head v) :
    ValOK (vs.length + k + 1) (0x5b :: joinC vs ++ [0x5d]) := by
  intro fuel t hf _
  obtain ⟨f, rfl⟩ : ∃ f, fuel = f + 1 := ⟨fuel - 1, by omega⟩
  simp only [List.cons_append, List.append_assoc, List.nil_append, value, skipWs_nonws 0x5b _ (by decide)]
  have q1 : (0x5b : UInt8) ≠ 0x22 := by decide
  have q2 : (0x5b : UInt8) ≠ 0x7b := by decide
  simp only [q1, q2, if_false, if_true]
  by_cases hne : vs = []
  · subst hne
    simp [joinC, skipWs_nonws 0x5d _ (by decide)]
  · obtain ⟨c, r, e, h1, h2, _⟩ := joinC_head vs hne hh (0x5d :: t)
    rw [e, skipWs_nonws c r h1]
    simp only [h2, if_false]
    rw [← e]
    exact elements_ok vs hne k hv f (by omega) t

def member (nv : Bytes × Bytes) : Bytes := 0x22 :: nv.1 ++ 0x22 :: 0x3a :: nv.2

theorem members_ok (ms : List (Bytes × Bytes)) (hne : ms ≠ []) (k : Nat)
    (h : ∀ nv ∈ ms, (∀ x ∈ nv.1, plain x) ∧ ValOK k nv.2)
    (fuel : Nat) (hf : ms.length + k ≤ fuel) (t : Bytes) :
    members fuel (joinC (ms.map member) ++ 0x7d :: t) = some t := by
  refine joined_ok (Or.inl rfl) _ (by simpa using hne) k ?_ fuel (by simpa using hf) t
  intro x hx f cont hk hc
  obtain ⟨nv, hnv, rfl⟩ := List.mem_map.1 hx
  obtain ⟨hp, hv⟩ := h nv hnv
  simp only [member, List.cons_append, List.append_assoc, members, skipWs_nonws 0x22 _ (by decide)]
  have q : ¬ ((0x22 : UInt8) ≠ 0x22) := by decide
  simp only [q, if_false]
  rw [strBody_plains _ _ hp, strBody_quote]
  simp only [skipWs_nonws 0x3a _ (by decide)]
  have q2 : ¬ ((0x3a : UInt8) ≠ 0x3a) := by decide
  simp only [q2, if_false]
  rw [hv f cont hk hc]
  rfl

/-- `{"n1":v1,…}` is read as one JSON value, whatever follows -/
theorem object_ok (ms : List (Bytes × Bytes)) (k : Nat) (h : ∀ nv ∈ ms, (∀ x ∈ nv.1, plain x) ∧ ValOK k nv.2)
    (fuel : Nat) (hf : ms.length + k + 1 ≤ fuel) (t : Bytes) :
    value fuel (0x7b :: joinC (ms.map member) ++ 0x7d :: t) = some t := by
  obtain ⟨f, rfl⟩ : ∃ f, fuel = f + 1 := ⟨fuel - 1, by omega⟩
  simp only [List.cons_append, value, skipWs_nonws 0x7b _ (by decide)]
  have q1 : (0x7b : UInt8) ≠ 0x22 := by decide
  simp only [q1, if_false, if_true]
  cases ms with
  | nil => simp [joinC, skipWs_nonws 0x7d _ (by decide)]
  | cons nv rest =>
    have hm := members_ok (nv :: rest) (by simp) k h f (by simp at hf ⊢; omega) t
    have hd : ∃ r, joinC ((nv :: rest).map member) ++ 0x7d :: t = 0x22 :: r := by
      cases rest with
      | nil => exact ⟨_, by simp [joinC, member]; rfl⟩
      | cons _ _ => exact ⟨_, by simp [joinC, member]; rfl⟩
    obtain ⟨r, e⟩ := hd
    rw [e] at hm ⊢
    simp only [skipWs_nonws 0x22 r (by decide)]
    have q2 : (0x22 : UInt8) ≠ 0x7d := by decide
    simp only [q2, if_false]
    exact hm

end Goflow.C13
