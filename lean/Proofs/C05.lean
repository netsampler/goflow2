import Proofs.Lemmas.Fields
import Goflow.Spec.V5
import Goflow.Generated.Layouts
/-!
  C05 — NetFlow v5 wire decoding is exact.
-/
namespace Goflow.C05
open Goflow Goflow.V5 Goflow.Spec.V5

private theorem encodeRecord_eq (r : Record) : encodeRecord r = encFields Record.widths r.toList := by
  unfold encodeRecord Record.widths Record.toList
  simp only [encFields, List.append_assoc, List.append_nil]

private theorem record_fits (r : Record) (h : RecordWF r) : Fits Record.widths r.toList := by
  simp only [RecordWF, Nat.reducePow] at h
  simp only [Fits, Record.widths, Record.toList, Nat.reducePow, and_true]
  exact h

private theorem encodeRecord_length (r : Record) : (encodeRecord r).length = 48 := by
  unfold encodeRecord
  simp only [List.length_append, encBE_length]

/-- every field of a record survives encode → decode (20 fields, in order) -/
theorem record_roundtrip (r : Record) (rest : Bytes) (h : RecordWF r) :
    readRecord (encodeRecord r ++ rest) = .ok (r, rest) := by
  unfold readRecord
  rw [encodeRecord_eq, readFields_enc _ _ _ (record_fits r h)]
  rfl

private theorem header_fits (h : Header) (hw : HeaderWF h) : Fits Header.widths h.toList := by
  simp only [HeaderWF, Nat.reducePow] at hw
  simp only [Fits, Header.widths, Header.toList, Nat.reducePow, and_true]
  exact hw

/-- all 9 header fields (version + 8) survive encode → decode -/
theorem header_roundtrip (h : Header) (rest : Bytes) (hw : HeaderWF h) :
    readU 2 (encodeHeader h ++ rest) = .ok (5, encFields Header.widths h.toList ++ rest) ∧
    readFields Header.widths (encFields Header.widths h.toList ++ rest) = .ok (h.toList, rest) ∧
    Header.ofList h.toList = some h := by
  refine ⟨?_, readFields_enc _ _ _ (header_fits h hw), rfl⟩
  have : encodeHeader h ++ rest = encBE 2 5 ++ (encFields Header.widths h.toList ++ rest) := by
    simp [encodeHeader, encFields, Header.widths, Header.toList]
  rw [this, readU_enc _ (by decide)]

/-- The record loop on `k` encoded records followed by fewer than 48 stray bytes, under any
    header count `c`: exactly the first `min c k` records, nothing else. -/
private theorem readRecords_take (c : Nat) (rs : List Record) (p : Bytes)
    (hwf : ∀ r ∈ rs, RecordWF r) (hp : p.length < 48) :
    readRecords c (rs.flatMap encodeRecord ++ p) = .ok (rs.take c) := by
  induction c generalizing rs with
  | zero => simp [readRecords]
  | succ c ih =>
    cases rs with
    | nil =>
      have : ¬ 48 ≤ p.length := by omega
      simp [readRecords, this]
    | cons r rs =>
      have hlen : 48 ≤ (List.flatMap encodeRecord (r :: rs) ++ p).length := by
        simp [encodeRecord_length]
      simp only [readRecords, hlen, if_true]
      simp only [List.flatMap_cons, List.append_assoc]
      rw [record_roundtrip r _ (hwf r (by simp))]
      simp only
      rw [ih rs (fun x hx => hwf x (by simp [hx]))]
      simp

private theorem readRecord_consumes (b b' : Bytes) (r : Record) (h : readRecord b = .ok (r, b')) :
    48 ≤ b.length ∧ b' = b.drop 48 := by
  unfold readRecord at h
  by_cases hl : sumW Record.widths ≤ b.length
  · obtain ⟨vs, e1, _, _⟩ := readFields_ok_of_le Record.widths b hl
    rw [e1] at h
    simp only at h
    have hs : sumW Record.widths = 48 := by decide
    split at h
    · cases h; exact ⟨by omega, by rw [hs]⟩
    · cases h
  · rw [readFields_err_of_lt _ _ (Nat.lt_of_not_le hl)] at h
    cases h

private theorem readRecords_bound (c : Nat) (b : Bytes) (rs : List Record)
    (h : readRecords c b = .ok rs) : 48 * rs.length ≤ b.length ∧ rs.length ≤ c := by
  induction c generalizing b rs with
  | zero => simp [readRecords] at h; subst h; simp
  | succ c ih =>
    unfold readRecords at h
    split at h
    · split at h
      · cases h
      · rename_i r b' hr
        obtain ⟨h48, hb'⟩ := readRecord_consumes _ _ _ hr
        split at h
        · cases h
        · rename_i rs' hrs
          cases h
          have := ih _ _ hrs
          subst hb'
          simp only [List.length_drop, List.length_cons] at *
          omega
    · cases h; simp

/-- Truncation / count clause: `k` complete records then a partial one, header count `c`
    arbitrary: the decoded list is exactly the first `min c k` records. -/
theorem truncation (h : Header) (rs : List Record) (p : Bytes)
    (hw : HeaderWF h) (hwf : ∀ r ∈ rs, RecordWF r) (hp : p.length < 48) :
    decodeMessageVersion (encode h rs ++ p) = .ok ⟨5, h, rs.take h.count⟩ := by
  obtain ⟨h1, h2, h3⟩ := header_roundtrip h (rs.flatMap encodeRecord ++ p) hw
  simp only [decodeMessageVersion, encode, List.append_assoc]
  rw [h1]
  simp only [ne_eq, not_true_eq_false, if_false, decodeMessage]
  rw [h2]
  simp only [h3]
  rw [readRecords_take _ _ _ hwf hp]

/-- decode (encode (H, R)) = (H, R) for every header and every record list whose length the header announces. -/
theorem roundtrip (h : Header) (rs : List Record)
    (hw : HeaderWF h) (hwf : ∀ r ∈ rs, RecordWF r) (hc : rs.length = h.count) :
    decodeMessageVersion (encode h rs) = .ok ⟨5, h, rs⟩ := by
  have := truncation h rs [] hw hwf (by decide)
  simpa [← hc] using this

/-- "nothing else", for arbitrary bytes: the decoder never returns more records than
    complete 48-byte records are present after the 24-byte header, nor more than the count. -/
theorem records_le_present (b : Bytes) (p : Packet) (h : decodeMessageVersion b = .ok p) :
    24 + 48 * p.records.length ≤ b.length ∧ p.records.length ≤ p.header.count := by
  unfold decodeMessageVersion at h
  by_cases h2 : 2 ≤ b.length
  · rw [readU_ok h2] at h
    simp only at h
    split at h
    · cases h
    · unfold decodeMessage at h
      by_cases h22 : sumW Header.widths ≤ (b.drop 2).length
      · obtain ⟨vs, e1, _, _⟩ := readFields_ok_of_le Header.widths (b.drop 2) h22
        rw [e1] at h
        simp only at h
        split at h
        · cases h
        · rename_i hd _
          split at h
          · cases h
          · rename_i rs hrs
            cases h
            have := readRecords_bound _ _ _ hrs
            simp only [List.length_drop] at this h22
            have hs : sumW Header.widths = 22 := by decide
            simp only
            omega
      · rw [readFields_err_of_lt _ _ (Nat.lt_of_not_le h22)] at h
        cases h
  · rw [readU_short (Nat.lt_of_not_le h2)] at h
    cases h

/-- non-vacuity: a concrete header/record pair meets the hypotheses -/
example : HeaderWF ⟨2, 1000, 1700000000, 5, 42, 0, 0, 16385⟩ ∧
    RecordWF ⟨0x0a000001, 0x0a000002, 0, 1, 2, 10, 1000, 500, 900, 443, 55000, 0, 0x18, 6, 0, 65000, 65001, 24, 24, 0⟩ := by
  decide

/-- The read order of the Go decoder is the one this model was written for (regenerated fact). -/
theorem layout_matches : Goflow.Generated.v5Reads =
  [("DecodeMessageVersion", [("&version", "uint16")]),
   ("DecodeMessage", [("&packet.Count", "uint16"), ("&packet.SysUptime", "uint32"), ("&packet.UnixSecs", "uint32"), ("&packet.UnixNSecs", "uint32"), ("&packet.FlowSequence", "uint32"), ("&packet.EngineType", "uint8"), ("&packet.EngineId", "uint8"), ("&packet.SamplingInterval", "uint16")]),
   ("DecodeMessage", [("&srcAddr", "uint32"), ("&dstAddr", "uint32"), ("&nextHop", "uint32"), ("&record.Input", "uint16"), ("&record.Output", "uint16"), ("&record.DPkts", "uint32"), ("&record.DOctets", "uint32"), ("&record.First", "uint32"), ("&record.Last", "uint32"), ("&record.SrcPort", "uint16"), ("&record.DstPort", "uint16"), ("&record.Pad1", "byte"), ("&record.TCPFlags", "uint8"), ("&record.Proto", "uint8"), ("&record.Tos", "uint8"), ("&record.SrcAS", "uint16"), ("&record.DstAS", "uint16"), ("&record.SrcMask", "uint8"), ("&record.DstMask", "uint8"), ("&record.Pad2", "uint16")])] :=
  rfl

end Goflow.C05
