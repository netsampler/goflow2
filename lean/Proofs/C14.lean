import Goflow.Format.Formatter
import Goflow.Spec.Bits
import Proofs.C13
/-!
  C14 — mapping files.

  The partition key is a function of exactly the configured key fields: two messages whose key fields (columns, or
  declared custom fields read back from the unknown section) have equal values get equal keys, for every
  configuration. Custom fields on the wire: the entry MapCustom appends to the unknown section for a declared field
  is read back by the formatter under the configured number and wire type.
-/
namespace Goflow.C14
open Goflow Goflow.Format Goflow.Producer

theorem foldl_ext_mem {α β} (l : List α) (g g' : β → α → β) (b : β) (h : ∀ acc, ∀ a ∈ l, g acc a = g' acc a) :
    l.foldl g b = l.foldl g' b := by
  induction l generalizing b with
  | nil => rfl
  | cons x xs ih =>
    simp only [List.foldl_cons]
    rw [h b x (by simp)]
    exact ih _ (fun acc a ha => h acc a (by simp [ha]))

/-- the value the key function reads for one configured key name -/
def keyValue (f : Fmt) (m : FlowMsg) (s : String) : Option Bytes :=
  let fieldName := match f.reMap.lookup s with
    | some go => if go ≠ "" then go else s
    | none => s
  match fieldValue m fieldName with
  | .invalid => (match (mapUnknown f m.unk).lookup s with | some u => some (percentV u) | none => none)
  | v => some (percentV v)

theorem key_eq_fold (f : Fmt) (m : FlowMsg) :
    key f m = if f.key.isEmpty then [] else
      encBE 4 (f.key.foldl (fun h s => match keyValue f m s with | some t => fnv1 t h | none => h) 2166136261) := by
  unfold key
  split
  · rfl
  · show encBE 4 _ = encBE 4 _
    congr 1
    apply foldl_ext_mem
    intro h s _
    unfold keyValue
    dsimp only
    generalize fieldValue m _ = fv
    cases fv <;> try rfl
    cases (mapUnknown f m.unk).lookup s <;> rfl

/-- the key depends on nothing but the values of the key fields -/
theorem key_function (f : Fmt) (m m' : FlowMsg) (h : ∀ s ∈ f.key, keyValue f m s = keyValue f m' s) :
    key f m = key f m' := by
  rw [key_eq_fold, key_eq_fold]
  split
  · rfl
  · congr 1
    apply foldl_ext_mem
    intro acc s hs
    rw [h s hs]

/-- no key fields configured: no key -/
theorem no_key (f : Fmt) (m : FlowMsg) (h : f.key = []) : key f m = [] := by
  unfold key; simp [h]

/-! what MapCustom appends is what the formatter (and any protobuf reader) finds under the configured number and wire type -/

theorem parseUnknown_ne (fuel : Nat) (b : Bytes) (h : b ≠ []) :
    parseUnknown (fuel + 1) b =
      match consumeVarint 10 b with
      | none => []
      | some (tag, r) =>
        let num := tag / 8
        let wt := tag % 8
        if wt = 0 then
          match consumeVarint 10 r with
          | some (v, r') => (num, wt, FV.num v 64) :: parseUnknown fuel r'
          | none => []
        else if wt = 2 then
          match consumeVarint 10 r with
          | some (n, r') => (num, wt, FV.bytes (r'.take n)) :: parseUnknown fuel (r'.drop n)
          | none => []
        else [] := by
  cases b with
  | nil => contradiction
  | cons x xs => rfl

theorem parseUnknown_nil (fuel : Nat) : parseUnknown fuel [] = [] := by cases fuel <;> rfl

/-- a varint custom field: number `i`, wire type 0, the value, followed by whatever else is carried -/
theorem custom_varint_readback (i x fuel : Nat) (rest : Bytes) (hi : i * 8 < 2 ^ 64) (hx : x < 2 ^ 64) :
    parseUnknown (fuel + 1) (appendTag i 0 ++ appendVarint x ++ rest) = (i, 0, FV.num x 64) :: parseUnknown fuel rest := by
  unfold appendTag
  rw [List.append_assoc, parseUnknown_ne _ _ (C13.appendVarint_ne _ _), Goflow.C13.varint_roundtrip _ _ (by omega)]
  have e1 : (i * 8 + 0) / 8 = i := by omega
  have e2 : (i * 8 + 0) % 8 = 0 := by omega
  simp only [e1, e2, if_true]
  rw [Goflow.C13.varint_roundtrip _ _ hx]

/-- a string / bytes custom field: number `i`, wire type 2, exactly the extracted bytes -/
theorem custom_bytes_readback (i fuel : Nat) (v rest : Bytes) (hi : i * 8 + 2 < 2 ^ 64) (hv : v.length < 2 ^ 64) :
    parseUnknown (fuel + 1) (appendTag i 2 ++ appendVarint v.length ++ v ++ rest) = (i, 2, FV.bytes v) :: parseUnknown fuel rest := by
  unfold appendTag
  rw [List.append_assoc, List.append_assoc, parseUnknown_ne _ _ (C13.appendVarint_ne _ _), Goflow.C13.varint_roundtrip _ _ hi]
  have e1 : (i * 8 + 2) / 8 = i := by omega
  have e2 : (i * 8 + 2) % 8 = 2 := by omega
  simp only [e1, e2]
  rw [Goflow.C13.varint_roundtrip _ _ hv]
  simp

/-- MapCustom into a declared varint field writes exactly such an entry behind what is already there -/
theorem mapCustom_varint (m : FlowMsg) (v : Bytes) (dest : String) (little : Bool) (i : Nat) (arr : Bool) (x : Nat)
    (hd : FlowMsg.kindOf dest = none) (hn : dest ≠ "sizeCache" ∧ dest ≠ "unknownFields" ∧ dest ≠ "state" ∧ dest ≠ "formatter" ∧
      dest ≠ "skipDelimiter" ∧ dest ≠ "FlowMessage") (hi : 0 < i) (hx : endianDecode little 64 v = .ok x) :
    mapCustom m v ⟨dest, little, i, .varint, arr⟩ = .ok { m with unk := m.unk ++ appendTag i 0 ++ appendVarint x } := by
  unfold mapCustom
  simp [hd, hn.1, hn.2.1, hn.2.2.1, hn.2.2.2.1, hn.2.2.2.2.1, hn.2.2.2.2.2, hi, hx]

end Goflow.C14
