import Goflow.Pool
import Goflow.Generated.Pool
/-!
  C12 with the message pool inside the model. `Goflow.Pool` threads an explicit sync.Pool (arbitrary content,
  arbitrary choices of `Get`) through the three creation loops, `Produce` and the deferred `Commit` of `DecodeFlow`.
  For every pool and oracle one `DecodeFlow`, and hence every history, gives what the pool-less `Goflow.Pipe.decodeFlow`
  gives (`decodeFlowP_eq`, `history_pool_free`); `leak_without_reset` shows that this rests on the `Reset()` after
  `Get`. `skipDelimiter`, which `Reset` does not clear, stays false because no non-test code writes it
  (`history_plain`). `state_inventory` compares the regenerated list of everything that outlives a datagram with
  what the model accounts for.
-/
namespace Goflow.C12Pool
open Goflow Goflow.Producer Goflow.Pipe Goflow.Pool

theorem take_true_flow (s : PS) : (take true s).1.flow = FlowMsg.empty := by
  simp [take, Pooled.reset]

theorem on_empty_legacy (bt up : Nat) (r : V5.Record) :
    convertLegacyRecordOn FlowMsg.empty bt up r = convertLegacyRecord bt up r := rfl

theorem on_empty_netflow (cfg : Option Config) (v bt up : Nat) (rec : List Netflow.DataField) :
    convertNetFlowDataSetOn FlowMsg.empty cfg v bt up rec = convertNetFlowDataSet cfg v bt up rec := rfl

theorem on_empty_sample (cfg : Option Config) (smp : Sflow.Sample) :
    convertSampleOn FlowMsg.empty cfg smp = convertSample cfg smp := by
  cases smp <;> rfl

theorem convertSample_none_of_not_flow (cfg : Option Config) (smp : Sflow.Sample) (h : isFlowSample smp = false) :
    convertSample cfg smp = none := by
  cases smp <;> simp_all [isFlowSample, convertSample]

def flowsOf : Res (List Pooled) → Res (List FlowMsg)
  | .ok ms => .ok (ms.map (·.flow))
  | .error e => .error e

theorem legacyRecordsP_flows (bt up : Nat) (rs : List V5.Record) (s : PS) :
    (legacyRecordsP true bt up rs s).1.map (·.flow) = rs.map (convertLegacyRecord bt up) := by
  induction rs generalizing s with
  | nil => rfl
  | cons r rs ih =>
    simp only [legacyRecordsP, List.map_cons, onFlow, take_true_flow, on_empty_legacy, ih]

theorem netflowRecordsP_flows (cfg : Option Config) (v bt up : Nat) (rs : List Netflow.DataRecord) (s : PS) :
    flowsOf (netflowRecordsP true cfg v bt up rs s).1 = convertRecords cfg v bt up rs := by
  induction rs generalizing s with
  | nil => rfl
  | cons r rs ih =>
    simp only [netflowRecordsP, convertRecords, take_true_flow, on_empty_netflow]
    cases h : convertNetFlowDataSet cfg v bt up r.values with
    | error e => rfl
    | ok f =>
      rw [← ih (take true s).2]
      cases (netflowRecordsP true cfg v bt up rs (take true s).2).1 <;> rfl

theorem convertRecords_append (cfg : Option Config) (v bt up : Nat) (a b : List Netflow.DataRecord) :
    convertRecords cfg v bt up (a ++ b) =
      match convertRecords cfg v bt up a with
      | .error e => .error e
      | .ok ma =>
        match convertRecords cfg v bt up b with
        | .error e => .error e
        | .ok mb => .ok (ma ++ mb) := by
  induction a with
  | nil =>
    simp only [List.nil_append, convertRecords]
    cases convertRecords cfg v bt up b <;> rfl
  | cons r a ih =>
    simp only [List.cons_append, convertRecords, ih]
    cases convertNetFlowDataSet cfg v bt up r.values with
    | error e => rfl
    | ok m => cases convertRecords cfg v bt up a <;> cases convertRecords cfg v bt up b <;> rfl

def setsResult (r : List Pooled × Option Err) : Res (List FlowMsg) :=
  match r.2 with
  | some e => .error e
  | none => .ok (r.1.map (·.flow))

theorem netflowSetsP_flows (cfg : Option Config) (v bt up : Nat) (sets : List (List Netflow.DataRecord)) (s : PS) :
    setsResult (netflowSetsP true cfg v bt up sets s).1 = convertRecords cfg v bt up sets.flatten := by
  induction sets generalizing s with
  | nil => rfl
  | cons recs sets ih =>
    simp only [netflowSetsP, List.flatten_cons, convertRecords_append]
    rw [← netflowRecordsP_flows cfg v bt up recs s, ← ih (netflowRecordsP true cfg v bt up recs s).2]
    cases (netflowRecordsP true cfg v bt up recs s).1 with
    | error e => rfl
    | ok ms =>
      simp only [flowsOf, setsResult]
      cases (netflowSetsP true cfg v bt up sets (netflowRecordsP true cfg v bt up recs s).2).1.2 with
      | some e => rfl
      | none => simp only [List.map_append]

theorem dataRecordsOf_eq (fs : List Netflow.FlowSet) : dataRecordsOf fs = (dataSetsOf fs).flatten := by
  induction fs with
  | nil => rfl
  | cons f fs ih =>
    unfold dataRecordsOf dataSetsOf at ih ⊢
    rw [List.flatMap_cons, List.filterMap_cons, ih]
    cases f <;> rfl

theorem sflowSamplesP_flows (cfg : Option Config) (ss : List Sflow.Sample) (s : PS) :
    flowsOf (sflowSamplesP true cfg ss s).1 = convertSamples cfg ss := by
  induction ss generalizing s with
  | nil => rfl
  | cons smp ss ih =>
    unfold sflowSamplesP convertSamples
    cases hf : isFlowSample smp with
    | true =>
      simp only [↓reduceIte, take_true_flow, on_empty_sample]
      cases convertSample cfg smp with
      | none => exact ih _
      | some r =>
        cases r with
        | error e => rfl
        | ok f =>
          rw [← ih (take true s).2]
          cases (sflowSamplesP true cfg ss (take true s).2).1 <;> rfl
    | false =>
      rw [convertSample_none_of_not_flow cfg smp hf]
      exact ih s

theorem map_flow_onFlow (ms : List Pooled) (f : FlowMsg → FlowMsg) :
    (ms.map fun m => onFlow m f).map (·.flow) = (ms.map (·.flow)).map f := by
  simp [List.map_map, onFlow, Function.comp_def]

theorem map_flow_withFormatter (fid : Nat) (ms : List Pooled) :
    (withFormatter fid ms).map (·.flow) = ms.map (·.flow) := by
  simp [withFormatter, List.map_map, Function.comp_def]

theorem processLegacyP_flows (p : V5.Packet) (s : PS) :
    (processLegacyP true p s).1.map (·.flow) = processLegacy p := by
  simp only [processLegacyP, processLegacy, map_flow_onFlow, legacyRecordsP_flows]

theorem processSflowP_flows (cfg : Option Config) (p : Sflow.Packet) (s : PS) :
    flowsOf (processSflowP true cfg p s).1 = processSflow cfg p := by
  simp only [processSflowP, processSflow]
  rw [← sflowSamplesP_flows cfg p.samples s]
  cases (sflowSamplesP true cfg p.samples s).1 with
  | error e => rfl
  | ok ms => simp only [flowsOf, map_flow_onFlow]

/-- what the pipe looks at: the messages when there is no error, the rates, the error -/
theorem processNetflowP_eq (cfg : Option Config) (p : Netflow.Packet) (rates : Rates) (s : PS) :
    let r := (processNetflowP true cfg p rates s).1
    let q := processNetflow cfg p rates
    r.rates = q.rates ∧ r.err = q.err ∧ (r.err = none → r.msgs.map (·.flow) = q.msgs) := by
  unfold processNetflowP processNetflow
  dsimp only
  rw [dataRecordsOf_eq, ← netflowSetsP_flows cfg p.version p.baseTime p.uptime (dataSetsOf p.flowSets) s]
  unfold setsResult
  cases (netflowSetsP true cfg p.version p.baseTime p.uptime (dataSetsOf p.flowSets) s).1.2 with
  | some e => exact ⟨rfl, rfl, nofun⟩
  | none =>
    dsimp only
    cases searchSamplingRate (optionRecordsOf p.flowSets) with
    | error e => exact ⟨rfl, rfl, nofun⟩
    | ok found => exact ⟨rfl, rfl, fun _ => map_flow_onFlow _ _⟩

def Agree (o : OutP) (q : Out) : Prop :=
  o.state = q.state ∧ o.err = q.err ∧ o.sent.map (·.flow) = q.msgs

theorem netflowPipeP_eq (fid : Nat) (cfg : Config) (st : State) (s : PS) (src : Src) (recv : Nat) (d : Bytes) :
    Agree (netflowPipeP true fid cfg st s src recv d) (netflowPipe cfg st src recv d) := by
  unfold netflowPipeP netflowPipe
  dsimp only
  cases readU 2 d with
  | error e => exact ⟨rfl, rfl, rfl⟩
  | ok vb =>
    dsimp only
    by_cases h5 : vb.1 = 5
    · rw [if_pos h5, if_pos h5]
      cases V5.decodeMessage vb.2 with
      | error e => exact ⟨rfl, rfl, rfl⟩
      | ok p =>
        refine ⟨rfl, rfl, ?_⟩
        simp only [map_flow_withFormatter, map_flow_onFlow, processLegacyP_flows]
    · rw [if_neg h5, if_neg h5]
      by_cases h9 : vb.1 = 9 ∨ vb.1 = 10
      · rw [if_pos h9, if_pos h9]
        generalize (if vb.1 = 9 then Netflow.decodeMessageNetFlow (st.templatesOf src) vb.2
          else Netflow.decodeMessageIPFIX (st.templatesOf src) vb.2) = o
        cases o.err with
        | some e => exact ⟨rfl, rfl, rfl⟩
        | none =>
          dsimp only
          generalize ((st.setTemplates src (st.templatesOf src)).setTemplates src o.store).ratesOf src.ip = rates
          obtain ⟨hr, he, hm⟩ := processNetflowP_eq (some cfg) o.packet rates s
          rw [hr, he]
          cases hq : (processNetflow (some cfg) o.packet rates).err with
          | some e => exact ⟨rfl, rfl, rfl⟩
          | none =>
            refine ⟨rfl, rfl, ?_⟩
            simp only [map_flow_withFormatter, map_flow_onFlow, hm (he.trans hq)]
      · rw [if_neg h9, if_neg h9]
        exact ⟨rfl, rfl, rfl⟩

theorem sflowPipeP_eq (fid : Nat) (cfg : Config) (st : State) (s : PS) (recv : Nat) (d : Bytes) :
    Agree (sflowPipeP true fid cfg st s recv d) (sflowPipe cfg st recv d) := by
  unfold sflowPipeP sflowPipe
  cases Sflow.decodeMessageVersion d with
  | error e => exact ⟨rfl, rfl, rfl⟩
  | ok p =>
    dsimp only
    rw [← processSflowP_flows (some cfg) p s]
    cases (processSflowP true (some cfg) p s).1 with
    | error e => exact ⟨rfl, rfl, rfl⟩
    | ok ms =>
      refine ⟨rfl, rfl, ?_⟩
      simp only [map_flow_withFormatter, map_flow_onFlow, flowsOf]

/-- one datagram, any pool, any oracle: same state, same error, same messages as the pool-less model -/
theorem decodeFlowP_eq (k : Kind) (fid : Nat) (cfg : Config) (st : State) (s : PS) (src : Src) (recv : Nat) (d : Bytes) :
    let o := decodeFlowP true k fid cfg st s src recv d
    let q := decodeFlow k cfg st src recv d
    o.state = q.state ∧ o.err = q.err ∧ o.sent.map (·.flow) = q.msgs := by
  show Agree _ _
  cases k with
  | netflow => exact netflowPipeP_eq fid cfg st s src recv d
  | sflow => exact sflowPipeP_eq fid cfg st s recv d
  | auto =>
    unfold decodeFlowP decodeFlow autoPipeP autoPipe
    dsimp only
    cases readU 4 d with
    | error e => exact ⟨rfl, rfl, rfl⟩
    | ok pb =>
      dsimp only
      by_cases h5 : pb.1 = 5
      · rw [if_pos h5, if_pos h5]
        exact sflowPipeP_eq fid cfg st s recv d
      · rw [if_neg h5, if_neg h5]
        by_cases hn : pb.1 / 65536 = 5 ∨ pb.1 / 65536 = 9 ∨ pb.1 / 65536 = 10
        · rw [if_pos hn, if_pos hn]
          exact netflowPipeP_eq fid cfg st s src recv d
        · rw [if_neg hn, if_neg hn]
          exact ⟨rfl, rfl, rfl⟩

/-- No leakage via reuse: whatever was processed before (any protocol, any exporter, failing half-way or not),
    whatever the pool holds at the start and whichever pooled object each `Get` returns, every datagram's messages
    and outcome are those of the pool-less model. -/
theorem history_pool_free (ds : List Dgram) (st : State) (pool : List Pooled) :
    (runP true ds st pool).map (fun o => (o.1.map (·.flow), o.2)) = run ds st := by
  induction ds generalizing st pool with
  | nil => rfl
  | cons d ds ih =>
    simp only [runP, run, List.map_cons]
    obtain ⟨hs, he, hm⟩ := decodeFlowP_eq d.kind d.fid d.cfg st ⟨pool, d.cs⟩ d.src d.recvNs d.payload
    rw [hs, he, hm, ih]

/-- two different pools, two different oracles: the same outputs -/
theorem pool_content_irrelevant (ds : List Dgram) (ds' : List Dgram) (st : State) (pool pool' : List Pooled)
    (h : ds.map (fun d => (d.kind, d.fid, d.cfg, d.src, d.recvNs, d.payload)) =
         ds'.map (fun d => (d.kind, d.fid, d.cfg, d.src, d.recvNs, d.payload))) :
    (runP true ds st pool).map (fun o => (o.1.map (·.flow), o.2)) =
    (runP true ds' st pool').map (fun o => (o.1.map (·.flow), o.2)) := by
  rw [history_pool_free, history_pool_free]
  induction ds generalizing ds' st with
  | nil => cases ds' with
    | nil => rfl
    | cons _ _ => simp at h
  | cons d ds ih =>
    cases ds' with
    | nil => simp at h
    | cons d' ds' =>
      simp only [List.map_cons, List.cons.injEq, Prod.mk.injEq] at h
      obtain ⟨⟨hk, _, hc, hsrc, hr, hp⟩, ht⟩ := h
      simp only [run, hk, hc, hsrc, hr, hp]
      rw [ih ds' _ ht]

def AllPlain (ms : List Pooled) : Prop := ∀ m ∈ ms, m.skipDelimiter = false

theorem get_plain (s : PS) (h : AllPlain s.pool) : (Pool.get s).1.skipDelimiter = false ∧ AllPlain (Pool.get s).2.pool := by
  unfold Pool.get
  cases s.cs.headD 0 with
  | zero => exact ⟨rfl, h⟩
  | succ i =>
    simp only []
    cases hp : s.pool[i]? with
    | none => exact ⟨rfl, h⟩
    | some p =>
      refine ⟨h p (List.mem_of_getElem? hp), ?_⟩
      intro m hm
      exact h m (List.mem_of_mem_eraseIdx hm)

theorem take_plain (r : Bool) (s : PS) (h : AllPlain s.pool) :
    (take r s).1.skipDelimiter = false ∧ AllPlain (take r s).2.pool := by
  have := get_plain s h
  unfold take
  cases r <;> simpa [Pooled.reset] using this

theorem allPlain_append {a b : List Pooled} (ha : AllPlain a) (hb : AllPlain b) : AllPlain (a ++ b) := by
  intro m hm
  rcases List.mem_append.mp hm with h | h
  · exact ha m h
  · exact hb m h

theorem allPlain_map {ms : List Pooled} (f : Pooled → Pooled) (hf : ∀ m, (f m).skipDelimiter = m.skipDelimiter)
    (h : AllPlain ms) : AllPlain (ms.map f) := by
  intro m hm
  obtain ⟨a, ha, rfl⟩ := List.mem_map.mp hm
  rw [hf]; exact h a ha

theorem allPlain_nil : AllPlain [] := fun _ hm => nomatch hm

theorem allPlain_cons {m : Pooled} {ms : List Pooled} (hm : m.skipDelimiter = false) (h : AllPlain ms) :
    AllPlain (m :: ms) := by
  intro x hx
  rcases List.mem_cons.mp hx with rfl | hx
  · exact hm
  · exact h x hx

/-- nothing is claimed of a failed loop: its messages are dropped -/
def OkPlain : Res (List Pooled) → Prop
  | .ok ms => AllPlain ms
  | .error _ => True

theorem legacyRecordsP_plain (r : Bool) (bt up : Nat) (rs : List V5.Record) (s : PS) (h : AllPlain s.pool) :
    AllPlain (legacyRecordsP r bt up rs s).1 ∧ AllPlain (legacyRecordsP r bt up rs s).2.pool := by
  induction rs generalizing s with
  | nil => exact ⟨allPlain_nil, h⟩
  | cons x rs ih =>
    obtain ⟨h1, h2⟩ := take_plain r s h
    obtain ⟨i1, i2⟩ := ih (take r s).2 h2
    exact ⟨allPlain_cons h1 i1, i2⟩

theorem netflowRecordsP_plain (r : Bool) (cfg : Option Config) (v bt up : Nat) (rs : List Netflow.DataRecord) (s : PS)
    (h : AllPlain s.pool) :
    OkPlain (netflowRecordsP r cfg v bt up rs s).1 ∧ AllPlain (netflowRecordsP r cfg v bt up rs s).2.pool := by
  induction rs generalizing s with
  | nil => exact ⟨allPlain_nil, h⟩
  | cons x rs ih =>
    obtain ⟨h1, h2⟩ := take_plain r s h
    obtain ⟨i1, i2⟩ := ih (take r s).2 h2
    unfold netflowRecordsP
    dsimp only
    cases convertNetFlowDataSetOn (take r s).1.flow cfg v bt up x.values with
    | error e => exact ⟨trivial, h2⟩
    | ok f =>
      dsimp only
      cases hr : (netflowRecordsP r cfg v bt up rs (take r s).2).1 with
      | error e => exact ⟨trivial, i2⟩
      | ok ms =>
        rw [hr] at i1
        exact ⟨allPlain_cons h1 i1, i2⟩

theorem netflowSetsP_plain (r : Bool) (cfg : Option Config) (v bt up : Nat) (sets : List (List Netflow.DataRecord)) (s : PS)
    (h : AllPlain s.pool) :
    AllPlain (netflowSetsP r cfg v bt up sets s).1.1 ∧ AllPlain (netflowSetsP r cfg v bt up sets s).2.pool := by
  induction sets generalizing s with
  | nil => exact ⟨allPlain_nil, h⟩
  | cons recs sets ih =>
    obtain ⟨r1, r2⟩ := netflowRecordsP_plain r cfg v bt up recs s h
    obtain ⟨i1, i2⟩ := ih (netflowRecordsP r cfg v bt up recs s).2 r2
    unfold netflowSetsP
    dsimp only
    cases hr : (netflowRecordsP r cfg v bt up recs s).1 with
    | error e => exact ⟨allPlain_nil, r2⟩
    | ok ms =>
      rw [hr] at r1
      exact ⟨allPlain_append r1 i1, i2⟩

theorem sflowSamplesP_plain (r : Bool) (cfg : Option Config) (ss : List Sflow.Sample) (s : PS) (h : AllPlain s.pool) :
    OkPlain (sflowSamplesP r cfg ss s).1 ∧ AllPlain (sflowSamplesP r cfg ss s).2.pool := by
  induction ss generalizing s with
  | nil => exact ⟨allPlain_nil, h⟩
  | cons smp ss ih =>
    unfold sflowSamplesP
    cases isFlowSample smp with
    | false => exact ih s h
    | true =>
      obtain ⟨h1, h2⟩ := take_plain r s h
      obtain ⟨i1, i2⟩ := ih (take r s).2 h2
      rw [if_pos rfl]
      dsimp only
      cases convertSampleOn (take r s).1.flow cfg smp with
      | none => exact ⟨i1, i2⟩
      | some res =>
        cases res with
        | error e => exact ⟨trivial, h2⟩
        | ok f =>
          dsimp only
          cases hr : (sflowSamplesP r cfg ss (take r s).2).1 with
          | error e => exact ⟨trivial, i2⟩
          | ok ms =>
            rw [hr] at i1
            exact ⟨allPlain_cons h1 i1, i2⟩

theorem withFormatter_plain (fid : Nat) {ms : List Pooled} (h : AllPlain ms) : AllPlain (withFormatter fid ms) :=
  allPlain_map _ (fun _ => rfl) h

theorem onFlow_map_plain {ms : List Pooled} (f : FlowMsg → FlowMsg) (h : AllPlain ms) :
    AllPlain (ms.map fun m => onFlow m f) := allPlain_map _ (fun _ => rfl) h

theorem processLegacyP_plain (r : Bool) (p : V5.Packet) (s : PS) (h : AllPlain s.pool) :
    AllPlain (processLegacyP r p s).1 ∧ AllPlain (processLegacyP r p s).2.pool := by
  obtain ⟨l1, l2⟩ := legacyRecordsP_plain r (p.header.unixSecs * 1000000000 + p.header.unixNSecs) p.header.sysUptime
    p.records s h
  exact ⟨onFlow_map_plain _ l1, l2⟩

theorem processNetflowP_plain (r : Bool) (cfg : Option Config) (p : Netflow.Packet) (rates : Rates) (s : PS)
    (h : AllPlain s.pool) :
    AllPlain (processNetflowP r cfg p rates s).1.msgs ∧ AllPlain (processNetflowP r cfg p rates s).2.pool := by
  obtain ⟨n1, n2⟩ := netflowSetsP_plain r cfg p.version p.baseTime p.uptime (dataSetsOf p.flowSets) s h
  unfold processNetflowP
  dsimp only
  cases (netflowSetsP r cfg p.version p.baseTime p.uptime (dataSetsOf p.flowSets) s).1.2 with
  | some e => exact ⟨n1, n2⟩
  | none =>
    dsimp only
    cases searchSamplingRate (optionRecordsOf p.flowSets) with
    | error e => exact ⟨n1, n2⟩
    | ok found => exact ⟨onFlow_map_plain _ n1, n2⟩

theorem processSflowP_plain (r : Bool) (cfg : Option Config) (p : Sflow.Packet) (s : PS) (h : AllPlain s.pool) :
    OkPlain (processSflowP r cfg p s).1 ∧ AllPlain (processSflowP r cfg p s).2.pool := by
  obtain ⟨s1, s2⟩ := sflowSamplesP_plain r cfg p.samples s h
  unfold processSflowP
  dsimp only
  cases hr : (sflowSamplesP r cfg p.samples s).1 with
  | error e => exact ⟨trivial, s2⟩
  | ok ms =>
    rw [hr] at s1
    exact ⟨onFlow_map_plain _ s1, s2⟩

def SentSpec (fid : Nat) (s : PS) (o : OutP) : Prop :=
  (∀ m ∈ o.sent, m.formatter = fid + 1) ∧ (AllPlain s.pool → AllPlain o.sent ∧ AllPlain o.ps.pool)

/-- the ways out on which nothing was produced, or what was taken from the pool is dropped -/
theorem SentSpec.nothing {fid : Nat} {s s' : PS} (st : State) (e : Option Err) (hp : AllPlain s.pool → AllPlain s'.pool) :
    SentSpec fid s ⟨st, [], e, s'⟩ :=
  ⟨fun _ hm => (nomatch hm), fun h => ⟨allPlain_nil, hp h⟩⟩

/-- the ways out behind `Produce`: the set `withFormatter fid ms` is committed, and either sent or not -/
theorem SentSpec.committed {fid : Nat} {s s' : PS} (st : State) (e : Option Err) {sent ms : List Pooled}
    (hsent : sent = [] ∨ sent = withFormatter fid ms) (hp : AllPlain s.pool → AllPlain ms ∧ AllPlain s'.pool) :
    SentSpec fid s ⟨st, sent, e, put s' (withFormatter fid ms)⟩ := by
  have hput : AllPlain s.pool → AllPlain (withFormatter fid ms) ∧ AllPlain (put s' (withFormatter fid ms)).pool :=
    fun h => ⟨withFormatter_plain fid (hp h).1, allPlain_append (hp h).2 (withFormatter_plain fid (hp h).1)⟩
  rcases hsent with rfl | rfl
  · exact ⟨fun _ hm => (nomatch hm), fun h => ⟨allPlain_nil, (hput h).2⟩⟩
  · refine ⟨?_, hput⟩
    intro m hm
    obtain ⟨a, _, rfl⟩ := List.mem_map.mp hm
    rfl

theorem netflowPipeP_sent (r : Bool) (fid : Nat) (cfg : Config) (st : State) (s : PS) (src : Src) (recv : Nat) (d : Bytes) :
    SentSpec fid s (netflowPipeP r fid cfg st s src recv d) := by
  unfold netflowPipeP
  dsimp only
  cases readU 2 d with
  | error e => exact .nothing _ _ id
  | ok vb =>
    dsimp only
    by_cases h5 : vb.1 = 5
    · rw [if_pos h5]
      cases V5.decodeMessage vb.2 with
      | error e => exact .nothing _ _ id
      | ok p =>
        have hp := processLegacyP_plain r p s
        exact .committed _ _ (.inr rfl) fun h => ⟨onFlow_map_plain _ (hp h).1, (hp h).2⟩
    · rw [if_neg h5]
      by_cases h9 : vb.1 = 9 ∨ vb.1 = 10
      · rw [if_pos h9]
        generalize (if vb.1 = 9 then Netflow.decodeMessageNetFlow (st.templatesOf src) vb.2
          else Netflow.decodeMessageIPFIX (st.templatesOf src) vb.2) = o
        cases o.err with
        | some e => exact .nothing _ _ id
        | none =>
          dsimp only
          generalize ((st.setTemplates src (st.templatesOf src)).setTemplates src o.store).ratesOf src.ip = rates
          have hp := processNetflowP_plain r (some cfg) o.packet rates s
          cases (processNetflowP r (some cfg) o.packet rates s).1.err with
          | some e => exact .committed _ _ (.inl rfl) fun h => ⟨onFlow_map_plain _ (hp h).1, (hp h).2⟩
          | none => exact .committed _ _ (.inr rfl) fun h => ⟨onFlow_map_plain _ (hp h).1, (hp h).2⟩
      · rw [if_neg h9]
        exact .nothing _ _ id

theorem sflowPipeP_sent (r : Bool) (fid : Nat) (cfg : Config) (st : State) (s : PS) (recv : Nat) (d : Bytes) :
    SentSpec fid s (sflowPipeP r fid cfg st s recv d) := by
  unfold sflowPipeP
  cases Sflow.decodeMessageVersion d with
  | error e => exact .nothing _ _ id
  | ok p =>
    dsimp only
    have hp := processSflowP_plain r (some cfg) p s
    cases hr : (processSflowP r (some cfg) p s).1 with
    | error e => exact .nothing _ _ fun h => (hp h).2
    | ok ms =>
      rw [hr] at hp
      exact .committed _ _ (.inr rfl) fun h => ⟨onFlow_map_plain _ (hp h).1, (hp h).2⟩

theorem decodeFlowP_sent (r : Bool) (k : Kind) (fid : Nat) (cfg : Config) (st : State) (s : PS) (src : Src) (recv : Nat)
    (d : Bytes) : SentSpec fid s (decodeFlowP r k fid cfg st s src recv d) := by
  cases k with
  | netflow => exact netflowPipeP_sent r fid cfg st s src recv d
  | sflow => exact sflowPipeP_sent r fid cfg st s recv d
  | auto =>
    unfold decodeFlowP autoPipeP
    dsimp only
    cases readU 4 d with
    | error e => exact .nothing _ _ id
    | ok pb =>
      dsimp only
      by_cases h5 : pb.1 = 5
      · rw [if_pos h5]
        exact sflowPipeP_sent r fid cfg st s recv d
      · rw [if_neg h5]
        by_cases hn : pb.1 / 65536 = 5 ∨ pb.1 / 65536 = 9 ∨ pb.1 / 65536 = 10
        · rw [if_pos hn]
          exact netflowPipeP_sent r fid cfg st s src recv d
        · rw [if_neg hn]
          exact .nothing _ _ id

/-- every message handed to format + transport carries the formatter of the pipe's configuration -/
theorem sent_formatter (k : Kind) (fid : Nat) (cfg : Config) (st : State) (s : PS) (src : Src) (recv : Nat) (d : Bytes) :
    ∀ m ∈ (decodeFlowP true k fid cfg st s src recv d).sent, m.formatter = fid + 1 :=
  (decodeFlowP_sent true k fid cfg st s src recv d).1

/-- if the pool holds only messages with `skipDelimiter = false`, so do the messages sent and the pool afterwards: no
    non-test code writes that member (`Generated.stateStructs` lists it, no creation site or converter touches it) -/
theorem decodeFlowP_plain (r : Bool) (k : Kind) (fid : Nat) (cfg : Config) (st : State) (s : PS) (src : Src) (recv : Nat)
    (d : Bytes) (h : AllPlain s.pool) :
    AllPlain (decodeFlowP r k fid cfg st s src recv d).sent ∧ AllPlain (decodeFlowP r k fid cfg st s src recv d).ps.pool :=
  (decodeFlowP_sent r k fid cfg st s src recv d).2 h

/-- … and so along every history from such a pool -/
theorem history_plain (r : Bool) (ds : List Dgram) (st : State) (pool : List Pooled) (h : AllPlain pool) :
    ∀ o ∈ runP r ds st pool, AllPlain o.1 := by
  induction ds generalizing st pool with
  | nil => intro o ho; cases ho
  | cons d ds ih =>
    intro o ho
    obtain ⟨h1, h2⟩ := decodeFlowP_plain r d.kind d.fid d.cfg st ⟨pool, d.cs⟩ d.src d.recvNs d.payload h
    simp only [runP, List.mem_cons] at ho
    rcases ho with rfl | ho
    · exact h1
    · exact ih _ _ h2 o ho

/-- one message of an earlier flow, handed out by the next `Get` -/
def poisoned : PS := ⟨[{ flow := { FlowMsg.empty with dstPort := 443, bgpCommunities := [7] } }], [1]⟩

def oneRecord : V5.Record := default

/-- Without the `Reset()` after `Get`, a v5 record's message inherits a repeated field of the earlier flow
    (the v5 conversion never writes `bgpCommunities`); with it, it does not. -/
theorem leak_without_reset :
    ((legacyRecordsP false 0 0 [oneRecord] poisoned).1.map (·.flow.bgpCommunities)) = [[7]] ∧
    ((legacyRecordsP true 0 0 [oneRecord] poisoned).1.map (·.flow.bgpCommunities)) = [[]] := by
  constructor <;> rfl

open Goflow.Generated in
/-- What the model accounts for, compared with what the source declares.
    * the pooled message has exactly the three members of `Pooled`, and no `Reset` of its own (the promoted
      `FlowMessage.Reset` runs, which assigns the zero value to the whole message);
    * the pool is touched at three `Get` sites, each directly followed by `fmsg.Reset()`, and one `Put` site (Commit);
    * the pipes, the producer and the template / sampling systems hold: configuration and collaborators (fixed after
      construction), the per-exporter template map, the per-address sampling map and their locks — the `State` of
      `Goflow.Pipe`;
    * package-level variables: constants and tables, the two pools, the driver registries, and `isSliceMap`
      (written by the configuration loader only, DESIGN 0.6). -/
theorem state_inventory :
    (stateStructs.lookup "producer/proto.ProtoProducerMessage" =
        some [("", "flowmessage.FlowMessage"), ("formatter", "FormatterMapper"), ("skipDelimiter", "bool")]) ∧
    pooledMessageOwnReset = false ∧
    flowMessageResetFirst = "*x = FlowMessage{}" ∧
    poolGetSites.map (fun s => (s.1, s.2.2.1, s.2.2.2)) =
      [("SearchNetFlowDataSetsRecords", "fmsg.Reset()", 1), ("SearchNetFlowLegacyRecords", "fmsg.Reset()", 1),
       ("SearchSFlowSamplesConfig", "fmsg.Reset()", 1)] ∧
    poolGetSites.all (fun s => s.2.1 == "fmsg := protoMessagePool.Get().(*ProtoProducerMessage)") = true ∧
    poolPutSites = [("Commit", "protoMessagePool.Put(fmsg)", 1)] ∧
    poolMentions = 5 ∧
    stateStructs.map (fun s => (s.1, s.2.map (·.1))) =
      [("producer/proto.ProtoProducerMessage", ["", "formatter", "skipDelimiter"]),
       ("producer/proto.ProtoProducer", ["cfg", "samplinglock", "sampling", "samplingRateSystem"]),
       ("producer/proto.basicSamplingRateSystem", ["sampling", "samplinglock"]),
       ("producer/proto.SingleSamplingRateSystem", ["Sampling"]),
       ("producer/proto.producerConfigMapped", ["Formatter", "IPFIX", "NetFlowV9", "SFlow"]),
       ("utils.flowpipe", ["format", "transport", "producer", "netFlowTemplater"]),
       ("utils.SFlowPipe", [""]),
       ("utils.NetFlowPipe", ["", "templateslock", "templates"]),
       ("utils.AutoFlowPipe", ["", ""]),
       ("decoders/netflow.BasicTemplateSystem", ["templates", "templateslock"])] ∧
    packageVars.map (fun v => (v.1, v.2.1)) = knownPackageVars.map (fun v => (v.1, v.2.1)) := by
  -- no string is compared character by character: equal literals meet syntactically
  refine ⟨List.lookup_cons_self, rfl, rfl, rfl, ?_, rfl, rfl, rfl, rfl⟩
  simp only [poolGetSites, List.all_cons, List.all_nil, beq_self_eq_true, Bool.and_self]

end Goflow.C12Pool
