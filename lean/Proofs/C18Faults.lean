import Goflow.Conc.ReceiverFaults
import Proofs.C18
/-!
  C18 with faults — Start / Stop call sequences in which a Start may fail to bind and every Start brings its own
  decoder. All theorems are for every call sequence, every worker / socket count and every queue size.
-/
namespace Goflow.C18Faults
open Goflow.Conc.Receiver Goflow.Conc.ReceiverFaults

/-- between calls the receiver state is a function of the specification state: at rest, or `workers` workers that all
    captured `f`, `sockets` readers and a balanced WaitGroup -/
def canon (cfg : RCfg) : Option Nat → SessSt
  | none => initF
  | some f => ⟨false, false, cfg.workers, cfg.workers + cfg.sockets, List.replicate cfg.workers f, cfg.sockets, 0⟩

theorem bindMany_eq (n : Nat) (s : SessSt) :
    bindMany n s = { s with wg := s.wg + n, readers := s.readers + n } := by
  induction n generalizing s with
  | zero => rfl
  | succ n ih =>
    simp only [bindMany, ih, bindOk]
    congr 1 <;> omega

private theorem stop_started (cfg : RCfg) (f : Nat) :
    callStepF cfg (canon cfg (some f)) .stop = (initF, .ok) := by
  simp [callStepF, canon, stopBody, initBody, initF]

/-- the error path of Start: whatever number of sockets was bound before the failing one, the embedded Stop returns
    (the WaitGroup is balanced) and leaves the rest state -/
private theorem startFail_stopped (cfg : RCfg) (f k : Nat) :
    callStepF cfg initF (.startFail f k) = (initF, .err) := by
  simp only [callStepF, initF, Bool.not_true, Bool.false_eq_true, if_false, decodersF, bindMany_eq, bindFail,
    stopBody, List.nil_append, List.length_replicate, Nat.zero_add, Nat.min_self, Nat.sub_self, Nat.add_zero,
    Nat.not_lt_zero, List.drop_replicate, List.replicate_zero, Nat.add_sub_cancel]
  simp [initBody]

theorem callStepF_canon (cfg : RCfg) (sp : Option Nat) (c : CallF) :
    callStepF cfg (canon cfg sp) c = (canon cfg (specStepF sp c).1, (specStepF sp c).2) := by
  cases c with
  | stop =>
    cases sp with
    | none => simp [callStepF, canon, stopBody, initBody, initF, specStepF]
    | some f => rw [stop_started]; rfl
  | start f =>
    cases sp with
    | none =>
      simp only [callStepF, canon, initF, Bool.not_true, Bool.false_eq_true, if_false, decodersF, bindMany_eq, specStepF]
      simp
    | some g => simp [callStepF, canon, specStepF]
  | startFail f k =>
    cases sp with
    | none => exact startFail_stopped cfg f k
    | some g => simp [callStepF, canon, specStepF]

theorem runF_canon (cfg : RCfg) (sp : Option Nat) (calls : List CallF) :
    runF cfg (canon cfg sp) calls = (canon cfg (specRunF sp calls).1, (specRunF sp calls).2) := by
  induction calls generalizing sp with
  | nil => rfl
  | cons c rest ih =>
    simp only [runF, specRunF, callStepF_canon, ih]

/-- for every sequence over {Start f, Start f with a failing bind, Stop} the calls return errors exactly for
    Start-on-started, Stop-on-stopped and failing binds, and no call ever hangs (the specification contains no
    `hang`) -/
theorem results_spec_faults (cfg : RCfg) (calls : List CallF) :
    (runF cfg initF calls).2 = (specRunF none calls).2 := by
  have := runF_canon cfg none calls
  simp only [canon] at this
  rw [this]

/-- no call of any sequence hangs: Stop's `wg.Wait()` always returns, also the one on Start's error path -/
theorem never_hangs (cfg : RCfg) (calls : List CallF) : Res.hang ∉ (runF cfg initF calls).2 := by
  rw [results_spec_faults]
  have key : ∀ sp, Res.hang ∉ (specRunF sp calls).2 := by
    induction calls with
    | nil => intro sp; simp [specRunF]
    | cons c rest ih =>
      intro sp
      simp only [specRunF, List.mem_cons, not_or]
      refine ⟨?_, ih _⟩
      cases c <;> cases sp <;> simp [specStepF]
  exact key none

/-- after every call sequence the state is the rest state or a session whose workers all run the decoder of the Start
    that opened the session; the WaitGroup counts exactly the live goroutines, `decodersCnt` the live workers, no
    sentinel is left in the channel -/
theorem state_after_calls (cfg : RCfg) (calls : List CallF) :
    (runF cfg initF calls).1 = canon cfg (specRunF none calls).1 := by
  have := runF_canon cfg none calls
  simp only [canon] at this
  rw [this]
  rfl

/-- every live worker decodes with the decoder of the last successful Start -/
theorem workers_run_session_decoder (cfg : RCfg) (calls : List CallF) :
    (runF cfg initF calls).1.workers =
      match (specRunF none calls).1 with
      | none => []
      | some f => List.replicate cfg.workers f := by
  rw [state_after_calls]
  cases (specRunF none calls).1 <;> rfl

private theorem runF_append (cfg : RCfg) (s : SessSt) (a b : List CallF) :
    runF cfg s (a ++ b) = ((runF cfg (runF cfg s a).1 b).1, (runF cfg s a).2 ++ (runF cfg (runF cfg s a).1 b).2) := by
  induction a generalizing s with
  | nil => simp [runF]
  | cons c rest ih => simp [runF, ih]

private theorem specRunF_append (sp : Option Nat) (a b : List CallF) :
    specRunF sp (a ++ b) = ((specRunF (specRunF sp a).1 b).1, (specRunF sp a).2 ++ (specRunF (specRunF sp a).1 b).2) := by
  induction a generalizing sp with
  | nil => simp [specRunF]
  | cons c rest ih => simp [specRunF, ih]

/-- after any calls that leave the receiver started, a further Start (with any decoder `f'`, failing bind or not)
    returns an error and changes nothing: the workers keep decoding with the decoder the session was started with -/
theorem refused_start_keeps_decoder (cfg : RCfg) (pre : List CallF) (f f' k : Nat)
    (hstarted : (specRunF none pre).1 = some f) (c : CallF) (hc : c = .start f' ∨ c = .startFail f' k) :
    (runF cfg initF (pre ++ [c])).1 = (runF cfg initF pre).1 ∧
    (runF cfg initF (pre ++ [c])).1.workers = List.replicate cfg.workers f ∧
    (runF cfg initF (pre ++ [c])).2 = (runF cfg initF pre).2 ++ [Res.err] := by
  have hs := state_after_calls cfg pre
  rw [hstarted] at hs
  rw [runF_append, hs]
  rcases hc with rfl | rfl <;> simp only [runF, callStepF_canon, specStepF] <;> simp [canon]

/-- `C18.quit_open_after_every_call` with failing Starts; also no stale sentinel waits in the dispatch channel -/
theorem quit_open_after_every_call' (cfg : RCfg) (calls : List CallF) :
    (runF cfg initF calls).1.qClosed = false ∧ (runF cfg initF calls).1.stale = 0 ∧
    (runF cfg initF calls).1.wg = (runF cfg initF calls).1.workers.length + (runF cfg initF calls).1.readers := by
  rw [state_after_calls]
  cases (specRunF none calls).1 <;> simp [canon, initF]

/-- on a stopped receiver a Start whose bind fails returns an error and leaves the receiver stopped with a balanced
    WaitGroup, no goroutine alive and an open quit channel; the next Start succeeds and installs its decoder -/
theorem failed_start_restartable (cfg : RCfg) (pre : List CallF) (f k g : Nat)
    (hstopped : (specRunF none pre).1 = none) :
    (runF cfg initF (pre ++ [.startFail f k])).1 = initF ∧
    (runF cfg initF (pre ++ [.startFail f k])).2 = (runF cfg initF pre).2 ++ [Res.err] ∧
    (runF cfg initF (pre ++ [.startFail f k, .start g])).2 = (runF cfg initF pre).2 ++ [Res.err, Res.ok] ∧
    (runF cfg initF (pre ++ [.startFail f k, .start g])).1.workers = List.replicate cfg.workers g ∧
    (runF cfg initF (pre ++ [.startFail f k, .start g])).1.readers = cfg.sockets := by
  have hs := state_after_calls cfg pre
  rw [hstopped] at hs
  rw [runF_append, runF_append, hs]
  simp only [runF, callStepF_canon, specStepF]
  simp [canon]

/-- a successful Start after a Stop installs the new decoder -/
theorem restart_installs_new_decoder (cfg : RCfg) (pre : List CallF) (f g : Nat)
    (hstarted : (specRunF none pre).1 = some f) :
    (runF cfg initF (pre ++ [.stop, .start g])).1.workers = List.replicate cfg.workers g ∧
    (runF cfg initF (pre ++ [.stop, .start g])).2 = (runF cfg initF pre).2 ++ [Res.ok, Res.ok] := by
  have hs := state_after_calls cfg pre
  rw [hstarted] at hs
  rw [runF_append, hs]
  simp only [runF, callStepF_canon, specStepF]
  simp [canon]

private theorem spec_embed (started : Option Nat) (calls : List Call) :
    (specRunF started (calls.map embed)).2 = (specResults started.isSome calls).map resOfBool := by
  induction calls generalizing started with
  | nil => rfl
  | cons c rest ih =>
    cases c <;> cases started <;> simp [specRunF, specStepF, embed, specResults, resOfBool, ih]

/-- on sequences without failing binds the model with faults (`runF`, Goflow/Conc/ReceiverFaults.lean) returns
    what the two-channel call model (`callRun2`, Goflow/Conc/Receiver.lean) returns -/
theorem faultfree_agrees (cfg : RCfg) (calls : List Call) :
    (runF cfg initF (calls.map embed)).2 = (callRun2 callInit calls).2.map resOfBool := by
  rw [results_spec_faults, spec_embed, C18.callRun2_results, C18.start_stop_results]
  rfl

example :
    runF ⟨2, 2, 0⟩ initF [.start 1, .start 2, .stop, .stop, .startFail 3 1, .start 4] =
      (⟨false, false, 2, 4, [4, 4], 2, 0⟩, [.ok, .err, .ok, .err, .err, .ok]) := by decide

/-- the hypotheses of `refused_start_keeps_decoder` / `failed_start_restartable` are satisfiable -/
example : (specRunF none [.start 7]).1 = some 7 ∧ (specRunF none [.start 7, .stop]).1 = none := by decide

/-- negative control (seeded change C18-9): a bind that fails after `wg.Add(1)` without the deferred `wg.Done()` leaves
    the counter one short, and `stopBody` never returns -/
example :
    let s1 := decodersF ⟨2, 2, 0⟩ { initF with readyClosed := false } 3
    let s2 := { s1 with wg := s1.wg + 1 }           -- Add without Done
    stopBody ⟨2, 2, 0⟩ s2 = none := by decide

/-- negative control (seeded change C17-9): a `decodersCnt` that survives the session makes the next Stop send sentinels
    nobody takes: it hangs on a synchronous channel and poisons a buffered one -/
example :
    stopBody ⟨2, 2, 0⟩ { initF with decodersCnt := 2 } = none ∧
    (stopBody ⟨2, 2, 4⟩ { initF with decodersCnt := 2 }).map (·.stale) = some 2 := by decide

end Goflow.C18Faults
