import Proofs.C01Sane
import Proofs.Lemmas.Assoc
import Proofs.C14Compile
import Goflow.Wrapped
/-!
  C01 for every configuration the loader accepts, through the panic wrappers of main.go
  (`Goflow/Wrapped.lean`). `Proofs/C01Sane.lean` excludes two kinds of mapping (negative bit offset /
  length of a layer mapping, destination `sizeCache` / `unknownFields`), for which the model — and the
  Go code — panics inside `Produce`. Here nothing is excluded: no loop runs out of fuel, the un-wrapped
  pipe ends in ok / eof / bad / tnf / panic, the wrappers turn `panic` into the returned class
  `recovered`, and the state a recovered datagram leaves is the one its decode step alone leaves.
  Accepted-but-insane configurations are exhibited at the end.
-/
namespace Goflow.C01
open Goflow Goflow.Producer Goflow.Pipe Goflow.Wrapped

/-- the failures of a mapping step -/
def Err.BP (e : Err) : Prop := e = .bad ∨ e = .panic

theorem mapCustom_any (m : FlowMsg) (v : Bytes) (f : MapField) : ErrIn Err.BP (mapCustom m v f) :=
  (mapCustom_errIn m v f).mono fun _ he => he.imp id And.left

/-- GetBytes: the error leaves of its case tree are the Go run-time panics -/
theorem getBytes_any (d : Bytes) (offset length : Int) (shift : Bool) :
    ErrIn (· = .panic) (getBytes d offset length shift) := by
  unfold getBytes
  exact .ite (fun _ => .ok) fun _ => .ite (fun _ => .ok) fun _ => .ite (fun _ => .error rfl) fun _ =>
    .ite (fun _ => .ite (fun _ => .error rfl) fun _ => .ok) fun _ =>
      .ite (fun _ => .ite (fun _ => .ok) fun _ => .ok) fun _ => .ite (fun _ => .ok) fun _ => .ok

theorem mapsIn_any (cfg : Config) : MapsIn Err.BP cfg :=
  ⟨.inl rfl, fun _ _ => ⟨fun _ _ => (getBytes_any _ _ _ _).mono fun _ => .inr, fun _ _ => mapCustom_any _ _ _⟩,
    fun _ _ _ _ => mapCustom_any _ _ _, fun _ _ _ _ => mapCustom_any _ _ _⟩

/-- **the sampled-packet dissector under any configuration**, on every frame at every capture
    length: a message, or the returned error or the panic of a mapping step -/
theorem parsePacket_any (cfg : Config) (m : FlowMsg) (data : Bytes) :
    ∀ e, parsePacket cfg m data = .error e → Err.BP e :=
  parsePacket_errIn cfg (mapsIn_any cfg).layers m data

/-- **ProcessMessageNetFlowV9Config / ProcessMessageIPFIXConfig under any configuration**: a returned
    error or a panic, never divergence -/
theorem produce_any (cfg : Config) (p : Netflow.Packet) (rates : Rates) :
    ∀ e, (processNetflow (some cfg) p rates).err = some e → e = .eof ∨ e = .bad ∨ e = .panic :=
  fun e he => .inr (produce_errIn (mapsIn_any cfg) p rates e he)

/-- a conversion that fails, by returned error or panic, has written no sampling rate and hands on no message -/
theorem produce_err_untouched (cfg : Option Config) (p : Netflow.Packet) (rates : Rates) (e : Err)
    (h : (processNetflow cfg p rates).err = some e) :
    (processNetflow cfg p rates).rates = rates ∧ (processNetflow cfg p rates).msgs = [] := by
  unfold processNetflow at h ⊢
  cases hc : convertRecords cfg p.version p.baseTime p.uptime (dataRecordsOf p.flowSets) with
  | error e' => exact ⟨rfl, rfl⟩
  | ok ms =>
    rw [hc] at h
    simp only at h ⊢
    cases hs : searchSamplingRate (optionRecordsOf p.flowSets) with
    | error e' => exact ⟨rfl, rfl⟩
    | ok found =>
      rw [hs] at h
      simp at h

/-- everything but `diverge` -/
def Err.Any (e : Err) : Prop := e = .eof ∨ e = .bad ∨ e = .tnf ∨ e = .panic

/-- **one datagram through any pipe, ANY configuration**, any state: ok / eof / bad / tnf / panic -/
theorem pipe_any (k : Pipe.Kind) (cfg : Config) (st : Pipe.State) (src : Pipe.Src) (recv : Nat) (d : Bytes) :
    ∀ e, (Pipe.decodeFlow k cfg st src recv d).err = some e → Err.Any e := by
  intro e he
  rcases pipe_errIn (mapsIn_any cfg) k st src recv d e he with h | h | h | h
  · exact .inl h
  · exact .inr (.inr (.inl h))
  · exact .inr (.inl h)
  · exact .inr (.inr (.inr h))

/-- **no configuration makes a loop run out of fuel**: decoders, dissector, conversion, sane or not -/
theorem pipe_any_total (k : Pipe.Kind) (cfg : Config) (st : Pipe.State) (src : Pipe.Src) (recv : Nat) (d : Bytes) :
    (Pipe.decodeFlow k cfg st src recv d).err ≠ some .diverge := by
  intro h
  rcases pipe_any k cfg st src recv d _ h with h | h | h | h <;> cases h

private theorem recoverOut_err (st : Pipe.State) (e : Err) :
    recoverOut ⟨st, [], some (ErrW.ofErr e)⟩ = wrapOut ⟨st, [], some e⟩ := by
  cases e <;> simp [recoverOut, wrapOut, ErrW.ofErr, ErrW.recover]

private theorem nfW (cfg : Config) (st : Pipe.State) (src : Pipe.Src) (recv : Nat) (d : Bytes) :
    recoverOut (netflowPipeWith (wrapProducer (plain cfg)) st src recv d) = wrapOut (netflowPipe cfg st src recv d) := by
  unfold netflowPipeWith netflowPipe
  simp only
  cases hrd : readU 2 d with
  | error e => exact recoverOut_err _ e
  | ok vb =>
    obtain ⟨version, b⟩ := vb
    simp only
    by_cases h5 : version = 5
    · simp only [h5, if_true]
      cases hd : V5.decodeMessage b with
      | error e => exact recoverOut_err _ e
      | ok p => simp [wrapProducer, plain, recoverOut, wrapOut]
    · simp only [h5, if_false]
      by_cases h910 : version = 9 ∨ version = 10
      · simp only [h910, if_true]
        generalize (if version = 9 then Netflow.decodeMessageNetFlow (st.templatesOf src) b
          else Netflow.decodeMessageIPFIX (st.templatesOf src) b) = o
        cases ho : o.err with
        | some e => exact recoverOut_err _ e
        | none =>
          simp only [wrapProducer, plain]
          generalize processNetflow (some cfg) o.packet _ = r
          cases hre : r.err with
          | some e => cases e <;> simp [recoverOut, wrapOut, ErrW.ofErr, ErrW.recover]
          | none =>
            by_cases ht : o.tnf = true <;> simp [recoverOut, wrapOut, ErrW.ofErr, ErrW.recover, ht]
      · simp only [h910, if_false]
        simp [recoverOut, wrapOut, ErrW.ofErr, ErrW.recover]

private theorem sfW (cfg : Config) (st : Pipe.State) (recv : Nat) (d : Bytes) :
    recoverOut (sflowPipeWith (wrapProducer (plain cfg)) st recv d) = wrapOut (sflowPipe cfg st recv d) := by
  unfold sflowPipeWith sflowPipe
  cases hd : Sflow.decodeMessageVersion d with
  | error e => exact recoverOut_err _ e
  | ok p =>
    simp only [wrapProducer, plain]
    cases hp : processSflow (some cfg) p with
    | error e => cases e <;> simp [recoverOut, wrapOut, ErrW.ofErr, ErrW.recover]
    | ok ms => simp [recoverOut, wrapOut]

/-- **the wrapper layer, modelled where it sits in main.go**, is the outcome of `Pipe.decodeFlow` with
    the class `panic` replaced by `recovered`; same state, same messages -/
theorem decodeFlowW_eq (k : Pipe.Kind) (cfg : Config) (st : Pipe.State) (src : Pipe.Src) (recv : Nat) (d : Bytes) :
    decodeFlowW k cfg st src recv d = wrapOut (Pipe.decodeFlow k cfg st src recv d) := by
  cases k with
  | netflow => exact nfW cfg st src recv d
  | sflow => exact sfW cfg st recv d
  | auto =>
    unfold decodeFlowW decodeFlowP pipeWith decodeFlow autoPipeWith autoPipe
    simp only
    cases hrd : readU 4 d with
    | error e => exact recoverOut_err _ e
    | ok vb =>
      obtain ⟨proto, b⟩ := vb
      simp only
      split
      · exact sfW cfg st recv d
      · split
        · exact nfW cfg st src recv d
        · simp [recoverOut, wrapOut, ErrW.ofErr, ErrW.recover]

theorem wrapped_state_eq (k : Pipe.Kind) (cfg : Config) (st : Pipe.State) (src : Pipe.Src) (recv : Nat) (d : Bytes) :
    (decodeFlowW k cfg st src recv d).state = (Pipe.decodeFlow k cfg st src recv d).state := by
  rw [decodeFlowW_eq]; rfl

theorem wrapped_err_eq (k : Pipe.Kind) (cfg : Config) (st : Pipe.State) (src : Pipe.Src) (recv : Nat) (d : Bytes) :
    (decodeFlowW k cfg st src recv d).err = (Pipe.decodeFlow k cfg st src recv d).err.map fun e => (ErrW.ofErr e).recover := by
  rw [decodeFlowW_eq]; rfl

theorem recovered_iff_panic (k : Pipe.Kind) (cfg : Config) (st : Pipe.State) (src : Pipe.Src) (recv : Nat) (d : Bytes) :
    (decodeFlowW k cfg st src recv d).err = some .recovered ↔ (Pipe.decodeFlow k cfg st src recv d).err = some .panic := by
  rw [wrapped_err_eq]
  cases h : (Pipe.decodeFlow k cfg st src recv d).err with
  | none => simp
  | some e => cases e <;> simp [ErrW.ofErr, ErrW.recover]

/-- what the worker of utils/udp.go survives: a result, a returned error, or a recovered panic
    (returned as `*PanicErrorMessage`) -/
def SafeW (e : Option ErrW) : Prop :=
  e = none ∨ e = some .eof ∨ e = some .bad ∨ e = some .tnf ∨ e = some .recovered

theorem SafeW.ne {e : Option ErrW} (h : SafeW e) : e ≠ some .panic ∧ e ≠ some .diverge := by
  rcases h with rfl | rfl | rfl | rfl | rfl <;> exact ⟨by decide, by decide⟩

/-- **one datagram through the wrapped decode function, ANY configuration**, any state, any bytes:
    no panic escapes, nothing runs forever -/
theorem wrapped_safe (k : Pipe.Kind) (cfg : Config) (st : Pipe.State) (src : Pipe.Src) (recv : Nat) (d : Bytes) :
    SafeW (decodeFlowW k cfg st src recv d).err := by
  rw [wrapped_err_eq]
  cases h : (Pipe.decodeFlow k cfg st src recv d).err with
  | none => exact Or.inl rfl
  | some e =>
    rcases pipe_any k cfg st src recv d e h with rfl | rfl | rfl | rfl
    · exact Or.inr (Or.inl rfl)
    · exact Or.inr (Or.inr (Or.inl rfl))
    · exact Or.inr (Or.inr (Or.inr (Or.inl rfl)))
    · exact Or.inr (Or.inr (Or.inr (Or.inr rfl)))

theorem runW_eq (cfg : Config) (st : Pipe.State) (hist : List (Pipe.Kind × Pipe.Src × Nat × Bytes)) :
    runW cfg st hist = hist.foldl (fun s h => (Pipe.decodeFlow h.1 cfg s h.2.1 h.2.2.1 h.2.2.2).state) st := by
  unfold runW
  simp only [wrapped_state_eq]

/-- **any history, ANY configuration**: whatever datagrams came before, through any of the pipes, from
    any exporters, recovered from a panic or not, the next one is again processed safely -/
theorem wrapped_history_safe (cfg : Config) (st : Pipe.State) (hist : List (Pipe.Kind × Pipe.Src × Nat × Bytes))
    (k : Pipe.Kind) (src : Pipe.Src) (recv : Nat) (d : Bytes) :
    SafeW (decodeFlowW k cfg (runW cfg st hist) src recv d).err :=
  wrapped_safe k cfg _ src recv d

def errsW (cfg : Config) : Pipe.State → List (Pipe.Kind × Pipe.Src × Nat × Bytes) → List (Option ErrW)
  | _, [] => []
  | st, h :: t =>
    let o := decodeFlowW h.1 cfg st h.2.1 h.2.2.1 h.2.2.2
    o.err :: errsW cfg o.state t

theorem errsW_length (cfg : Config) (st : Pipe.State) (hist : List (Pipe.Kind × Pipe.Src × Nat × Bytes)) :
    (errsW cfg st hist).length = hist.length := by
  induction hist generalizing st with
  | nil => rfl
  | cons h t ih => simp [errsW, ih]

/-- every datagram of a history, not only the last one -/
theorem wrapped_history_all_safe (cfg : Config) (st : Pipe.State) (hist : List (Pipe.Kind × Pipe.Src × Nat × Bytes)) :
    ∀ e ∈ errsW cfg st hist, SafeW e := by
  induction hist generalizing st with
  | nil => intro e he; simp [errsW] at he
  | cons h t ih =>
    intro e he
    simp only [errsW, List.mem_cons] at he
    rcases he with rfl | he
    · exact wrapped_safe _ cfg _ _ _ _
    · exact ih _ e he

/-- **a recovered panic needs an un-`Sane` configuration** -/
theorem recovered_only_if_insane (k : Pipe.Kind) (cfg : Config) (st : Pipe.State) (src : Pipe.Src) (recv : Nat) (d : Bytes)
    (h : (decodeFlowW k cfg st src recv d).err = some .recovered) : ¬ Sane cfg := by
  intro hs
  exact (pipe_sane k cfg hs st src recv d).1 ((recovered_iff_panic k cfg st src recv d).mp h)

private theorem nfF (cfg : Config) (st : Pipe.State) (src : Pipe.Src) (recv : Nat) (d : Bytes) (e : Err)
    (h : (netflowPipe cfg st src recv d).err = some e) (hne : e ≠ .tnf) :
    (netflowPipe cfg st src recv d).state = (netflowPipeWith failing st src recv d).state := by
  unfold netflowPipeWith
  unfold netflowPipe at h ⊢
  simp only at h ⊢
  cases hrd : readU 2 d with
  | error e' => rfl
  | ok vb =>
    obtain ⟨version, b⟩ := vb
    rw [hrd] at h
    simp only at h ⊢
    by_cases h5 : version = 5
    · simp only [h5, if_true] at h ⊢
      cases hd : V5.decodeMessage b with
      | error e' => rfl
      | ok p => rfl
    · simp only [h5, if_false] at h ⊢
      by_cases h910 : version = 9 ∨ version = 10
      · simp only [h910, if_true] at h ⊢
        generalize (if version = 9 then Netflow.decodeMessageNetFlow (st.templatesOf src) b
          else Netflow.decodeMessageIPFIX (st.templatesOf src) b) = o at h ⊢
        cases ho : o.err with
        | some e' => rfl
        | none =>
          rw [ho] at h
          simp only [failing] at h ⊢
          cases hre : (processNetflow (some cfg) o.packet
              (((st.setTemplates src (st.templatesOf src)).setTemplates src o.store).ratesOf src.ip)).err with
          | some e' =>
            -- the only branch where the producer's answer is looked at: a failed conversion writes no rate
            have hu := (produce_err_untouched (some cfg) o.packet _ e' hre).1
            simp only [hu]
          | none =>
            rw [hre] at h
            simp only at h
            split at h
            · cases h; exact absurd rfl hne
            · cases h
      · simp only [h910, if_false]

private theorem sfF (cfg : Config) (st : Pipe.State) (recv : Nat) (d : Bytes) :
    (sflowPipe cfg st recv d).state = (sflowPipeWith failing st recv d).state ∧ (sflowPipe cfg st recv d).state = st := by
  unfold sflowPipeWith sflowPipe
  cases hd : Sflow.decodeMessageVersion d with
  | error e => exact ⟨rfl, rfl⟩
  | ok p =>
    simp only [failing]
    cases hp : processSflow (some cfg) p with
    | error e => exact ⟨rfl, rfl⟩
    | ok ms => exact ⟨rfl, rfl⟩

/-- a datagram that does not get through, by returned error or panic, in the decode step or in the
    conversion, leaves the state its decode step alone leaves (`decodeFlowF`: the same pipe over a
    producer that refuses every packet): exporter registered, its templates learned, no sampling
    rate written. The configuration plays no part in it. -/
theorem failed_state (k : Pipe.Kind) (cfg : Config) (st : Pipe.State) (src : Pipe.Src) (recv : Nat) (d : Bytes) (e : Err)
    (h : (Pipe.decodeFlow k cfg st src recv d).err = some e) (hne : e ≠ .tnf) :
    (Pipe.decodeFlow k cfg st src recv d).state = (decodeFlowF k st src recv d).state := by
  cases k with
  | netflow => exact nfF cfg st src recv d e h hne
  | sflow => exact (sfF cfg st recv d).1
  | auto =>
    unfold decodeFlowF pipeWith autoPipeWith
    unfold decodeFlow autoPipe at h ⊢
    simp only at h ⊢
    cases hrd : readU 4 d with
    | error e' => rfl
    | ok vb =>
      obtain ⟨proto, b⟩ := vb
      rw [hrd] at h
      simp only at h ⊢
      split
      · exact (sfF cfg st recv d).1
      · rename_i h5
        simp only [h5, if_false] at h
        split
        · rename_i hnf
          simp only [hnf, if_true] at h
          exact nfF cfg st src recv d e h hne
        · rfl

/-- **the state after a recovered panic** is the state the same datagram leaves when its conversion is
    replaced by one that fails: templates kept, rates untouched -/
theorem recovered_state (k : Pipe.Kind) (cfg : Config) (st : Pipe.State) (src : Pipe.Src) (recv : Nat) (d : Bytes)
    (h : (decodeFlowW k cfg st src recv d).err = some .recovered) :
    (decodeFlowW k cfg st src recv d).state = (decodeFlowF k st src recv d).state := by
  rw [wrapped_state_eq]
  exact failed_state k cfg st src recv d .panic ((recovered_iff_panic k cfg st src recv d).mp h) (by decide)

/-- the datagram after a recovered one is processed exactly as if the recovered one had been refused by
    an ordinary returned error of the conversion -/
theorem after_recovered (k : Pipe.Kind) (cfg : Config) (st : Pipe.State) (src : Pipe.Src) (recv : Nat) (d : Bytes)
    (h : (decodeFlowW k cfg st src recv d).err = some .recovered)
    (k' : Pipe.Kind) (src' : Pipe.Src) (recv' : Nat) (d' : Bytes) :
    decodeFlowW k' cfg (decodeFlowW k cfg st src recv d).state src' recv' d'
      = decodeFlowW k' cfg (decodeFlowF k st src recv d).state src' recv' d' := by
  rw [recovered_state k cfg st src recv d h]

theorem ratesOf_setTemplates (s : Pipe.State) (k : Pipe.Src) (t : Netflow.Store) (ip : Bytes) :
    (s.setTemplates k t).ratesOf ip = s.ratesOf ip := rfl

theorem templatesOf_setRates (s : Pipe.State) (ip : Bytes) (r : Rates) (k : Pipe.Src) :
    (s.setRates ip r).templatesOf k = s.templatesOf k := rfl

theorem ratesOf_setRates_self (s : Pipe.State) (ip ip' : Bytes) :
    (s.setRates ip (s.ratesOf ip)).ratesOf ip' = s.ratesOf ip' := by
  unfold Pipe.State.setRates Pipe.State.ratesOf
  simp only
  rw [lookup_cons_filter]
  by_cases hk : ip' = ip
  · subst hk; simp
  · have : (ip' == ip) = false := by simpa using hk
    simp [this]

theorem templatesOf_setTemplates (s : Pipe.State) (k k' : Pipe.Src) (t : Netflow.Store) :
    (s.setTemplates k t).templatesOf k' = if k' = k then t else s.templatesOf k' := by
  unfold Pipe.State.setTemplates Pipe.State.templatesOf
  simp only
  rw [lookup_cons_filter]
  by_cases hk : k' = k
  · subst hk; simp
  · have : (k' == k) = false := by simpa using hk
    simp [this, hk]

theorem decodeFlowF_rates (k : Pipe.Kind) (st : Pipe.State) (src : Pipe.Src) (recv : Nat) (d : Bytes) (ip : Bytes) :
    (decodeFlowF k st src recv d).state.ratesOf ip = st.ratesOf ip := by
  have nf : (netflowPipeWith failing st src recv d).state.ratesOf ip = st.ratesOf ip := by
    fun_cases netflowPipeWith failing st src recv d
    case case6 => exact (ratesOf_setRates_self _ _ _).trans rfl
    case case7 => exact (ratesOf_setRates_self _ _ _).trans rfl
    all_goals rfl
  have sf : (sflowPipeWith failing st recv d).state.ratesOf ip = st.ratesOf ip := by
    fun_cases sflowPipeWith failing st recv d <;> rfl
  cases k with
  | netflow => exact nf
  | sflow => exact sf
  | auto =>
    unfold decodeFlowF pipeWith autoPipeWith
    simp only
    cases hrd : readU 4 d with
    | error e' => rfl
    | ok vb =>
      obtain ⟨proto, b⟩ := vb
      simp only
      split
      · exact sf
      · split
        · exact nf
        · rfl

/-- **rates untouched**: a recovered datagram changes the sampling rate of no exporter — not even when it
    carries sampling options itself (the conversion of its data records panicked before they were read) -/
theorem recovered_rates_untouched (k : Pipe.Kind) (cfg : Config) (st : Pipe.State) (src : Pipe.Src) (recv : Nat) (d : Bytes)
    (h : (decodeFlowW k cfg st src recv d).err = some .recovered) (ip : Bytes) :
    (decodeFlowW k cfg st src recv d).state.ratesOf ip = st.ratesOf ip := by
  rw [recovered_state k cfg st src recv d h]
  exact decodeFlowF_rates k st src recv d ip

/-- **templates kept**, NetFlow pipe: after a recovered v9 / IPFIX datagram the template store of its
    exporter is the store its decode step produced; the stores of the other exporters are untouched -/
theorem recovered_templates (cfg : Config) (st : Pipe.State) (src : Pipe.Src) (recv : Nat) (d : Bytes)
    (h : (decodeFlowW .netflow cfg st src recv d).err = some .recovered) :
    ∃ version b, readU 2 d = .ok (version, b) ∧ (version = 9 ∨ version = 10) ∧
      ∀ src', (decodeFlowW .netflow cfg st src recv d).state.templatesOf src' =
        if src' = src then
          (if version = 9 then Netflow.decodeMessageNetFlow (st.templatesOf src) b
           else Netflow.decodeMessageIPFIX (st.templatesOf src) b).store
        else st.templatesOf src' := by
  have hp := (recovered_iff_panic .netflow cfg st src recv d).mp h
  rw [wrapped_state_eq]
  -- no reader and no decode step panics, so `hp` leaves only the branch "v9 / IPFIX decoded, conversion
  -- failed"; there the state is the decoded store written for `src`, perhaps a rate written too (`key`)
  unfold decodeFlow at hp ⊢
  simp only at hp ⊢
  unfold netflowPipe at hp ⊢
  simp only at hp ⊢
  cases hrd : readU 2 d with
  | error e' =>
    rw [hrd] at hp
    simp only [Option.some.injEq] at hp
    have := readU_err hrd
    rw [this] at hp; cases hp
  | ok vb =>
    obtain ⟨version, b⟩ := vb
    rw [hrd] at hp
    simp only at hp ⊢
    refine ⟨version, b, rfl, ?_⟩
    by_cases h5 : version = 5
    · simp only [h5, if_true] at hp
      cases hd : V5.decodeMessage b with
      | error e' =>
        rw [hd] at hp
        simp only [Option.some.injEq] at hp
        rcases V5.decodeMessage_err b _ hd with h' | h' <;> rw [h'] at hp <;> cases hp
      | ok p => rw [hd] at hp; cases hp
    · simp only [h5, if_false] at hp ⊢
      by_cases h910 : version = 9 ∨ version = 10
      · refine ⟨h910, ?_⟩
        simp only [h910, if_true] at hp ⊢
        have hsafe := decodeStep_safe (st.templatesOf src) version b
        generalize (if version = 9 then Netflow.decodeMessageNetFlow (st.templatesOf src) b
          else Netflow.decodeMessageIPFIX (st.templatesOf src) b) = o at hp hsafe ⊢
        intro src'
        have key : ∀ r, (((st.setTemplates src (st.templatesOf src)).setTemplates src o.store).setRates src.ip r).templatesOf src'
            = if src' = src then o.store else st.templatesOf src' := by
          intro r
          rw [templatesOf_setRates, templatesOf_setTemplates, templatesOf_setTemplates]
          by_cases hs : src' = src <;> simp [hs]
        cases ho : o.err with
        | some e' =>
          rw [ho] at hp
          simp only [Option.some.injEq] at hp
          rcases hsafe _ ho with h' | h' <;> rw [h'] at hp <;> cases hp
        | none =>
          simp only
          split <;> exact key _
      · simp only [h910, if_false] at hp
        cases hp

def NoPanicP (P : ProducerI) : Prop :=
  (∀ p, P.legacy p ≠ .error .panic) ∧ (∀ p r, (P.netflow p r).err ≠ some .panic) ∧ (∀ p, P.sflow p ≠ .error .panic)

/-- `debug.WrapPanicProducer` around ANY producer: `Produce` returns -/
theorem wrapProducer_noPanic (P : ProducerI) : NoPanicP (wrapProducer P) := by
  refine ⟨?_, ?_, ?_⟩
  · intro p
    simp only [wrapProducer]
    cases P.legacy p with
    | error e => cases e <;> simp [ErrW.recover]
    | ok ms => simp
  · intro p r
    simp only [wrapProducer]
    split
    · simp
    · rename_i hne
      exact fun h => hne h
  · intro p
    simp only [wrapProducer]
    cases P.sflow p with
    | error e => cases e <;> simp [ErrW.recover]
    | ok ms => simp

private theorem ofErr_R_ne_panic {e : Err} (h : e.R) : ErrW.ofErr e ≠ .panic := by
  rcases h with rfl | rfl <;> simp [ErrW.ofErr]

/-- the decode steps and the bookkeeping of the pipes of utils/pipe.go have no panic point of their own -/
theorem pipeWith_noPanic (P : ProducerI) (hP : NoPanicP P) (k : Pipe.Kind) (st : Pipe.State) (src : Pipe.Src) (recv : Nat) (d : Bytes) :
    (pipeWith P k st src recv d).err ≠ some .panic := by
  have nf : (netflowPipeWith P st src recv d).err ≠ some .panic := by
    fun_cases netflowPipeWith P st src recv d
    · simpa using ofErr_R_ne_panic (.inl (readU_err ‹_›))
    · simpa using ofErr_R_ne_panic (V5.decodeMessage_err _ _ ‹_›)
    · intro he; cases he; exact hP.1 _ ‹_›
    · simp
    · simpa using ofErr_R_ne_panic (decodeStep_safe _ _ _ _ ‹_›)
    · intro he; cases he; exact hP.2.1 _ _ ‹_›
    · simp only; split <;> simp
    · simp
  have sf : (sflowPipeWith P st recv d).err ≠ some .panic := by
    fun_cases sflowPipeWith P st recv d
    · simpa using ofErr_R_ne_panic (Sflow.decodeMessageVersion_err ‹_›)
    · intro he; cases he; exact hP.2.2 _ ‹_›
    · simp
  cases k with
  | netflow => exact nf
  | sflow => exact sf
  | auto =>
    unfold pipeWith autoPipeWith
    simp only
    cases hrd : readU 4 d with
    | error e' => simpa using ofErr_R_ne_panic (Or.inl (readU_err hrd))
    | ok vb =>
      obtain ⟨proto, b⟩ := vb
      simp only
      split
      · exact sf
      · split
        · exact nf
        · simp

/-- **every panic of the model is caught by the producer wrapper** (`Produce` is the only place a mapping
    runs); the `recover()` of `PanicDecoderWrapper` never fires: the error the worker sees is the
    `*PanicErrorMessage` of utils/debug/producer.go:38 inside the `*PipeMessageError` of utils/pipe.go:131/231 -/
theorem decoder_wrapper_idle (k : Pipe.Kind) (cfg : Config) (st : Pipe.State) (src : Pipe.Src) (recv : Nat) (d : Bytes) :
    decodeFlowW k cfg st src recv d = decodeFlowP k cfg st src recv d := by
  have h := pipeWith_noPanic (wrapProducer (plain cfg)) (wrapProducer_noPanic _) k st src recv d
  unfold decodeFlowW recoverOut
  unfold decodeFlowP
  split
  · rename_i hp; exact absurd hp h
  · rfl

namespace AnyExample
open Goflow.Format Goflow.C14Compile

def exporter : Pipe.Src := ⟨[10, 0, 0, 1], 2055⟩

/-- `ipfix: mapping: - field: 1, destination: sizeCache`, an unexported member of the Go message struct -/
def rawSize : RawConfig := { ipfix := [{ type := 1, destination := "sizeCache" }] }

def cfgSize : Config := { ipfix := [⟨false, 0, 1, { destination := "sizeCache" }⟩], present := true }

theorem rawSize_accepted : Accepted rawSize := by decide
theorem rawSize_compiled : cfgOf rawSize = cfgSize := by rfl
theorem rawSize_loaded : ∃ c, compile rawSize initialIsSlice = .ok c ∧ c.cfg = cfgSize :=
  ⟨_, (compile_ok_iff rawSize initialIsSlice _).2 ⟨rawSize_accepted, rfl⟩, rawSize_compiled⟩

theorem cfgSize_insane : ¬ Sane cfgSize := by
  intro h
  exact (h.2.1 ⟨false, 0, 1, { destination := "sizeCache" }⟩ (by simp [cfgSize])).1 rfl

/-- IPFIX, domain 4: templates 256 = {octetDeltaCount(1)/4} and 257 = {packetDeltaCount(2)/4}, one data
    record for template 256 -/
def dgA : Bytes := [0,10, 0,44, 0,0,0,2, 0,0,0,3, 0,0,0,4,
  0,2, 0,20, 1,0, 0,1, 0,1, 0,4, 1,1, 0,1, 0,2, 0,4,
  1,0, 0,8, 0,0,0,100]
/-- IPFIX, domain 4: one data record for template 257, no template -/
def dgB : Bytes := [0,10, 0,24, 0,0,0,2, 0,0,0,4, 0,0,0,4, 1,1, 0,8, 0,0,0,7]

/-- reflect panics on Set of an unexported field -/
example : (Pipe.decodeFlow .netflow cfgSize {} exporter 1 dgA).err = some .panic := by decide +kernel
example : (decodeFlowW .netflow cfgSize {} exporter 1 dgA).err = some .recovered ∧
    (decodeFlowW .netflow cfgSize {} exporter 1 dgA).msgs = [] := by decide +kernel
/-- the next datagram is decoded with template 257, learned from the recovered datagram, and yields
    the message a collector without mapping file produces -/
example : (decodeFlowW .netflow cfgSize (runW cfgSize {} [(.netflow, exporter, 1, dgA)]) exporter 2 dgB).err = none ∧
    (decodeFlowW .netflow cfgSize (runW cfgSize {} [(.netflow, exporter, 1, dgA)]) exporter 2 dgB).msgs
      = (Pipe.decodeFlow .netflow {} (Pipe.decodeFlow .netflow {} {} exporter 1 dgA).state exporter 2 dgB).msgs ∧
    (decodeFlowW .netflow cfgSize (runW cfgSize {} [(.netflow, exporter, 1, dgA)]) exporter 2 dgB).msgs.length = 1 := by decide +kernel
/-- without the recovered datagram before it, `dgB` has no template -/
example : (decodeFlowW .netflow cfgSize {} exporter 2 dgB).err = some .tnf := by decide +kernel
example : errsW cfgSize {} [(.netflow, exporter, 1, dgA), (.netflow, exporter, 2, dgB), (.netflow, exporter, 3, dgA)]
    = [some .recovered, none, some .recovered] := by decide +kernel

/-- `dgA` with, in front of its data record, an options template 258 and an options data record announcing
    samplingPacketInterval(305) = 1000 for domain 4 -/
def dgC : Bytes := [0,10, 0,74, 0,0,0,2, 0,0,0,3, 0,0,0,4,
  0,2, 0,20, 1,0, 0,1, 0,1, 0,4, 1,1, 0,1, 0,2, 0,4,
  0,3, 0,18, 1,2, 0,2, 0,1, 0,149, 0,4, 1,49, 0,4,
  1,2, 0,12, 0,0,0,4, 0,0,3,232,
  1,0, 0,8, 0,0,0,100]

/-- the recovered datagram announced a sampling rate, but its conversion panicked before the options
    were read: the next message carries rate 0, and 1000 in the same history without mapping file -/
example : (decodeFlowW .netflow cfgSize {} exporter 1 dgC).err = some .recovered ∧
    (decodeFlowW .netflow cfgSize (runW cfgSize {} [(.netflow, exporter, 1, dgC)]) exporter 2 dgB).msgs.map (·.samplingRate) = [0] ∧
    (decodeFlowW .netflow {} {} exporter 1 dgC).err = none ∧
    (decodeFlowW .netflow {} (runW {} {} [(.netflow, exporter, 1, dgC)]) exporter 2 dgB).msgs.map (·.samplingRate) = [1000] := by decide +kernel

/-- `sflow: mapping: - layer: ipv4, offset: -120, length: 8, destination: ip_ttl` -/
def rawNeg : RawConfig := { layers := [{ layer := "ipv4", offset := -120, length := 8, destination := "ip_ttl" }] }

def cfgNeg : Config := { layers := [⟨"ipv4", false, -120, 8, { destination := "IpTtl" }⟩], present := true }

theorem rawNeg_accepted : Accepted rawNeg := by decide
theorem rawNeg_compiled : cfgOf rawNeg = cfgNeg := by rfl
theorem rawNeg_loaded : ∃ c, compile rawNeg initialIsSlice = .ok c ∧ c.cfg = cfgNeg :=
  ⟨_, (compile_ok_iff rawNeg initialIsSlice _).2 ⟨rawNeg_accepted, rfl⟩, rawNeg_compiled⟩

theorem cfgNeg_insane : ¬ Sane cfgNeg := by
  intro h
  exact absurd (h.1 ⟨"ipv4", false, -120, 8, { destination := "IpTtl" }⟩ (by simp [cfgNeg])).1 (by decide)

/-- sFlow v5, agent 10.0.0.1, one flow sample (rate 100) with one raw packet header record:
    Ethernet + IPv4 header, 34 bytes -/
def sfA : Bytes := [0,0,0,5, 0,0,0,1, 10,0,0,1, 0,0,0,0, 0,0,0,1, 0,0,3,232, 0,0,0,1,
  0,0,0,1, 0,0,0,92, 0,0,0,1, 0,0,0,1, 0,0,0,100, 0,0,0,1, 0,0,0,0, 0,0,0,3, 0,0,0,4, 0,0,0,1,
  0,0,0,1, 0,0,0,52, 0,0,0,1, 0,0,0,34, 0,0,0,0, 0,0,0,34,
  2,0,0,0,0,1, 2,0,0,0,0,2, 8,0, 69,0, 0,20, 0,1, 0,0, 64, 17, 0,0, 192,0,2,1, 192,0,2,2, 0,0]
/-- the same with an ARP frame cut after the Ethernet header, 14 bytes: no IPv4 layer, the mapping is not used -/
def sfB : Bytes := [0,0,0,5, 0,0,0,1, 10,0,0,1, 0,0,0,0, 0,0,0,1, 0,0,3,232, 0,0,0,1,
  0,0,0,1, 0,0,0,72, 0,0,0,1, 0,0,0,1, 0,0,0,100, 0,0,0,1, 0,0,0,0, 0,0,0,3, 0,0,0,4, 0,0,0,1,
  0,0,0,1, 0,0,0,32, 0,0,0,1, 0,0,0,14, 0,0,0,0, 0,0,0,14,
  2,0,0,0,0,1, 2,0,0,0,0,2, 8,6, 0,0]

set_option maxRecDepth 8000 in
/-- bit offset 14·8 − 120 = −8 of the frame: `GetBytes` slices out of range -/
example : (Pipe.decodeFlow .sflow cfgNeg {} exporter 1 sfA).err = some .panic := by decide +kernel
set_option maxRecDepth 8000 in
example : (decodeFlowW .sflow cfgNeg {} exporter 1 sfA).err = some .recovered ∧
    (decodeFlowW .sflow cfgNeg {} exporter 1 sfA).msgs = [] := by decide +kernel
set_option maxRecDepth 8000 in
example : (decodeFlowW .sflow cfgNeg (runW cfgNeg {} [(.sflow, exporter, 1, sfA)]) exporter 2 sfB).err = none ∧
    (decodeFlowW .sflow cfgNeg (runW cfgNeg {} [(.sflow, exporter, 1, sfA)]) exporter 2 sfB).msgs
      = (Pipe.decodeFlow .sflow {} {} exporter 2 sfB).msgs ∧
    (decodeFlowW .sflow cfgNeg (runW cfgNeg {} [(.sflow, exporter, 1, sfA)]) exporter 2 sfB).msgs.length = 1 := by decide +kernel
set_option maxRecDepth 8000 in
example : errsW cfgNeg {} [(.auto, exporter, 1, sfA), (.auto, exporter, 2, sfB), (.auto, exporter, 3, dgA),
      (.auto, exporter, 4, sfA), (.auto, exporter, 5, dgB)]
    = [some .recovered, none, none, some .recovered, none] := by decide +kernel

end AnyExample

/-! Every example above was also run through the real `debug.WrapPanicProducer` / `debug.PanicDecoderWrapper`
    over `utils.NewNetFlowPipe` / `NewSFlowPipe` / `NewFlowPipe` with the YAML files quoted: same outcome classes,
    same `sampling_rate` values, and the recovered error is a `*PanicErrorMessage` inside a `*PipeMessageError`. -/

end Goflow.C01
