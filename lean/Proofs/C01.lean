import Proofs.Lemmas.SafetyPacket
import Proofs.Lemmas.Numbers
import Goflow.Pipe
/-!
  C01 — Untrusted datagrams never crash or stall the collector.
  `panic` and `diverge` are real outcomes of the model (DESIGN.md §6); the theorems show they are
  unreachable for every byte string, every template / sampling state and every history.
  The chain dissector → conversion → pipes is proved once, for an error class `P` and a configuration
  whose mapping steps fail within `P` (`MapsIn`); this file instantiates it for configurations without
  custom mappings (none / compiled from an empty file), `Proofs/C01Sane.lean` for mappings under `Sane`,
  `Proofs/C01Any.lean` for every configuration the loader accepts.
-/
namespace Goflow.C01
open Goflow Goflow.Producer Goflow.Pipe

/-- outcome of a call that is a result or a returned error -/
def Safe (e : Option Err) : Prop := e ≠ some .panic ∧ e ≠ some .diverge

/-- NetFlow v5: every byte string decodes to a packet or a returned error -/
theorem v5_safe (d : Bytes) : ∀ e, V5.decodeMessageVersion d = .error e → e.R :=
  fun _ h => V5.decodeMessageVersion_err h

/-- sFlow v5: every byte string, whatever counts and lengths it claims -/
theorem sflow_safe (d : Bytes) : ∀ e, Sflow.decodeMessageVersion d = .error e → e.R :=
  fun _ h => Sflow.decodeMessageVersion_err h

/-- NetFlow v9 / IPFIX: every byte string against **every** template store (not only reachable
    ones): no loop runs out of its fuel and no panic point is reachable -/
theorem netflow_safe (s : Netflow.Store) (d : Bytes) :
    ∀ e, (Netflow.decodeMessageVersion s d).err = some e → e = .eof ∨ e = .bad :=
  Netflow.decodeMessageVersion_safe s d

/-- the iteration bound behind `netflow_safe`: a data set with records of size > 0 is cut in at most
    |payload| iterations — fuel |payload|+1 never runs out, for any template -/
theorem iterations_bounded (fs : List Netflow.Field) (hpos : 0 < Netflow.templateSize fs) (b : Bytes) :
    Netflow.decodeDataSetLoop fs (b.length + 1) b ≠ .error .diverge :=
  Netflow.decodeDataSetLoop_terminates fs hpos (b.length + 1) b (by omega)

theorem parsePacket_safe (cfg : Config) (hcfg : cfg.layers = []) (m : FlowMsg) (data : Bytes) :
    ∃ m', parsePacket cfg m data = .ok m' := Producer.parsePacket_safe cfg hcfg m data

/-- no mapping file, or one that declares none -/
def NoMappings (cfg : Config) : Prop := cfg.layers = [] ∧ cfg.ipfix = [] ∧ cfg.v9 = []

theorem decodeStep_safe (tpl : Netflow.Store) (version : Nat) (b : Bytes) :
    ∀ e, (if version = 9 then Netflow.decodeMessageNetFlow tpl b else Netflow.decodeMessageIPFIX tpl b).err = some e →
      e = .eof ∨ e = .bad := by
  split
  · exact Netflow.decodeMessageNetFlow_safe tpl b
  · exact Netflow.decodeMessageIPFIX_safe tpl b

/-- every mapping step of `cfg` fails within `P`, to which the ordinary returned error belongs -/
structure MapsIn (P : Err → Prop) (cfg : Config) : Prop where
  bad : P .bad
  layers : LayersIn P cfg.layers
  ipfix : ∀ x ∈ cfg.ipfix, ∀ m v, ErrIn P (mapCustom m v x.field)
  v9 : ∀ x ∈ cfg.v9, ∀ m v, ErrIn P (mapCustom m v x.field)

theorem NoMappings.mapsIn {cfg : Config} (h : NoMappings cfg) : MapsIn (· = .bad) cfg := by
  obtain ⟨h1, h2, h3⟩ := h
  refine ⟨rfl, ?_, ?_, ?_⟩
  · rw [h1]; exact fun _ hx => nomatch hx
  · rw [h2]; exact fun _ hx => nomatch hx
  · rw [h3]; exact fun _ hx => nomatch hx

theorem decodeUNumber_bad {bits : Nat} {b : Bytes} : ErrIn (· = .bad) (decodeUNumber bits b) := by
  have raw : ErrIn (· = .bad) (decodeUNumberRaw b) := by
    unfold decodeUNumberRaw
    exact .ite (fun _ => .ok) fun _ => .ite (fun _ => .ok) fun _ => .error rfl
  unfold decodeUNumber
  split
  · exact .ok
  · exact .error (raw _ ‹_›)

theorem lookupNetflow_mem {es : List NetflowMapEntry} {pp : Bool} {pen type : Nat} {f : MapField}
    (h : lookupNetflow es pp pen type = some f) : ∃ e ∈ es, e.field = f := by
  unfold lookupNetflow at h
  split at h
  · rename_i x hx
    cases h
    exact ⟨x, (List.mem_filter.mp (List.mem_of_getLast? hx)).1, rfl⟩
  · cases h

/-- sampling options of any width are accepted (up to 8 bytes decoded, wider ones ignored), so the
    lookup of the sampling rate never fails -/
theorem searchSamplingRate_ok (rs : List Netflow.OptionsDataRecord) : ErrIn (fun _ => False) (searchSamplingRate rs) := by
  have pop : ∀ (fs : List Netflow.DataField) (t : Nat), ErrIn (fun _ => False) (populate fs t) := by
    intro fs t
    unfold populate
    split
    · exact .ok
    · split
      · exact .ok
      · refine .ite (fun _ => .ok) fun hl => ?_
        split
        · rename_i he
          obtain ⟨x, hx⟩ := decodeUNumber_short 32 _ hl
          rw [hx] at he
          cases he
        · exact .ok
  induction rs with
  | nil => exact .ok
  | cons r rs ih =>
    unfold searchSamplingRate
    split
    · exact .error (pop _ _ _ ‹_›)
    · exact .ok
    · split
      · exact .error (pop _ _ _ ‹_›)
      · exact .ok
      · split
        · exact .error (pop _ _ _ ‹_›)
        · exact .ok
        · exact ih

section
variable {P : Err → Prop} {cfg : Config} (h : MapsIn P cfg)
include h

theorem applyAction_errIn (bt up : Nat) (m : FlowMsg) (v : Bytes) (a : Action) :
    ErrIn P (applyAction (some cfg) bt up m v a) := by
  have hu : ∀ {bits e}, decodeUNumber bits v = .error e → P e := fun he => decodeUNumber_bad _ he ▸ h.bad
  cases a <;> simp only [applyAction]
  case frameSection =>
    split
    · exact .error (parsePacket_errIn cfg h.layers _ _ _ ‹_›)
    · exact .ok
  case ipVersion => split <;> exact .ok
  case addr => exact .ok
  case bytes => exact .ok
  case mplsIp => exact .ok
  case unum2 =>
    split
    · exact .error (hu ‹_›)
    · split
      · exact .error (hu ‹_›)
      · exact .ok
  -- the other elements decode one number
  all_goals
    split
    · exact .error (hu ‹_›)
    · exact .ok

theorem convertFields_errIn (version bt up : Nat) (fs : List Netflow.DataField) (m : FlowMsg) :
    ErrIn P (convertFields (some cfg) version bt up fs m) := by
  induction fs generalizing m with
  | nil => exact .ok
  | cons df rest ih =>
    unfold convertFields
    split
    · exact ih m
    · simp only
      split
      · rename_i he
        refine .error ?_
        split at he
        · rename_i f hl
          obtain ⟨x, hx, rfl⟩ := lookupNetflow_mem hl
          have hm : ∀ y ∈ (if version = 10 then cfg.ipfix else cfg.v9), ∀ m v, ErrIn P (mapCustom m v y.field) := by
            split
            · exact h.ipfix
            · exact h.v9
          exact hm x hx _ _ _ he
        · cases he
      · refine .ite (fun _ => ih _) fun _ => ?_
        split
        · exact ih _
        · split
          · exact .error (applyAction_errIn h _ _ _ _ _ _ ‹_›)
          · exact ih _

theorem convertRecords_errIn (version bt up : Nat) (rs : List Netflow.DataRecord) :
    ErrIn P (convertRecords (some cfg) version bt up rs) := by
  induction rs with
  | nil => exact .ok
  | cons r rs ih =>
    unfold convertRecords
    split
    · exact .error (convertFields_errIn h _ _ _ _ _ _ ‹_›)
    · split
      · exact .error (ih _ ‹_›)
      · exact .ok

/-- only the mapping steps fail: the lookup of the sampling rate never does -/
theorem produce_errIn (p : Netflow.Packet) (rates : Rates) :
    ∀ e, (processNetflow (some cfg) p rates).err = some e → P e := by
  intro e he
  unfold processNetflow at he
  split at he
  · cases he
    exact convertRecords_errIn h _ _ _ _ _ ‹_›
  · split at he
    · exact (searchSamplingRate_ok _ _ ‹_›).elim
    · cases he

theorem processSflow_errIn (p : Sflow.Packet) : ErrIn P (processSflow (some cfg) p) := by
  have rec1 : ∀ (m : FlowMsg) (r : Sflow.FlowRecord), ErrIn P (applyRecord (some cfg) m r) := by
    intro m r
    unfold applyRecord
    split
    · exact .ite (fun _ => parsePacket_errIn cfg h.layers _ _) fun _ => .ok
    · exact .ite (fun _ => .ok) fun _ => .ite (fun _ => .ok) fun _ => .ite (fun _ => .ok) fun _ => .ok
    · exact .ok
    · exact .ok
    · exact .ok
  have recs : ∀ (rs : List Sflow.FlowRecord) (m : FlowMsg), ErrIn P (applyRecords (some cfg) rs m) := by
    intro rs
    induction rs with
    | nil => exact fun _ => .ok
    | cons r rs ih =>
      intro m
      unfold applyRecords
      split
      · exact .error (rec1 _ _ _ ‹_›)
      · exact ih _
  have samples : ∀ (ss : List Sflow.Sample), ErrIn P (convertSamples (some cfg) ss) := by
    intro ss
    induction ss with
    | nil => exact .ok
    | cons s ss ih =>
      unfold convertSamples
      split
      · exact ih
      · rename_i e hs
        refine .error ?_
        cases s <;> simp only [convertSample, Option.some.injEq, reduceCtorEq] at hs
        · exact recs _ _ _ hs
        · exact recs _ _ _ hs
      · split
        · exact .error (ih _ ‹_›)
        · exact .ok
  unfold processSflow
  split
  · exact .error (samples _ _ ‹_›)
  · exact .ok

/-- **one datagram through any pipe**, any state: a short read, template-not-found, or an error of the
    class of the mapping steps (which holds the ordinary returned error) -/
theorem pipe_errIn (k : Kind) (st : State) (src : Src) (recv : Nat) (d : Bytes) :
    ∀ e, (decodeFlow k cfg st src recv d).err = some e → e = .eof ∨ e = .tnf ∨ P e := by
  have ofR : ∀ {e : Err}, e.R → e = .eof ∨ e = .tnf ∨ P e := fun hr =>
    hr.elim .inl fun hb => .inr (.inr (hb ▸ h.bad))
  have nf : ∀ e, (netflowPipe cfg st src recv d).err = some e → e = .eof ∨ e = .tnf ∨ P e := by
    fun_cases netflowPipe cfg st src recv d <;> intro e he
    · cases he; exact .inl (readU_err ‹_›)
    · cases he; exact ofR (V5.decodeMessage_err _ _ ‹_›)
    · cases he
    · cases he; exact ofR (decodeStep_safe _ _ _ _ ‹_›)
    · cases he; exact .inr (.inr (produce_errIn h _ _ _ ‹_›))
    · refine .inr (.inl ?_)
      revert he
      show (if _ then _ else _) = _ → _
      split <;> intro he <;> cases he
      rfl
    · cases he; exact ofR (.inr rfl)
  have sf : ∀ e, (sflowPipe cfg st recv d).err = some e → e = .eof ∨ e = .tnf ∨ P e := by
    fun_cases sflowPipe cfg st recv d <;> intro e he <;> cases he
    · exact ofR (Sflow.decodeMessageVersion_err ‹_›)
    · exact .inr (.inr (processSflow_errIn h _ _ ‹_›))
  intro e he
  cases k with
  | netflow => exact nf e he
  | sflow => exact sf e he
  | auto =>
    unfold decodeFlow autoPipe at he
    simp only at he
    split at he
    · cases he; exact .inl (readU_err ‹_›)
    · split at he
      · exact sf e he
      · split at he
        · exact nf e he
        · cases he; exact ofR (.inr rfl)

end

/-- conversion fails only on a value wider than 8 bytes for a numeric element -/
theorem produce_safe (cfg : Config) (hcfg : NoMappings cfg) (p : Netflow.Packet) (rates : Rates) :
    ∀ e, (processNetflow (some cfg) p rates).err = some e → e.R :=
  fun e he => .inr (produce_errIn hcfg.mapsIn p rates e he)

theorem safe_of_mapsIn {cfg : Config} (h : MapsIn (· = .bad) cfg) (k : Kind) (st : State) (src : Src) (recv : Nat) (d : Bytes) :
    Safe (decodeFlow k cfg st src recv d).err := by
  refine ⟨fun he => ?_, fun he => ?_⟩ <;> rcases pipe_errIn h k st src recv d _ he with h' | h' | h' <;> cases h'

/-- **one datagram through any pipe**, any state: a result, a returned error or template-not-found -/
theorem pipe_safe (k : Kind) (cfg : Config) (hcfg : NoMappings cfg) (st : State) (src : Src) (recv : Nat) (d : Bytes) :
    Safe (decodeFlow k cfg st src recv d).err :=
  safe_of_mapsIn hcfg.mapsIn k st src recv d

/-- **any history**: whatever datagrams came before, valid or malformed, from any exporter, every
    later datagram is again processed to a result or a returned error -/
theorem pipe_history_safe (k : Kind) (cfg : Config) (hcfg : NoMappings cfg) (st : State)
    (hist : List (Src × Nat × Bytes)) (src : Src) (recv : Nat) (d : Bytes) :
    Safe (decodeFlow k cfg (hist.foldl (fun s h => (decodeFlow k cfg s h.1 h.2.1 h.2.2).state) st) src recv d).err :=
  pipe_safe k cfg hcfg _ src recv d

/-- non-vacuity -/
example : NoMappings {} := ⟨rfl, rfl, rfl⟩

end Goflow.C01
