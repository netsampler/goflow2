import Proofs.C01
import Proofs.C14Bits
/-!
  C01 for configurations **with** custom mappings.

  `Proofs/C01.lean` shows that no datagram ends in `panic` / `diverge` when the configuration carries no
  mappings. Here the same statements are proved for every configuration that satisfies `Sane`: bit
  offsets and lengths of the layer mappings are not negative and no mapping writes to one of the two
  unexported members of the Go message struct that make `reflect` panic. Mapping steps may fail, but
  only with a *returned* error.
-/
namespace Goflow.C01
open Goflow Goflow.Producer Goflow.Pipe

/-- anything but the two unexported, non-settable members of the generated Go struct, on which
    `MapCustom` panics in reflect -/
def SaneDest (f : MapField) : Prop := f.destination ≠ "sizeCache" ∧ f.destination ≠ "unknownFields"

def Sane (cfg : Config) : Prop :=
  (∀ e ∈ cfg.layers, 0 ≤ e.offset ∧ 0 ≤ e.length ∧ SaneDest e.field) ∧
  (∀ e ∈ cfg.ipfix, SaneDest e.field) ∧ (∀ e ∈ cfg.v9, SaneDest e.field)

theorem NoMappings.sane {cfg : Config} (h : NoMappings cfg) : Sane cfg := by
  simp [Sane, h.1, h.2.1, h.2.2]

theorem decodeUNumberLE_bad {bits : Nat} {b : Bytes} : ErrIn (· = .bad) (decodeUNumberLE bits b) := by
  have raw : ErrIn (· = .bad) (decodeUNumberLERaw b) := by
    unfold decodeUNumberLERaw
    exact .ite (fun _ => .ok) fun _ => .ite (fun _ => .ok) fun _ => .error rfl
  unfold decodeUNumberLE
  split
  · exact .ok
  · exact .error (raw _ ‹_›)

theorem endianDecode_bad {little : Bool} {bits : Nat} {b : Bytes} : ErrIn (· = .bad) (endianDecode little bits b) := by
  unfold endianDecode
  exact .ite (fun _ => decodeUNumberLE_bad) fun _ => decodeUNumber_bad

/-- MapCustom returns an error on a value wider than 8 bytes, an enum-typed column or a custom field
    without wire type, and panics on the two unexported members -/
theorem mapCustom_errIn (m : FlowMsg) (v : Bytes) (f : MapField) :
    ErrIn (fun e => e = .bad ∨ e = .panic ∧ ¬ SaneDest f) (mapCustom m v f) := by
  have dec : ∀ {α} {bits : Nat} (g : Nat → α), ErrIn (fun e => e = .bad ∨ e = .panic ∧ ¬ SaneDest f)
      (match endianDecode f.little bits v with | .error e => .error e | .ok x => .ok (g x)) := by
    intro α bits g
    split
    · exact .error (.inl (endianDecode_bad _ ‹_›))
    · exact .ok
  unfold mapCustom
  simp only
  split
  · exact .ite (fun _ => .ok) fun _ => .ite (fun _ => .ite (fun _ => .error (.inl rfl)) fun _ => dec _) fun _ =>
      .ite (fun _ => .ok) fun _ => .ite (fun _ => .error (.inl rfl)) fun _ => .ite (fun _ => dec _) fun _ => dec _
  · refine .ite (fun hd => .error (.inr ⟨rfl, fun hs => hd.elim hs.1 hs.2⟩)) fun _ => .ite (fun _ => .ok) fun _ =>
      .ite (fun _ => ?_) fun _ => .ok
    split
    · exact dec _
    · exact .ok
    · exact .error (.inl rfl)

theorem mapCustom_sane (m : FlowMsg) (v : Bytes) (f : MapField) (hf : SaneDest f) :
    ∀ e, mapCustom m v f = .error e → e = .bad :=
  fun e h => (mapCustom_errIn m v f e h).elim id fun hp => (hp.2 hf).elim

theorem getBytes_layer_ok (data : Bytes) (offset : Nat) (eo el : Int) (ho : 0 ≤ eo) (hl : 0 ≤ el) (shift : Bool) :
    ∃ b, getBytes data ((offset : Int) * 8 + eo) el shift = .ok b := by
  have h1 : (offset : Int) * 8 + eo = ((offset * 8 + eo.toNat : Nat) : Int) := by
    have := Int.toNat_of_nonneg ho
    omega
  have h2 : el = ((el.toNat : Nat) : Int) := (Int.toNat_of_nonneg hl).symm
  rw [h1, h2]
  obtain ⟨b, hb, _⟩ := C14.getBytes_total data (offset * 8 + eo.toNat) el.toNat shift
  exact ⟨b, hb⟩

theorem Sane.mapsIn {cfg : Config} (h : Sane cfg) : MapsIn (· = .bad) cfg := by
  refine ⟨rfl, fun x hx => ⟨fun data offset e he => ?_, fun m v => mapCustom_sane m v _ (h.1 x hx).2.2⟩,
    fun x hx m v => mapCustom_sane m v _ (h.2.1 x hx), fun x hx m v => mapCustom_sane m v _ (h.2.2 x hx)⟩
  obtain ⟨b, hb⟩ := getBytes_layer_ok data offset x.offset x.length (h.1 x hx).1 (h.1 x hx).2.1 true
  rw [hb] at he
  cases he

/-- the loop of ParsePacket stops within 2·|data| + 3 iterations, by the same measure as without mappings -/
theorem parseLoop_sane (cfg : Config) (hcfg : Sane cfg) (data : Bytes) (fuel : Nat) (next : Next) (offset : Nat)
    (encap : Bool) (encapIndex : Nat) (calls : List (Nat × Nat)) (m : FlowMsg) (hf : mu data.length next offset + 1 ≤ fuel) :
    ∀ e, parseLoop cfg data fuel next offset encap encapIndex calls m = .error e → e = .bad :=
  parseLoop_errIn cfg hcfg.mapsIn.layers data fuel next offset encap encapIndex calls m hf

/-- **the sampled-packet dissector under a sane configuration**: every frame, at every capture length,
    gives a message or an ordinary returned error -/
theorem parsePacket_sane (cfg : Config) (h : Sane cfg) (m : FlowMsg) (data : Bytes) :
    ∀ e, parsePacket cfg m data = .error e → e.R :=
  fun e he => .inr (parsePacket_errIn cfg h.mapsIn.layers m data e he)

/-- **conversion to flow messages under a sane configuration**: custom mappings of v9 / IPFIX elements
    and the frame dissector behind element 315 included, only returned errors -/
theorem produce_sane (cfg : Config) (h : Sane cfg) (p : Netflow.Packet) (rates : Rates) :
    ∀ e, (processNetflow (some cfg) p rates).err = some e → e.R :=
  fun e he => .inr (produce_errIn h.mapsIn p rates e he)

/-- **one datagram through any pipe, sane configuration**, any state: a result, a returned error or
    template-not-found -/
theorem pipe_sane (k : Pipe.Kind) (cfg : Config) (h : Sane cfg) (st : Pipe.State) (src : Pipe.Src) (recv : Nat) (d : Bytes) :
    Safe (Pipe.decodeFlow k cfg st src recv d).err :=
  safe_of_mapsIn h.mapsIn k st src recv d

/-- **any history, sane configuration**: whatever datagrams came before, failing in a mapping step or
    not, every later datagram is again processed to a result or a returned error -/
theorem pipe_history_sane (k : Pipe.Kind) (cfg : Config) (h : Sane cfg) (st : Pipe.State)
    (hist : List (Pipe.Src × Nat × Bytes)) (src : Pipe.Src) (recv : Nat) (d : Bytes) :
    Safe (Pipe.decodeFlow k cfg (hist.foldl (fun s h => (Pipe.decodeFlow k cfg s h.1 h.2.1 h.2.2).state) st) src recv d).err :=
  pipe_sane k cfg h _ src recv d

/-- the theorems of `Proofs/C01.lean` are the instances for configurations without mappings -/
example (k : Pipe.Kind) (cfg : Config) (hcfg : NoMappings cfg) (st : Pipe.State) (src : Pipe.Src) (recv : Nat) (d : Bytes) :
    Safe (Pipe.decodeFlow k cfg st src recv d).err := pipe_sane k cfg hcfg.sane st src recv d

/-- a mapping file in the style of the project's documentation: two layer mappings (a column and a
    declared custom protobuf field) and one IPFIX mapping -/
def exampleConfig : Config := {
  layers := [
    { layer := "ipv4", encap := false, offset := 64, length := 8, field := { destination := "IpTtl" } },
    { layer := "udp", encap := true, offset := 48, length := 16,
      field := { destination := "csum", protoIndex := 999, protoType := .varint } } ],
  ipfix := [
    { penProvided := false, pen := 0, type := 252, field := { destination := "InIf", little := true } } ],
  present := true }

example : Sane exampleConfig := by
  refine ⟨?_, ?_, ?_⟩
  · intro e he
    simp only [exampleConfig, List.mem_cons, List.not_mem_nil, or_false] at he
    rcases he with rfl | rfl <;> simp [SaneDest]
  · intro e he
    simp only [exampleConfig, List.mem_cons, List.not_mem_nil, or_false] at he
    subst he
    simp [SaneDest]
  · intro e he
    simp [exampleConfig] at he

/-- the hypothesis is needed: one negative bit offset, or one mapping onto an unexported member, and a
    plain Ethernet header is enough for the run-time panic -/
example : parsePacket { layers := [⟨"ethernet", false, -1, 8, { destination := "IpTtl" }⟩] } {} (List.replicate 14 0)
    = .error .panic := by decide +kernel
example : parsePacket { layers := [⟨"ethernet", false, 0, 8, { destination := "sizeCache" }⟩] } {} (List.replicate 14 0)
    = .error .panic := by decide +kernel

end Goflow.C01
