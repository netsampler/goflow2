import Goflow.Producer.Custom
import Goflow.Spec.Bits
/-!
  C14 — bit-range extraction (reflect.go GetBytes) for every buffer, offset and length.

  For non-negative offset and length GetBytes never panics and returns nothing or ⌈length / 8⌉ bytes. On byte-aligned
  ranges it is the plain sub-slice, zero-padded at the end; so is the bit-list reference `Spec.Bits.extract`, hence
  the two agree there (every range is in Proofs/C14BitsFull.lean).
-/
namespace Goflow.C14
open Goflow Goflow.Producer

theorem shiftPass_length (s n : Nat) (d : Bytes) : (shiftPass s n d).length = n := by
  induction n generalizing d with
  | zero => simp [shiftPass]
  | succ k ih =>
    match d with
    | [] => simp [shiftPass]
    | [x] => simp [shiftPass]
    | x :: y :: rest => simp [shiftPass, ih]

theorem setLast_length (bs : Bytes) (f : UInt8 → UInt8) : (setLast bs f).length = bs.length := by
  rcases List.eq_nil_or_concat bs with rfl | ⟨init, x, rfl⟩ <;> simp [setLast]

def ceil8 (n : Nat) : Nat := n / 8 + (if n % 8 > 0 then 1 else 0)

/-- GetBytes never panics on a non-negative bit range, whatever the buffer, and returns either nothing (range starts past
    the end, or zero length) or exactly ⌈length/8⌉ bytes -/
theorem getBytes_total (d : Bytes) (off len : Nat) (shift : Bool) :
    ∃ b, getBytes d (off : Int) (len : Int) shift = .ok b ∧ (b = [] ∨ b.length = ceil8 len) := by
  unfold getBytes
  by_cases h1 : (d.length : Int) * 8 < (off : Int)
  · exact ⟨[], by simp [h1], Or.inl rfl⟩
  simp only [h1, if_false]
  by_cases h2 : (len : Int) = 0
  · exact ⟨[], by simp [h2], Or.inl rfl⟩
  simp only [h2, if_false]
  have h3 : ¬ ((len : Int) < 0 ∨ (off : Int) ≤ -8) := by omega
  have h4 : ¬ ((off : Int) < 0) := by omega
  simp only [h3, h4, if_false, Int.toNat_natCast]
  by_cases ha : off % 8 = 0 ∧ len % 8 = 0
  · simp only [ha, and_self, if_true]
    have e1 : (off + len) % 8 = 0 := by omega
    have e2 : (off + len) / 8 = off / 8 + len / 8 := by omega
    simp only [e1, e2, Nat.lt_irrefl, if_false, Nat.add_zero, gt_iff_lt]
    by_cases hm : d.length < off / 8 + len / 8
    · simp only [hm, if_true]
      refine ⟨_, rfl, Or.inr ?_⟩
      simp only [List.length_append, List.length_drop, List.length_take, List.length_replicate, ceil8, ha.2, Nat.lt_irrefl, if_false]
      omega
    · simp only [hm, if_false]
      refine ⟨_, rfl, Or.inr ?_⟩
      simp only [List.length_drop, List.length_take, ceil8, ha.2, Nat.lt_irrefl, if_false]
      omega
  · simp only [ha, if_false]
    cases shift
    · simp only [Bool.false_eq_true, if_false]
      exact ⟨_, rfl, Or.inr (by simp [setLast_length, shiftPass_length, ceil8])⟩
    · simp only [if_true]
      exact ⟨_, rfl, Or.inr (by simp [setLast_length, shiftPass_length, ceil8])⟩

open Goflow.Spec.Bits

theorem byteBits_length (b : UInt8) : (byteBits b).length = 8 := by simp [byteBits]

theorem toBits_cons (b : UInt8) (d : Bytes) : toBits (b :: d) = byteBits b ++ toBits d := by simp [toBits]

theorem toBits_length (d : Bytes) : (toBits d).length = 8 * d.length := by
  induction d with
  | nil => rfl
  | cons b d ih => rw [toBits_cons, List.length_append, byteBits_length, ih]; simp; omega

theorem toBits_append (a b : Bytes) : toBits (a ++ b) = toBits a ++ toBits b := by simp [toBits]

theorem toBits_drop (d : Bytes) (o : Nat) : (toBits d).drop (8 * o) = toBits (d.drop o) := by
  induction o generalizing d with
  | zero => simp
  | succ k ih =>
    cases d with
    | nil => simp [toBits]
    | cons b d =>
      rw [toBits_cons, List.drop_succ_cons, ← ih d]
      have : 8 * (k + 1) = (byteBits b).length + 8 * k := by rw [byteBits_length]; omega
      rw [this, List.drop_append]
      simp

theorem toBits_take (d : Bytes) (l : Nat) : (toBits d).take (8 * l) = toBits (d.take l) := by
  induction l generalizing d with
  | zero => simp [toBits]
  | succ k ih =>
    cases d with
    | nil => simp [toBits]
    | cons b d =>
      rw [toBits_cons, List.take_succ_cons, toBits_cons, ← ih d]
      have : 8 * (k + 1) = (byteBits b).length + 8 * k := by rw [byteBits_length]; omega
      rw [this, List.take_append]
      simp [List.take_of_length_le]

theorem toBits_zeros (n : Nat) : toBits (List.replicate n 0) = List.replicate (8 * n) false := by
  induction n with
  | zero => rfl
  | succ k ih =>
    rw [List.replicate_succ, toBits_cons, ih]
    have : byteBits 0 = List.replicate 8 false := by decide
    rw [this, List.replicate_append_replicate]; congr 1; omega

theorem byteBits_getElem? (b : UInt8) (i : Nat) :
    (byteBits b)[i]? = if i < 8 then some (b.toNat.testBit (7 - i)) else none := by
  unfold byteBits
  simp only [List.getElem?_map, Nat.testBit_eq_decide_div_mod_eq]
  split <;> simp [*]

theorem bitsVal_concat (l : List Bool) (b : Bool) : bitsVal (l ++ [b]) = 2 * bitsVal l + (if b then 1 else 0) := by
  simp [bitsVal, List.foldl_append]

theorem bitsVal_take (x : UInt8) (n : Nat) (hn : n ≤ 8) : bitsVal ((byteBits x).take n) = x.toNat / 2 ^ (8 - n) := by
  induction n with
  | zero => exact (Nat.div_eq_of_lt x.toNat_lt).symm
  | succ n ih =>
    rw [List.take_add_one, byteBits_getElem?, if_pos (by omega), Option.toList_some, bitsVal_concat, ih (by omega),
      show 8 - n = (7 - n) + 1 by omega, Nat.pow_succ, ← Nat.div_div_eq_div_mul, Nat.testBit_eq_decide_div_mod_eq,
      show 8 - (n + 1) = 7 - n by omega]
    split <;> simp_all <;> omega

theorem bitsVal_byteBits (b : UInt8) : UInt8.ofNat (bitsVal (byteBits b)) = b := by
  have := bitsVal_take b 8 (Nat.le_refl 8)
  rw [List.take_of_length_le (by rw [byteBits_length]; exact Nat.le_refl 8)] at this
  simp [this]

theorem groups_toBits (b : Bytes) (fuel : Nat) (h : b.length < fuel) : groups fuel (toBits b) = b.map byteBits := by
  induction b generalizing fuel with
  | nil => cases fuel <;> simp [groups, toBits]
  | cons x xs ih =>
    cases fuel with
    | zero => simp at h
    | succ n =>
      rw [toBits_cons]
      have hne : byteBits x ++ toBits xs ≠ [] := by
        intro e; have := congrArg List.length e; simp [byteBits_length] at this
      have e : groups (n + 1) (byteBits x ++ toBits xs) = (byteBits x ++ toBits xs).take 8 :: groups n ((byteBits x ++ toBits xs).drop 8) := by
        cases hb : byteBits x ++ toBits xs with
        | nil => exact absurd hb hne
        | cons _ _ => rfl
      rw [e]
      have l8 : (byteBits x).length = 8 := byteBits_length x
      rw [show (8 : Nat) = (byteBits x).length from l8.symm, List.take_left, List.drop_left]
      rw [ih n (by simp at h; omega)]
      simp

/-- the reference on a byte-aligned range: the sub-slice, zero-padded to the requested length -/
theorem extract_aligned (d : Bytes) (o l : Nat) (shift : Bool) (hl : 0 < l) (ho : o ≤ d.length) :
    extract d (8 * o) (8 * l) shift =
      some (((d.drop o).take l) ++ List.replicate (l - ((d.drop o).take l).length) 0) := by
  unfold extract
  have c1 : ¬ (d.length * 8 < 8 * o ∨ 8 * l = 0) := by omega
  simp only [c1, if_false]
  rw [toBits_drop, toBits_take]
  generalize hc : (d.drop o).take l = c
  have hcl : c.length ≤ l := by rw [← hc]; simp [List.length_take]; omega
  have e1 : 8 * l - (toBits c).length = 8 * (l - c.length) := by rw [toBits_length]; omega
  rw [e1, ← toBits_zeros, ← toBits_append]
  rw [groups_toBits _ _ (by simp; omega)]
  congr 1
  rw [List.map_map]
  conv => rhs; rw [← List.map_id (c ++ List.replicate (l - c.length) 0)]
  apply List.map_congr_left
  intro x _
  simp [byteBits_length, bitsVal_byteBits]

/-- GetBytes on a byte-aligned range (the documented mappings, ports, addresses, TTL, are all of this kind): the
    sub-slice, zero-padded -/
theorem getBytes_aligned (d : Bytes) (o l : Nat) (shift : Bool) (hl : 0 < l) (ho : o ≤ d.length) :
    getBytes d ((8 * o : Nat) : Int) ((8 * l : Nat) : Int) shift =
      .ok (((d.drop o).take l) ++ List.replicate (l - ((d.drop o).take l).length) 0) := by
  unfold getBytes
  have h1 : ¬ ((d.length : Int) * 8 < ((8 * o : Nat) : Int)) := by omega
  have h2 : ¬ (((8 * l : Nat) : Int) = 0) := by omega
  have h3 : ¬ ((((8 * l : Nat) : Int)) < 0 ∨ ((8 * o : Nat) : Int) ≤ -8) := by omega
  have h4 : ¬ (((8 * o : Nat) : Int) < 0) := by omega
  simp only [h1, h2, h3, h4, if_false, Int.toNat_natCast]
  have a1 : 8 * o % 8 = 0 := by omega
  have a2 : 8 * l % 8 = 0 := by omega
  have a3 : (8 * o + 8 * l) % 8 = 0 := by omega
  have a4 : (8 * o + 8 * l) / 8 = o + l := by omega
  have a5 : 8 * o / 8 = o := by omega
  have a6 : 8 * l / 8 = l := by omega
  simp only [a1, a2, a3, a4, a5, a6, and_self, if_true, Nat.lt_irrefl, if_false, Nat.add_zero, gt_iff_lt]
  have key : ∀ n, (d.take n).drop o = (d.drop o).take (n - o) := by
    intro n; rw [List.drop_take]
  by_cases hm : d.length < o + l
  · simp only [hm, if_true]
    rw [key d.length]
    have : (d.drop o).take (d.length - o) = (d.drop o).take l := by
      rw [List.take_of_length_le (by simp), List.take_of_length_le (by simp; omega)]
    rw [this]
  · simp only [hm, if_false]
    rw [key (o + l)]
    have : o + l - o = l := by omega
    rw [this]
    have hfull : ((d.drop o).take l).length = l := by simp [List.length_take]; omega
    simp [hfull]

/-- C14, byte-aligned ranges: the implementation's extraction equals the bit-list reference, for every buffer, every
    byte offset inside it and every positive byte length -/
theorem getBytes_eq_extract_aligned (d : Bytes) (o l : Nat) (shift : Bool) (hl : 0 < l) (ho : o ≤ d.length) :
    getBytes d ((8 * o : Nat) : Int) ((8 * l : Nat) : Int) shift = .ok ((extract d (8 * o) (8 * l) shift).getD []) := by
  rw [getBytes_aligned d o l shift hl ho, extract_aligned d o l shift hl ho]; rfl

example : getBytes [0xAA, 0x55, 0x01] 8 16 true = .ok [0x55, 0x01] ∧ extract [0xAA, 0x55, 0x01] 8 16 true = some [0x55, 0x01] := by decide

end Goflow.C14
