import Proofs.C10Loop
/-!
  C10 — the dissector on a well-formed frame of the grammar of `Goflow.Spec.Frame`, at every capture length:
  on every prefix it reports `expectedAt f n` (`trunc_capture_cfg`), and a capture that holds the whole frame is
  expected to report `expectedMsg f`, FlowMsg.empty with every fact of the specification written to its column
  (`expectedAt_full`, one lemma per level of the grammar). `full_capture_plain`, `_v6ext`, `_mpls`, `_tunnel`
  say the same of the sub-grammars `PlainWF`, `V6ExtWF`, `MplsWF`, `TunnelWF`.
-/
set_option linter.unusedSimpArgs false

namespace Goflow.C10
open Goflow Goflow.Producer Goflow.Spec.Frame

def applyFact (m : FlowMsg) (f : Fact) : FlowMsg :=
  match f.val with
  | .n v => m.setNum f.col v
  | .b v => m.setBytes f.col v
  | .ns v => m.setNums f.col v
  | .bs v => m.setBytess f.col v

/-- what the specification expects of a fully captured frame: FlowMsg.empty with every fact written to
    its column, LayerStack := the layers' stack values, LayerSize := their sizes -/
def expectedMsg (f : Frame) : FlowMsg :=
  (((facts f).1.foldl applyFact FlowMsg.empty).setNums "LayerStack" ((facts f).2.map (·.1))).setNums
    "LayerSize" ((facts f).2.map (·.2.1))

theorem setNum_SrcMac (m : FlowMsg) (v : Nat) : m.setNum "SrcMac" v = { m with srcMac := v } := rfl
theorem setNum_DstMac (m : FlowMsg) (v : Nat) : m.setNum "DstMac" v = { m with dstMac := v } := rfl
theorem setNum_VlanId (m : FlowMsg) (v : Nat) : m.setNum "VlanId" v = { m with vlanId := v } := rfl
theorem setNum_Etype (m : FlowMsg) (v : Nat) : m.setNum "Etype" v = { m with etype := v } := rfl
theorem setNum_IpTos (m : FlowMsg) (v : Nat) : m.setNum "IpTos" v = { m with ipTos := v } := rfl
theorem setNum_IpTtl (m : FlowMsg) (v : Nat) : m.setNum "IpTtl" v = { m with ipTtl := v } := rfl
theorem setNum_FragmentId (m : FlowMsg) (v : Nat) : m.setNum "FragmentId" v = { m with fragmentId := v } := by rw [FlowMsg.setNum]
theorem setNum_FragmentOffset (m : FlowMsg) (v : Nat) : m.setNum "FragmentOffset" v = { m with fragmentOffset := v } := by rw [FlowMsg.setNum]
theorem setNum_IpFlags (m : FlowMsg) (v : Nat) : m.setNum "IpFlags" v = { m with ipFlags := v } := rfl
theorem setNum_Proto (m : FlowMsg) (v : Nat) : m.setNum "Proto" v = { m with proto := v } := rfl
theorem setNum_Ipv6FlowLabel (m : FlowMsg) (v : Nat) : m.setNum "Ipv6FlowLabel" v = { m with ipv6FlowLabel := v } := by rw [FlowMsg.setNum]
theorem setNum_SrcPort (m : FlowMsg) (v : Nat) : m.setNum "SrcPort" v = { m with srcPort := v } := rfl
theorem setNum_DstPort (m : FlowMsg) (v : Nat) : m.setNum "DstPort" v = { m with dstPort := v } := rfl
theorem setNum_TcpFlags (m : FlowMsg) (v : Nat) : m.setNum "TcpFlags" v = { m with tcpFlags := v } := rfl
theorem setNum_IcmpType (m : FlowMsg) (v : Nat) : m.setNum "IcmpType" v = { m with icmpType := v } := rfl
theorem setNum_IcmpCode (m : FlowMsg) (v : Nat) : m.setNum "IcmpCode" v = { m with icmpCode := v } := rfl
theorem setNum_Ipv6RoutingHeaderSegLeft (m : FlowMsg) (v : Nat) : m.setNum "Ipv6RoutingHeaderSegLeft" v = { m with ipv6RoutingHeaderSegLeft := v } := by rw [FlowMsg.setNum]
theorem setBytes_SrcAddr (m : FlowMsg) (v : Bytes) : m.setBytes "SrcAddr" v = { m with srcAddr := v } := by rw [FlowMsg.setBytes]
theorem setBytes_DstAddr (m : FlowMsg) (v : Bytes) : m.setBytes "DstAddr" v = { m with dstAddr := v } := by rw [FlowMsg.setBytes]
theorem setNums_LayerStack (m : FlowMsg) (v : List Nat) : m.setNums "LayerStack" v = { m with layerStack := v } := by rw [FlowMsg.setNums]
theorem setNums_LayerSize (m : FlowMsg) (v : List Nat) : m.setNums "LayerSize" v = { m with layerSize := v } := by rw [FlowMsg.setNums]
theorem setNums_MplsLabel (m : FlowMsg) (v : List Nat) : m.setNums "MplsLabel" v = { m with mplsLabel := v } := by rw [FlowMsg.setNums]
theorem setNums_MplsTtl (m : FlowMsg) (v : List Nat) : m.setNums "MplsTtl" v = { m with mplsTtl := v } := by rw [FlowMsg.setNums]
theorem setBytess_Ipv6RoutingHeaderAddresses (m : FlowMsg) (v : List Bytes) : m.setBytess "Ipv6RoutingHeaderAddresses" v = { m with ipv6RoutingHeaderAddresses := v } := by rw [FlowMsg.setBytess]

/-- relative to the registered `ports`: MAC addresses and VLAN ids within their wire widths, then IP (extension
    headers, L4 or tunnels inside), an MPLS label stack before IP, or an ethertype without parser -/
def FrameWFIn (ports : List PortEntry) (f : Frame) : Prop :=
  f.dstMac < 2 ^ 48 ∧ f.srcMac < 2 ^ 48 ∧ (∀ v ∈ f.vlans, v < 2 ^ 12) ∧ EpWF ports f.payload

theorem parseLoop_mono {cfg : Config} (hcfg : cfg.layers = []) (data : Bytes) (fuel : Nat) :
    ∀ (next : Next) (off : Nat) (encap : Bool) (idx : Nat) (calls : List (Nat × Nat)) (m a : FlowMsg),
    parseLoop cfg data fuel next off encap idx calls m = .ok a →
    ∀ k, parseLoop cfg data (fuel + k) next off encap idx calls m = .ok a := by
  induction fuel with
  | zero => intro next off encap idx calls m a h; simp [parseLoop] at h
  | succ fuel ih =>
    intro next off encap idx calls m a h k
    rw [show fuel + 1 + k = (fuel + k) + 1 by omega]
    rw [parseLoop] at h ⊢
    by_cases hc : next.callable = true ∧ off ≤ data.length
    · simp only [hc, and_self, if_true, mapLayerKeys_nil hcfg, ite_self] at h ⊢
      exact ih _ _ _ _ _ _ _ h k
    · simp only [hc, if_false] at h ⊢
      exact h

/-- **C10, truncated capture (the message).** Whatever prefix of a well-formed frame is captured, the dissector
    reports exactly `expectedAt f n` — for every configuration without layer mappings whose registered ports the
    frame's L4 ports do not hit. -/
theorem trunc_capture_cfg (cfg : Config) (hcfg : cfg.layers = []) (f : Frame) (h : FrameWFIn cfg.ports f) (n : Nat)
    (hn : n ≤ (bytes f).length) :
    parsePacket cfg FlowMsg.empty ((bytes f).take n) = .ok (expectedAt f n) := by
  obtain ⟨m', hm'⟩ := parsePacket_safe cfg hcfg FlowMsg.empty ((bytes f).take n)
  rw [hm']
  obtain ⟨d, s, vs, ep⟩ := f
  obtain ⟨hd, hs, hvs, hep⟩ := h
  simp only at hd hs hvs hep
  unfold parsePacket at hm'
  generalize 2 * ((bytes ⟨d, s, vs, ep⟩).take n).length + 4 = F at hm'
  have h1 := parseLoop_mono hcfg _ _ _ _ _ _ _ _ _ hm' (vs.length + (stackEther ep).length + 5)
  unfold bytes at h1 hn
  simp only [List.append_assoc] at h1 hn
  have h2 := loop_eth_cut hcfg ep hep vs (fun x hx => Nat.lt_trans (hvs x hx) (by decide)) d s hd hs hn
    (fuel := F + (vs.length + (stackEther ep).length + 5)) (by omega)
    Parser.ethernet.keys
  rw [show Parser.ethernet.layerIndex = 20 from rfl, h2] at h1
  exact h1.symm

def withLayers (m : FlowMsg) (st sz : List Nat) : FlowMsg := { m with layerStack := st, layerSize := sz }

theorem innerRes_push (a s : Nat) (ls : List (Nat × Nat)) (m : FlowMsg) (st sz : List Nat) :
    innerRes ((a, s) :: ls) none (withLayers m st sz) = innerRes ls none (withLayers m (st ++ [a]) (sz ++ [s])) :=
  innerRes_cons a s ls none _

theorem applyFact_n (m : FlowMsg) (c : String) (v e : Nat) : applyFact m ⟨c, .n v, e⟩ = m.setNum c v := rfl
theorem applyFact_b (m : FlowMsg) (c : String) (v : Bytes) (e : Nat) : applyFact m ⟨c, .b v, e⟩ = m.setBytes c v := rfl
theorem applyFact_ns (m : FlowMsg) (c : String) (v : List Nat) (e : Nat) : applyFact m ⟨c, .ns v, e⟩ = m.setNums c v := rfl
theorem applyFact_bs (m : FlowMsg) (c : String) (v : List Bytes) (e : Nat) :
    applyFact m ⟨c, .bs v, e⟩ = m.setBytess c v := rfl

theorem l4MsgAt_whole (l : L4) {n off : Nat} (h : off + (l4Bytes l).length ≤ n) (o : Nat) (m : FlowMsg)
    (st sz : List Nat) :
    l4MsgAt n off l (withLayers m st sz) =
      innerRes (stackL4 l) none (withLayers ((l4Facts o l).1.foldl applyFact m) st sz) := by
  have hg := l4Guard_le l
  rw [l4MsgAt, if_pos (by omega)]
  cases l with
  | tcp sp dp seq ack doff flags win opts =>
    simp only [l4Facts, List.foldl_cons, List.foldl_nil, applyFact_n]
    rw [setNum_SrcPort, setNum_DstPort, setNum_TcpFlags]; rfl
  | udp sp dp =>
    simp only [l4Facts, List.foldl_cons, List.foldl_nil, applyFact_n]
    rw [setNum_SrcPort, setNum_DstPort]; rfl
  | icmp t c =>
    simp only [l4Facts, List.foldl_cons, List.foldl_nil, applyFact_n]
    rw [setNum_IcmpType, setNum_IcmpCode]; rfl
  | icmpv6 t c =>
    simp only [l4Facts, List.foldl_cons, List.foldl_nil, applyFact_n]
    rw [setNum_IcmpType, setNum_IcmpCode]; rfl
  | other p b => exact (innerRes_nil _).symm

/-- the length of the IP header with its extension header -/
def ipHeader : IP → Nat
  | .v4 .. => 20
  | .v6 _ _ _ _ _ .none _ => 40
  | .v6 _ _ _ _ _ (.fragment ..) _ => 48
  | .v6 _ _ _ _ _ (.srh _ _ segs) _ => 48 + 16 * segs.length

theorem ipHeader_pos : ∀ p : IP, 20 ≤ ipHeader p
  | .v4 .. => Nat.le_refl _
  | .v6 _ _ _ _ _ .none _ => show 20 ≤ 40 by decide
  | .v6 _ _ _ _ _ (.fragment ..) _ => show 20 ≤ 48 by decide
  | .v6 _ _ _ _ _ (.srh _ _ segs) _ => by simp only [ipHeader]; omega

theorem ipBytes_length {ports : List PortEntry} {p : IP} (hp : IPWF ports p) :
    (ipBytes p).length = ipHeader p + (payloadBytes (ipPayload p)).length := by
  match p, hp with
  | .v4 .., ⟨_, _, _, _, _, hsrc, hdst, _⟩ =>
    simp only [ipBytes, Spec.Frame.u8, Spec.Frame.u16, List.length_append, encBE_length, hsrc, hdst, ipHeader, ipPayload]
  | .v6 _ _ _ _ _ ext _, ⟨_, _, _, hsrc, hdst, hext, _⟩ =>
    cases ext with
    | srh _ _ segs =>
      simp only [ipBytes, Spec.Frame.u8, Spec.Frame.u16, Spec.Frame.u32, List.length_append, encBE_length, hsrc, hdst,
        ipHeader, ipPayload, flat_length segs hext.2.2.2.1]
      omega
    | _ =>
      simp only [ipBytes, Spec.Frame.u8, Spec.Frame.u16, Spec.Frame.u32, List.length_append, encBE_length, hsrc, hdst,
        ipHeader, ipPayload, List.length_nil]

/-- a capture of `n` bytes that holds the whole tunnelled packet reports all its layers -/
def WholeIP (ports : List PortEntry) (n : Nat) (p : IP) : Prop :=
  ∀ off, IPWF ports p → off + (ipBytes p).length ≤ n → innerIPAt n off p = (stackIP p, innerIcmpIP p)
def WholePayload (ports : List PortEntry) (n : Nat) (pl : Payload) : Prop :=
  ∀ off, PayloadWF ports pl → off + (payloadBytes pl).length ≤ n →
    innerPayloadAt n off pl = (stackPayload pl, innerIcmpPayload pl)
def WholeEther (ports : List PortEntry) (n : Nat) (ep : EtherPayload) : Prop :=
  ∀ off, EpWF ports ep → off + (etherPayloadBytes ep).length ≤ n →
    innerEtherAt n off ep = (stackEther ep, innerIcmpEther ep)

section
variable {ports : List PortEntry} {n : Nat}

theorem WholeIP.v4 {tos ident fl fo ttl : Nat} {src dst : Bytes} {pl : Payload} (ih : WholePayload ports n pl) :
    WholeIP ports n (.v4 tos ident fl fo ttl src dst pl) := by
  intro off hp h
  have hl := ipBytes_length hp
  simp only [ipHeader, ipPayload] at hl
  rw [innerIPAt, if_pos (by omega), ih _ hp.2.2.2.2.2.2.2 (by omega)]; rfl

theorem WholeIP.v6 {tc fl hlim : Nat} {src dst : Bytes} {ext : V6Ext} {pl : Payload} (ih : WholePayload ports n pl) :
    WholeIP ports n (.v6 tc fl hlim src dst ext pl) := by
  intro off hp h
  have hl := ipBytes_length hp
  have hpl := hp.2.2.2.2.2.2
  cases ext with
  | none =>
    simp only [ipHeader, ipPayload] at hl
    rw [innerIPAt, if_pos (by omega), ih _ hpl (by omega)]; rfl
  | fragment =>
    simp only [ipHeader, ipPayload] at hl
    rw [innerIPAt, if_pos (by omega), if_pos (by omega), ih _ hpl (by omega)]; rfl
  | srh sleft le segs =>
    simp only [ipHeader, ipPayload] at hl
    rw [innerIPAt, if_pos (by omega), if_pos (by omega), ih _ hpl (by omega)]; rfl

theorem WholePayload.l4 (l : L4) : WholePayload ports n (.l4 l) := by
  intro off _ h
  have hg := l4Guard_le l
  rw [payloadBytes] at h
  rw [innerPayloadAt, innerL4At, if_pos (by omega)]; rfl

theorem WholePayload.gre {inner : EtherPayload} (ih : WholeEther ports n inner) : WholePayload ports n (.gre inner) := by
  intro off hp h
  simp only [payloadBytes, Spec.Frame.u16, List.length_append, encBE_length] at h
  rw [innerPayloadAt, if_pos (by omega), ih _ hp (by omega)]; rfl

theorem WholePayload.ipip {p : IP} (ih : WholeIP ports n p) : WholePayload ports n (.ipip p) := by
  intro off hp h
  rw [innerPayloadAt]
  exact ih off hp h

theorem WholeEther.ip {p : IP} (ih : WholeIP ports n p) : WholeEther ports n (.ip p) := by
  intro off hp h
  rw [innerEtherAt]
  exact ih off hp h

theorem WholeEther.mpls {labels : List (Nat × Nat)} {p : IP} (ih : WholeIP ports n p) :
    WholeEther ports n (.mpls labels p) := by
  intro off hp h
  have hl := ipBytes_length hp.2.2.2
  have hpos := ipHeader_pos p
  have hne := List.length_pos_iff.mpr hp.1
  simp only [etherPayloadBytes, List.length_append, mplsBytes_length] at h
  rw [innerEtherAt, if_pos (by omega), if_pos (by omega), ih _ hp.2.2.2 (by omega)]; rfl

theorem WholeEther.raw (t : Nat) (b : Bytes) : WholeEther ports n (.raw t b) := fun _ _ _ => rfl

/-- Induction over the frame grammar, spelled out with its recursors: with the byte functions of the specification
    in the statement the translation of a `mutual` block of theorems is slow to check. -/
theorem innerIPAt_whole (p : IP) : WholeIP ports n p :=
  IP.rec (motive_1 := WholeIP ports n) (motive_2 := WholePayload ports n) (motive_3 := WholeEther ports n)
    (fun _ _ _ _ _ _ _ _ => .v4) (fun _ _ _ _ _ _ _ => .v6) .l4 (fun _ => .gre) (fun _ => .ipip) (fun _ => .ip)
    (fun _ _ => .mpls) .raw p

theorem innerEtherAt_whole (ep : EtherPayload) : WholeEther ports n ep :=
  EtherPayload.rec (motive_1 := WholeIP ports n) (motive_2 := WholePayload ports n) (motive_3 := WholeEther ports n)
    (fun _ _ _ _ _ _ _ _ => .v4) (fun _ _ _ _ _ _ _ => .v6) .l4 (fun _ => .gre) (fun _ => .ipip) (fun _ => .ip)
    (fun _ _ => .mpls) .raw ep

theorem innerRes_icmp (ls : List (Nat × Nat)) (icmp : Option (Nat × Nat)) (m : FlowMsg) (st sz : List Nat) :
    innerRes ls icmp (withLayers m st sz) = innerRes ls none (withLayers ((mayIcmp icmp).foldl applyFact m) st sz) := by
  rcases icmp with _ | ⟨t, c⟩
  · rfl
  · simp only [mayIcmp, List.foldl_cons, List.foldl_nil, applyFact_n]
    rw [setNum_IcmpType, setNum_IcmpCode]; rfl

theorem payloadResAt_whole {pl : Payload} (hpl : PayloadWF ports pl) {n off : Nat}
    (h : off + (payloadBytes pl).length ≤ n) (o : Nat) (m : FlowMsg) (st sz : List Nat) :
    payloadResAt n off pl (withLayers m st sz) =
      innerRes (stackPayload pl) none (withLayers ((payloadFacts o pl).1.foldl applyFact m) st sz) := by
  match pl, hpl with
  | .l4 l, _ => exact l4MsgAt_whole l h o m st sz
  | .gre inner, hin =>
    simp only [payloadBytes, Spec.Frame.u16, List.length_append, encBE_length] at h
    rw [payloadResAt, if_pos (by omega), innerEtherAt_whole inner _ hin (by omega), payloadFacts, stackPayload,
      innerRes_push, ← innerRes_icmp]; rfl
  | .ipip p, hp =>
    rw [payloadResAt, innerIPAt_whole p _ hp h, payloadFacts, stackPayload, ← innerRes_icmp]

theorem srhMsgAt_whole {k : Nat} {segs : List Bytes} (hk : 8 + 16 * segs.length ≤ k) (sleft : Nat) {m : FlowMsg}
    (hm : m.ipv6RoutingHeaderAddresses = []) :
    srhMsgAt k sleft segs m =
      { m with layerStack := m.layerStack ++ [10], layerSize := m.layerSize ++ [8 + 16 * segs.length],
               ipv6RoutingHeaderSegLeft := sleft, ipv6RoutingHeaderAddresses := segs } := by
  rw [srhMsgAt, hm, List.nil_append, List.take_of_length_le (by omega)]

theorem ipResAt_whole_v4 {tos ident fl fo ttl : Nat} {src dst : Bytes} {pl : Payload}
    (hp : IPWF ports (.v4 tos ident fl fo ttl src dst pl)) {off : Nat}
    (h : off + (ipBytes (.v4 tos ident fl fo ttl src dst pl)).length ≤ n) (o : Nat) (m : FlowMsg) (st sz : List Nat) :
    ipResAt n off (.v4 tos ident fl fo ttl src dst pl) (withLayers m st sz) =
      innerRes (stackIP (.v4 tos ident fl fo ttl src dst pl)) none
        (withLayers ((ipFacts o (.v4 tos ident fl fo ttl src dst pl)).1.foldl applyFact m) st sz) := by
  have hl := ipBytes_length hp
  simp only [ipHeader, ipPayload] at hl
  simp only [ipFacts, List.foldl_append, List.foldl_cons, List.foldl_nil, applyFact_n, applyFact_b]
  rw [stackIP, innerRes_push, ← payloadResAt_whole hp.2.2.2.2.2.2.2 (n := n) (off := off + 20) (by omega), ipResAt,
    if_pos (by omega)]
  rw [setBytes_SrcAddr, setBytes_DstAddr, setNum_IpTos, setNum_IpTtl, setNum_FragmentId, setNum_FragmentOffset,
    setNum_IpFlags, setNum_Proto]
  rfl

theorem ipResAt_whole_v6 {tc fl hlim : Nat} {src dst : Bytes} {ext : V6Ext} {pl : Payload}
    (hp : IPWF ports (.v6 tc fl hlim src dst ext pl)) {off : Nat}
    (h : off + (ipBytes (.v6 tc fl hlim src dst ext pl)).length ≤ n) (o : Nat) (m : FlowMsg)
    (hm : m.ipv6RoutingHeaderAddresses = []) (st sz : List Nat) :
    ipResAt n off (.v6 tc fl hlim src dst ext pl) (withLayers m st sz) =
      innerRes (stackIP (.v6 tc fl hlim src dst ext pl)) none
        (withLayers ((ipFacts o (.v6 tc fl hlim src dst ext pl)).1.foldl applyFact m) st sz) := by
  have hl := ipBytes_length hp
  have hpl := hp.2.2.2.2.2.2
  cases ext with
  | none =>
    simp only [ipHeader, ipPayload] at hl
    simp only [ipFacts]
    -- by hand: `simp only` with the same lemmas is slow to check on this list
    rw [List.foldl_append, List.foldl_append, List.foldl_cons, List.foldl_cons, List.foldl_cons, List.foldl_cons,
      List.foldl_cons, List.foldl_nil, List.foldl_cons, List.foldl_nil, applyFact_b, applyFact_b, applyFact_n,
      applyFact_n, applyFact_n, applyFact_n]
    rw [stackIP, stackExt, List.nil_append (stackPayload pl), innerRes_push,
      ← payloadResAt_whole hpl (n := n) (off := off + 40) (by omega), ipResAt, if_pos (by omega)]
    rw [setBytes_SrcAddr, setBytes_DstAddr, setNum_IpTos, setNum_IpTtl, setNum_Ipv6FlowLabel, setNum_Proto]
    rfl
  | fragment fo fl3 ident =>
    simp only [ipHeader, ipPayload] at hl
    simp only [ipFacts, List.foldl_append, List.foldl_cons, List.foldl_nil, applyFact_n, applyFact_b]
    rw [stackIP, stackExt, List.cons_append, List.nil_append, innerRes_push, innerRes_push,
      ← payloadResAt_whole hpl (n := n) (off := off + 48) (by omega), ipResAt, if_pos (by omega), if_pos (by omega)]
    rw [setBytes_SrcAddr, setBytes_DstAddr, setNum_IpTos, setNum_IpTtl, setNum_Ipv6FlowLabel, setNum_Proto,
      setNum_FragmentId, setNum_FragmentOffset, setNum_IpFlags]
    rfl
  | srh sleft le segs =>
    simp only [ipHeader, ipPayload] at hl
    simp only [ipFacts, List.foldl_append, List.foldl_cons, List.foldl_nil, applyFact_n, applyFact_b, applyFact_bs]
    rw [stackIP, stackExt, List.cons_append, List.nil_append, innerRes_push, innerRes_push,
      ← payloadResAt_whole hpl (n := n) (off := off + 48 + 16 * segs.length) (by omega), ipResAt, if_pos (by omega),
      if_pos (by omega),
      srhMsgAt_whole (k := n - (off + 40)) (segs := segs) (by omega) sleft
        (m := ipMsg (.v6 tc fl hlim src dst (.srh sleft le segs) pl) (withLayers m st sz)) hm]
    rw [setBytes_SrcAddr, setBytes_DstAddr, setNum_IpTos, setNum_IpTtl, setNum_Ipv6FlowLabel, setNum_Proto,
      setNum_Ipv6RoutingHeaderSegLeft, setBytess_Ipv6RoutingHeaderAddresses]
    rfl

theorem ipResAt_whole {p : IP} (hp : IPWF ports p) {off : Nat} (h : off + (ipBytes p).length ≤ n) (o : Nat)
    (m : FlowMsg) (hm : m.ipv6RoutingHeaderAddresses = []) (st sz : List Nat) :
    ipResAt n off p (withLayers m st sz) =
      innerRes (stackIP p) none (withLayers ((ipFacts o p).1.foldl applyFact m) st sz) := by
  cases p with
  | v4 => exact ipResAt_whole_v4 hp h o m st sz
  | v6 => exact ipResAt_whole_v6 hp h o m hm st sz

theorem epResAt_whole_mpls {labels : List (Nat × Nat)} {p : IP} (hep : EpWF ports (.mpls labels p)) {off : Nat}
    (h : off + (etherPayloadBytes (.mpls labels p)).length ≤ n) (o : Nat) (m : FlowMsg)
    (hm : m.ipv6RoutingHeaderAddresses = []) (st sz : List Nat) :
    epResAt n off (.mpls labels p) (withLayers m st sz) =
      innerRes (stackEther (.mpls labels p)) none
        (withLayers ((ipFacts o p).1.foldl applyFact
          { m with etype := ipEtype p, mplsLabel := labels.map (·.1), mplsTtl := labels.map (·.2) }) st sz) := by
  have hl := ipBytes_length hep.2.2.2
  have hpos := ipHeader_pos p
  have hne := List.length_pos_iff.mpr hep.1
  simp only [etherPayloadBytes, List.length_append, mplsBytes_length] at h
  rw [epResAt, if_pos (by omega), if_pos (by omega), stackEther, innerRes_push,
    ← ipResAt_whole hep.2.2.2 (n := n) (off := off + 4 * labels.length) (by omega) o
      { m with etype := ipEtype p, mplsLabel := labels.map (·.1), mplsTtl := labels.map (·.2) } hm]
  rfl

theorem vlansResAt_whole (ep : EtherPayload) : ∀ (vs : List Nat) (off : Nat) (m : FlowMsg) (st sz : List Nat),
    off + 4 * vs.length ≤ n →
    vlansResAt n off ep vs (withLayers { m with etype := l2Etype ep vs } st sz) =
      epResAt n (off + 4 * vs.length) ep
        (withLayers { m with vlanId := vs.getLast?.getD m.vlanId, etype := etherType ep }
          (st ++ List.replicate vs.length 6) (sz ++ List.replicate vs.length 4))
  | [], off, m, st, sz, _ => by
    rw [vlansResAt, List.length_nil, List.replicate_zero, List.replicate_zero, List.append_nil, List.append_nil]
    rfl
  | v :: vs, off, m, st, sz, h => by
    rw [List.length_cons] at h
    rw [vlansResAt_cons, if_pos (by omega)]
    have ih := vlansResAt_whole ep vs (off + 4) { m with vlanId := v } (st ++ [6]) (sz ++ [4]) (by omega)
    refine Eq.trans ih ?_
    rw [List.length_cons, List.replicate_succ, List.append_assoc, List.append_assoc, List.getLast?_cons,
      show off + 4 + 4 * vs.length = off + 4 * (vs.length + 1) by omega]
    rfl

theorem bytes_length (d s : Nat) (vs : List Nat) (ep : EtherPayload) :
    (bytes ⟨d, s, vs, ep⟩).length = 14 + 4 * vs.length + (etherPayloadBytes ep).length := by
  simp only [bytes, List.length_append, encBE_length, vlanBytes_length]; omega

/-- the layers of `facts` against those the dissector reports: Ethernet, the tags, then `X` -/
theorem expected_layers (F : FlowMsg) (k : Nat) (L : List (Nat × Nat × Nat)) (X : List (Nat × Nat))
    (hL : L.map (fun x => (x.1, x.2.1)) = X) :
    (F.setNums "LayerStack"
        (((LS_Ethernet, 14, 14) :: ((List.range k).map fun i => (LS_Dot1Q, 4, 14 + 4 * (i + 1))) ++ L).map
          fun x : Nat × Nat × Nat => x.1)).setNums
      "LayerSize" (((LS_Ethernet, 14, 14) :: ((List.range k).map fun i => (LS_Dot1Q, 4, 14 + 4 * (i + 1))) ++ L).map
        fun x : Nat × Nat × Nat => x.2.1) =
      innerRes X none (withLayers F ([0] ++ List.replicate k 6) ([14] ++ List.replicate k 4)) := by
  subst hL
  have e1 : ((LS_Ethernet, 14, 14) :: ((List.range k).map fun i => (LS_Dot1Q, 4, 14 + 4 * (i + 1))) ++ L).map
      (fun x : Nat × Nat × Nat => x.1) =
      [0] ++ List.replicate k 6 ++ (L.map fun x => (x.1, x.2.1)).map (·.1) := by
    simp [List.map_const', LS_Dot1Q, LS_Ethernet, Function.comp_def]
  have e2 : ((LS_Ethernet, 14, 14) :: ((List.range k).map fun i => (LS_Dot1Q, 4, 14 + 4 * (i + 1))) ++ L).map
      (fun x : Nat × Nat × Nat => x.2.1) =
      [14] ++ List.replicate k 4 ++ (L.map fun x => (x.1, x.2.1)).map (·.2) := by
    simp [List.map_const', Function.comp_def]
  rw [e1, e2, setNums_LayerStack, setNums_LayerSize]
  rfl

theorem payloadFacts_layers (o : Nat) (pl : Payload) : (payloadFacts o pl).2 = innerPayloadLayers o pl := by
  cases pl <;> rfl

theorem ipFacts_layers (o : Nat) (p : IP) : (ipFacts o p).2.map (fun x => (x.1, x.2.1)) = stackIP p := by
  rw [← layers_ip p o]
  cases p with
  | v4 => simp only [ipFacts, innerIPLayers, payloadFacts_layers]
  | v6 _ _ _ _ _ ext _ => cases ext <;> simp only [ipFacts, innerIPLayers, payloadFacts_layers]

theorem expectedAt_whole {ep : EtherPayload} (hep : EpWF ports ep) (d s : Nat) (vs : List Nat)
    (h : 14 + 4 * vs.length + (etherPayloadBytes ep).length ≤ n) :
    expectedAt ⟨d, s, vs, ep⟩ n = expectedMsg ⟨d, s, vs, ep⟩ := by
  rw [expectedAt, if_pos (by omega)]
  refine Eq.trans (vlansResAt_whole ep vs 14 { FlowMsg.empty with srcMac := s, dstMac := d } [0] [14] (by omega)) ?_
  match ep, hep with
  | .raw t b, _ =>
    rw [epResAt, expectedMsg]
    simp only [facts, List.foldl_append, List.foldl_cons, List.foldl_nil, applyFact_n]
    have hl := fun F => expected_layers F vs.length [] [] rfl
    simp only [List.append_nil] at hl
    rw [hl, innerRes_nil, setNum_SrcMac, setNum_DstMac]
    cases vs.getLast? with
    | none => simp only [List.foldl_nil]; rw [setNum_Etype]; rfl
    | some v => simp only [List.foldl_cons, List.foldl_nil, applyFact_n]; rw [setNum_VlanId, setNum_Etype]; rfl
  | .ip p, hp =>
    rw [epResAt, expectedMsg]
    simp only [facts, List.foldl_append, List.foldl_cons, List.foldl_nil, applyFact_n]
    rw [expected_layers _ vs.length _ _ (ipFacts_layers _ p),
      ipResAt_whole hp (n := n) (off := 14 + 4 * vs.length) h (14 + 4 * vs.length) _ rfl, setNum_SrcMac, setNum_DstMac]
    cases vs.getLast? with
    | none => simp only [List.foldl_nil]; rw [setNum_Etype]; rfl
    | some v => simp only [List.foldl_cons, List.foldl_nil, applyFact_n]; rw [setNum_VlanId, setNum_Etype]; rfl
  | .mpls labels p, hp =>
    rw [expectedMsg]
    simp only [facts, List.foldl_append, List.foldl_cons, List.foldl_nil, applyFact_n, applyFact_ns]
    rw [List.append_assoc,
      expected_layers _ vs.length _ (stackEther (.mpls labels p)) (by rw [List.map_append, ipFacts_layers]; rfl),
      epResAt_whole_mpls hp (n := n) (off := 14 + 4 * vs.length) h (14 + 4 * vs.length + 4 * labels.length) _ rfl,
      setNum_SrcMac, setNum_DstMac, etherType_ip]
    cases vs.getLast? with
    | none => simp only [List.foldl_nil]; rw [setNum_Etype, setNums_MplsLabel, setNums_MplsTtl]; rfl
    | some v =>
      simp only [List.foldl_cons, List.foldl_nil, applyFact_n]
      rw [setNum_VlanId, setNum_Etype, setNums_MplsLabel, setNums_MplsTtl]; rfl

end

theorem expectedAt_full (cfg : Config) (hcfg : cfg.layers = []) (f : Frame) (h : FrameWFIn cfg.ports f) :
    expectedAt f (bytes f).length = expectedMsg f := by
  obtain ⟨d, s, vs, ep⟩ := f
  exact expectedAt_whole h.2.2.2 d s vs (Nat.le_of_eq (bytes_length d s vs ep).symm)

/-- full capture, for every configuration without layer mappings whose registered ports the frame's L4
    ports do not hit -/
theorem full_capture_cfg (cfg : Config) (hcfg : cfg.layers = []) (f : Frame) (h : FrameWFIn cfg.ports f) :
    parsePacket cfg FlowMsg.empty (bytes f) = .ok (expectedMsg f) := by
  have h1 := trunc_capture_cfg cfg hcfg f h (bytes f).length (Nat.le_refl _)
  rwa [List.take_length, expectedAt_full cfg hcfg f h] at h1

def PlainIP (ports : List PortEntry) : IP → Prop
  | .v4 tos ident fl fo ttl src dst (.l4 l) =>
    tos < 2 ^ 8 ∧ ident < 2 ^ 16 ∧ fl < 2 ^ 3 ∧ fo < 2 ^ 13 ∧ ttl < 2 ^ 8 ∧ src.length = 4 ∧ dst.length = 4 ∧ L4WF ports l
  | .v6 tc fl hl src dst .none (.l4 l) =>
    tc < 2 ^ 8 ∧ fl < 2 ^ 20 ∧ hl < 2 ^ 8 ∧ src.length = 16 ∧ dst.length = 16 ∧ L4WF ports l
  | _ => False

/-- the plain sub-grammar: Ethernet, any number of 802.1Q tags, IPv4 or IPv6 without extension headers,
    then TCP / UDP / ICMP / ICMPv6 / another protocol -/
def PlainWFIn (ports : List PortEntry) (f : Frame) : Prop :=
  f.dstMac < 2 ^ 48 ∧ f.srcMac < 2 ^ 48 ∧ (∀ v ∈ f.vlans, v < 2 ^ 12) ∧
    match f.payload with
    | .ip p => PlainIP ports p
    | _ => False

/-- the default environment: no registered ports -/
def PlainWF (f : Frame) : Prop := PlainWFIn [] f

theorem PlainIP.wf {ports : List PortEntry} {p : IP} (h : PlainIP ports p) : IPWF ports p := by
  match p, h with
  | .v4 tos ident fl fo ttl src dst (.l4 l), ⟨h1, h2, h3, h4, h5, h6, h7, h8⟩ => exact ⟨h1, h2, h3, h4, h5, h6, h7, h8⟩
  | .v6 tc fl hl src dst .none (.l4 l), ⟨h1, h2, h3, h4, h5, h6⟩ => exact ⟨h1, h2, h3, h4, h5, trivial, h6⟩

theorem PlainWFIn.wf {ports : List PortEntry} {f : Frame} (h : PlainWFIn ports f) : FrameWFIn ports f := by
  obtain ⟨d, s, vs, ep⟩ := f
  obtain ⟨h1, h2, h3, h4⟩ := h
  match ep, h4 with
  | .ip p, h4 => exact ⟨h1, h2, h3, h4.wf⟩

theorem full_capture_plain_cfg (cfg : Config) (hcfg : cfg.layers = []) (f : Frame) (h : PlainWFIn cfg.ports f) :
    parsePacket cfg FlowMsg.empty (bytes f) = .ok (expectedMsg f) :=
  full_capture_cfg cfg hcfg f h.wf

theorem full_capture_plain (f : Frame) (h : PlainWF f) :
    parsePacket {} FlowMsg.empty (bytes f) = .ok (expectedMsg f) :=
  full_capture_plain_cfg {} rfl f h

/-- Ethernet, 802.1Q tags, IPv6 with no / a fragment / a segment-routing extension header, then L4.
    For the routing header: at most 127 segments of 16 bytes (the length field counts 8-byte units in one byte)
    and `lastEntry` not below the index of the last segment. -/
def V6ExtWF (f : Frame) : Prop :=
  f.dstMac < 2 ^ 48 ∧ f.srcMac < 2 ^ 48 ∧ (∀ v ∈ f.vlans, v < 2 ^ 12) ∧
    match f.payload with
    | .ip (.v6 tc fl hl src dst ext (.l4 l)) =>
      tc < 2 ^ 8 ∧ fl < 2 ^ 20 ∧ hl < 2 ^ 8 ∧ src.length = 16 ∧ dst.length = 16 ∧ ExtWF ext ∧ L4WF [] l
    | _ => False

theorem full_capture_v6ext (f : Frame) (h : V6ExtWF f) :
    parsePacket {} FlowMsg.empty (bytes f) = .ok (expectedMsg f) := by
  refine full_capture_cfg {} rfl f ?_
  obtain ⟨d, s, vs, ep⟩ := f
  obtain ⟨h1, h2, h3, h4⟩ := h
  match ep, h4 with
  | .ip (.v6 tc fl hl src dst ext (.l4 l)), h4 => exact ⟨h1, h2, h3, h4⟩

/-- Ethernet, 802.1Q tags, a non-empty MPLS label stack (labels above the reserved range, within 20 bits,
    TTLs within 8 bits), then a well-formed IPv4 / IPv6 packet -/
def MplsWF (f : Frame) : Prop :=
  f.dstMac < 2 ^ 48 ∧ f.srcMac < 2 ^ 48 ∧ (∀ v ∈ f.vlans, v < 2 ^ 12) ∧
    match f.payload with
    | .mpls labels p => labels ≠ [] ∧ labels.length < 2 ^ 30 ∧ LabelsWF labels ∧ IPWF [] p
    | _ => False

theorem full_capture_mpls (f : Frame) (h : MplsWF f) :
    parsePacket {} FlowMsg.empty (bytes f) = .ok (expectedMsg f) := by
  refine full_capture_cfg {} rfl f ?_
  obtain ⟨d, s, vs, ep⟩ := f
  obtain ⟨h1, h2, h3, h4⟩ := h
  match ep, h4 with
  | .mpls labels p, h4 => exact ⟨h1, h2, h3, h4⟩

/-!
  For a tunnel the facts cover the outer headers only; the tunnelled layers (any nesting of IP, extension headers, GRE,
  MPLS, IP-in-IP, L4 that is well-formed) contribute to the layer stack and the layer sizes, and an ICMP header
  that ends the tunnelled stack to `IcmpType` / `IcmpCode`. -/

/-- the whole grammar in the default environment: plain, with an IPv6 extension header, with an MPLS label
    stack, with tunnels, or with an ethertype the dissector has no parser for -/
def FrameWF (f : Frame) : Prop := FrameWFIn [] f

def isTunnel : Payload → Prop
  | .gre _ => True
  | .ipip _ => True
  | .l4 _ => False

def TunnelWF (f : Frame) : Prop :=
  FrameWF f ∧ match f.payload with
    | .ip p => isTunnel (ipPayload p)
    | .mpls _ p => isTunnel (ipPayload p)
    | .raw .. => False

/-- **C10, full capture.** On a fully captured well-formed frame the dissector reports exactly the frame's true
    values: every column the specification lists has its true value, every other column is untouched, the layer
    stack and the layer sizes are those of the frame. -/
theorem full_capture (f : Frame) (h : FrameWF f) :
    parsePacket {} FlowMsg.empty (bytes f) = .ok (expectedMsg f) :=
  full_capture_cfg {} rfl f h

theorem full_capture_tunnel (f : Frame) (h : TunnelWF f) :
    parsePacket {} FlowMsg.empty (bytes f) = .ok (expectedMsg f) :=
  full_capture f h.1

/-- two VLAN tags, IPv6, TCP with 12 bytes of options -/
def sampleFrame : Frame :=
  ⟨0x001122334455, 0x66778899aabb, [100, 200],
   .ip (.v6 0xb8 0xabcde 64 [0x20, 1, 0xd, 0xb8, 0, 0, 0, 0, 0, 0, 0, 0, 0, 0, 0, 1]
      [0xfe, 0x80, 0, 0, 0, 0, 0, 0, 1, 2, 3, 4, 5, 6, 7, 8] .none
      (.l4 (.tcp 443 51234 0xdeadbeef 0x01020304 8 0x18 65535 [2, 4, 5, 0xb4, 1, 3, 3, 7, 1, 1, 4, 2])))⟩

theorem sampleFrame_wf : PlainWF sampleFrame := by
  simp [sampleFrame, PlainWF, PlainWFIn, PlainIP, L4WF, nextParserPort, Next.callable]

example : PlainWF sampleFrame := sampleFrame_wf

example : parsePacket {} FlowMsg.empty (bytes sampleFrame) = .ok (expectedMsg sampleFrame) :=
  full_capture_plain sampleFrame sampleFrame_wf

/-- one VLAN tag, two MPLS labels, IPv6 with a two-segment routing header, UDP -/
def sampleMpls : Frame :=
  ⟨0x001122334455, 0x66778899aabb, [7],
   .mpls [(1000, 255), (16, 1)]
     (.v6 0 1 2 [0x20, 1, 0xd, 0xb8, 0, 0, 0, 0, 0, 0, 0, 0, 0, 0, 0, 1]
      [0xfe, 0x80, 0, 0, 0, 0, 0, 0, 1, 2, 3, 4, 5, 6, 7, 8]
      (.srh 1 1 [[0xfc, 0, 0, 0, 0, 0, 0, 0, 0, 0, 0, 0, 0, 0, 0, 1], [0xfc, 0, 0, 0, 0, 0, 0, 0, 0, 0, 0, 0, 0, 0, 0, 2]])
      (.l4 (.udp 53 40000)))⟩

example : MplsWF sampleMpls := by
  simp [sampleMpls, MplsWF, LabelsWF, IPWF, ExtWF, PayloadWF, L4WF, nextParserPort, Next.callable]

/-- IPv6 with a fragment header carrying GRE, an MPLS stack, IPv4 and an ICMP echo request: the columns are those
    of the outer headers, the ICMP type / code those of the tunnelled ICMP header -/
def sampleTunnel : Frame :=
  ⟨0x001122334455, 0x66778899aabb, [],
   .ip (.v6 0 1 2 [0x20, 1, 0xd, 0xb8, 0, 0, 0, 0, 0, 0, 0, 0, 0, 0, 0, 1]
      [0xfe, 0x80, 0, 0, 0, 0, 0, 0, 1, 2, 3, 4, 5, 6, 7, 8] (.fragment 3 1 77)
      (.gre (.mpls [(16, 3), (17, 4)] (.v4 0 1 2 0 64 [10, 0, 0, 1] [10, 0, 0, 2] (.l4 (.icmp 8 0))))))⟩

theorem sampleTunnel_wf : TunnelWF sampleTunnel := by
  simp [sampleTunnel, TunnelWF, FrameWF, FrameWFIn, EpWF, IPWF, ExtWF, PayloadWF, LabelsWF, L4WF, isTunnel, ipPayload]

example : (expectedMsg sampleTunnel).layerStack = [0, 2, 11, 9, 5, 1, 7] ∧ (expectedMsg sampleTunnel).proto = 44 ∧
    (expectedMsg sampleTunnel).icmpType = 8 := by decide

/-- closes the comparison of the dissector's message with the specification's once all shapes are fixed -/
local macro "close_expected" : tactic => `(tactic|
  simp [epRes, ipFacts, payloadFacts, l4Facts, ipRes, ipPayload, ipExt, extMsg, payloadRes, ipMsg, l4Msg, ethMsg, applyFact,
    innerRes, mayIcmp, layers_ether_fst, layers_ether_snd, layers_ip_fst, layers_ip_snd,
    setNum_SrcMac, setNum_DstMac, setNum_VlanId, setNum_Etype, setNum_IpTos, setNum_IpTtl, setNum_FragmentId, setNum_FragmentOffset, setNum_IpFlags, setNum_Proto, setNum_Ipv6FlowLabel, setNum_SrcPort, setNum_DstPort, setNum_TcpFlags, setNum_IcmpType, setNum_IcmpCode, setNum_Ipv6RoutingHeaderSegLeft, setBytes_SrcAddr, setBytes_DstAddr, setNums_LayerStack, setNums_LayerSize, setNums_MplsLabel, setNums_MplsTtl, setBytess_Ipv6RoutingHeaderAddresses, FlowMsg.empty, etherType, ipEtype, payloadProto, l4Proto, v6First, *,
    LS_Ethernet, LS_IPv4, LS_IPv6, LS_TCP, LS_UDP, LS_ICMP, LS_ICMPv6, LS_MPLS, LS_Frag, LS_Route, LS_GRE])

/-- all payload shapes, with the IP header and what precedes it fixed -/
local macro "expected_payloads" pl:ident o:ident : tactic => `(tactic|
  (match $pl:ident with
   | .l4 l => cases l <;> cases $o:ident <;> close_expected
   | .gre inner =>
     simp only [epRes, ipRes, ipPayload, payloadRes, ipFacts, payloadFacts]
     generalize innerIcmpEther inner = oi
     rcases oi with _ | ⟨t, c⟩ <;> cases $o:ident <;> close_expected
   | .ipip q =>
     simp only [epRes, ipRes, ipPayload, payloadRes, ipFacts, payloadFacts]
     generalize innerIcmpIP q = oi
     rcases oi with _ | ⟨t, c⟩ <;> cases $o:ident <;> close_expected))

end Goflow.C10
