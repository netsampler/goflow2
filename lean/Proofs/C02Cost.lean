import Goflow.Cost
import Proofs.Lemmas.Safety
import Proofs.Lemmas.SafetySflow
/-!
  C02 — the modelled allocation cost of ANY datagram stays within the property's budget.

  `Goflow/Cost.lean` instruments the decoder, producer and pipe models with the bytes the Go code
  requests from the allocator (a `make([]T, count)` is charged before the elements are read, so a
  decode that fails has paid for it). This file proves, for every byte string:

  * `Netflow.netflow_cost_bound`  decodeCost ≤ price W · |b| + 65535·12       price W = 928 + 252·W
  * `Sflow.sflow_cost_bound`      decodeCost ≤ 1280 · |b| + 16016
  * `V5.v5_cost_bound`            decodeCost ≤ |b| + 65535·48
  * `produce_cost_bound`, `produce_cost_bound_sflow`, `produce_cost_bound_v5`
                                  the conversion of the decoded packet obeys the same bounds; moreover
                                  decode + produce together do (`Netflow.netflow_split` + `netflow_total_bound`, …):
                                  the two are not budgeted twice
  * `cost_within_budget`          pipeCost k cfg st src d ≤ 16 MiB + 256 · |d| · (1 + widest k st src d)
                                  for |d| ≤ `maxDatagram` = 16000 (`cost_within_budget_udp`: ≤ 9000, the receive buffer)
  * `uncapped_cost_unbounded`     negative control: without the cap of one sFlow site an 80-byte datagram
                                  costs 6000 × its budget

  The three facts everything rests on:
  (1) a successfully read list of n elements consumed at least n × (wire size) bytes of input
      (a sample that allocates has ≥ 12 bytes, 20 with its frame);
  (2) a claimed count that is not backed by input costs ONE allocation of at most 65535 × element size
      (16-bit counts: `abandon`) or 1000 × element size (capped 32-bit counts), and then the datagram is
      abandoned — every decode error of the models is fatal for the datagram;
  (3) a data record allocates one `[]DataField` of the width of ITS template, which is in the exporter's
      store when the set begins.

  `widest` is `Netflow.setsWidest`: the widest template of the exporter's store at any set boundary
  while `d` is decoded, i.e. of the store on arrival and of the templates `d` announces — an upper
  bound of "the widest template the datagram references".

  The length hypothesis is needed, and not only for the model: the pre-built harness measures
  24 693 904 bytes for a 20 028-byte sFlow datagram of 1000 twenty-byte counter samples each claiming
  1000 records (1000 × make([]CounterRecord, 1000)); the budget for that length is 21 904 384.
  Below about 16 360 bytes the budget holds. The collector's UDP receiver reads into 9000 bytes.
-/
namespace Goflow.C02Cost
open Goflow Goflow.Cost

/-- one loop iteration that consumed `c ≥ 1` bytes and cost at most `K + k·c`, followed by a rest
    bounded by `P·r + A` -/
theorem lin_step {P K k c r len X A : Nat} (hc : 1 ≤ c) (hK : K + k ≤ P) (hlen : c + r ≤ len)
    (hX : X ≤ K + k * c + (P * r + A)) : X ≤ P * len + A := by
  have h1 : P * (c + r) ≤ P * len := Nat.mul_le_mul_left P hlen
  rw [Nat.mul_add] at h1
  have h2 : (K + k) * c ≤ P * c := Nat.mul_le_mul_right c hK
  rw [Nat.add_mul] at h2
  have h3 : K ≤ K * c := Nat.le_mul_of_pos_right K hc
  omega

theorem lin_step0 {P K k c r len X : Nat} (hc : 1 ≤ c) (hK : K + k ≤ P) (hlen : c + r ≤ len)
    (hX : X ≤ K + k * c + P * r) : X ≤ P * len := by
  have := lin_step (A := 0) hc hK hlen (by omega)
  omega

theorem mul_mono_len {P a b : Nat} (h : a ≤ b) : P * a ≤ P * b := Nat.mul_le_mul_left P h

theorem readFields_fits {ws : List Nat} {b b' : Bytes} {vs : List Nat} (h : readFields ws b = .ok (vs, b')) :
    Fits ws vs := by
  by_cases hn : sumW ws ≤ b.length
  · obtain ⟨vs', h1, _, h3⟩ := readFields_ok_of_le ws b hn
    rw [h1] at h
    simp only [Except.ok.injEq, Prod.mk.injEq] at h
    obtain ⟨rfl, _⟩ := h
    exact h3
  · rw [readFields_err_of_lt _ _ (Nat.lt_of_not_le hn)] at h; cases h

theorem readFields_len {ws : List Nat} {b b' : Bytes} {vs : List Nat} (h : readFields ws b = .ok (vs, b')) :
    b'.length + ws.foldr (· + ·) 0 = b.length := (readFields_length h).2

namespace Netflow
open Goflow.Netflow

theorem decodeTemplateFields_consumes (version n : Nat) (b b' : Bytes) (fs : List Field)
    (h : decodeTemplateFields version n b = .ok (fs, b')) : b'.length + 4 * n ≤ b.length := by
  fun_induction decodeTemplateFields version n b generalizing fs b' <;> cases h
  · omega
  · rename_i ih
    have : _ + 4 = _ := readFields_len ‹_›
    have := readU_ok_length ‹_›
    have := ih _ _ ‹_›
    omega
  · rename_i ih
    have : _ + 4 = _ := readFields_len ‹_›
    have := ih _ _ ‹_›
    omega

theorem decodeField_consumes (pen : Bool) (b b' : Bytes) (f : Field) :
    decodeField pen b = .ok (f, b') → b'.length + 4 ≤ b.length := by
  fun_cases decodeField pen b <;> intro h <;> cases h
  · have : _ + 4 = _ := readFields_len ‹_›
    have := readU_ok_length ‹_›
    omega
  · have : _ + 4 = _ := readFields_len ‹_›
    omega

theorem decodeFieldsN_consumes (pen : Bool) (n : Nat) (b b' : Bytes) (fs : List Field)
    (h : decodeFieldsN pen n b = .ok (fs, b')) : b'.length + 4 * n ≤ b.length := by
  fun_induction decodeFieldsN pen n b generalizing fs b' <;> cases h
  · omega
  · rename_i ih
    have := decodeField_consumes _ _ _ _ ‹_›
    have := ih _ _ ‹_›
    omega

/-- the one allocation a datagram can leave unbacked: a 16-bit count of 12-byte fields -/
def abandon : Nat := 65535 * 12

/-- a template set decoder `dec` on `L` bytes whose instrumented twin charged `cost`: `k` per byte; a
    failed decode has in addition paid for one unbacked `make([]Field, count)`; a successful one
    returns at most one template per 4 bytes -/
def TplOk {α} (k cost L : Nat) (dec : Res (List α)) : Prop :=
  cost ≤ k * L + abandon ∧ ∀ rs, dec = .ok rs → cost ≤ k * L ∧ 4 * rs.length ≤ L

theorem TplOk.error {α} {k cost L : Nat} {e : Err} (h : cost ≤ k * L + abandon) :
    TplOk k cost L (.error e : Res (List α)) := ⟨h, nofun⟩

theorem TplOk.ok {α} {k cost L : Nat} {rs : List α} (h : cost ≤ k * L) (hn : 4 * rs.length ≤ L) :
    TplOk k cost L (.ok rs) := ⟨Nat.le_add_right_of_le h, fun _ hrs => by cases hrs; exact ⟨h, hn⟩⟩

theorem templateSetCost_bound (version fuel : Nat) (b : Bytes) :
    TplOk 44 (templateSetCost version fuel b) b.length (decodeTemplateSet version fuel b) := by
  fun_induction decodeTemplateSet version fuel b <;>
    simp only [templateSetCost, *, ↓reduceIte, szField, appTemplateRecord, ← Nat.add_assoc]
  any_goals exact .error (Nat.zero_le _)
  · obtain ⟨_, hfc, _⟩ := readFields_fits ‹_›
    exact .error (by unfold abandon; omega)
  · rename_i ih
    have : _ + 4 = _ := readFields_len ‹_›
    have := decodeTemplateFields_consumes _ _ _ _ _ ‹_›
    exact .error (by have := ih.1; omega)
  · rename_i ih
    have : _ + 4 = _ := readFields_len ‹_›
    have := decodeTemplateFields_consumes _ _ _ _ _ ‹_›
    obtain ⟨_, _⟩ := ih.2 _ ‹_›
    exact .ok (by omega) (by rw [List.length_cons]; omega)
  · exact .ok (Nat.zero_le _) (Nat.zero_le _)

theorem v9OptsSetCost_bound (fuel : Nat) (b : Bytes) :
    TplOk 52 (v9OptsSetCost fuel b) b.length (decodeNFv9OptionsTemplateSet fuel b) := by
  fun_induction decodeNFv9OptionsTemplateSet fuel b <;>
    simp only [v9OptsSetCost, *, ↓reduceIte, szField, appOptsTemplateRecord, ← Nat.add_assoc]
  any_goals exact .error (Nat.zero_le _)
  · obtain ⟨_, hsl, _⟩ := readFields_fits ‹_›
    exact .error (by unfold abandon; omega)
  · obtain ⟨_, _, hol, _⟩ := readFields_fits ‹_›
    have : _ + 6 = _ := readFields_len ‹_›
    have := decodeFieldsN_consumes _ _ _ _ _ ‹decodeFieldsN false (_ / 4) _ = .ok _›
    exact .error (by unfold abandon; omega)
  · rename_i hd1 _ _ hd2 _ _ _ ih
    have : _ + 6 = _ := readFields_len ‹_›
    have := decodeFieldsN_consumes _ _ _ _ _ hd1
    have := decodeFieldsN_consumes _ _ _ _ _ hd2
    exact .error (by have := ih.1; omega)
  · rename_i hd1 _ _ hd2 _ _ _ ih
    have : _ + 6 = _ := readFields_len ‹_›
    have := decodeFieldsN_consumes _ _ _ _ _ hd1
    have := decodeFieldsN_consumes _ _ _ _ _ hd2
    obtain ⟨_, _⟩ := ih.2 _ ‹_›
    exact .ok (by omega) (by rw [List.length_cons]; omega)
  · exact .ok (Nat.zero_le _) (Nat.zero_le _)

theorem ipfixOptsSetCost_bound (fuel : Nat) (b : Bytes) :
    TplOk 52 (ipfixOptsSetCost fuel b) b.length (decodeIPFIXOptionsTemplateSet fuel b) := by
  fun_induction decodeIPFIXOptionsTemplateSet fuel b <;>
    simp only [ipfixOptsSetCost, *, ↓reduceIte, szField, appOptsTemplateRecord, ← Nat.add_assoc]
  any_goals exact .error (Nat.zero_le _)
  · obtain ⟨_, _, hsfc, _⟩ := readFields_fits ‹_›
    exact .error (by unfold abandon; omega)
  · obtain ⟨_, _, hsfc, _⟩ := readFields_fits ‹_›
    exact .error (by unfold abandon; omega)
  · obtain ⟨_, hfc, _, _⟩ := readFields_fits ‹_›
    exact .error (by unfold abandon; omega)
  · rename_i hd1 _ _ _ hd2 _ _ _ ih
    have : _ + 6 = _ := readFields_len ‹_›
    have := decodeFieldsN_consumes _ _ _ _ _ hd1
    have := decodeFieldsN_consumes _ _ _ _ _ hd2
    exact .error (by have := ih.1; omega)
  · rename_i hd1 _ _ _ hd2 _ _ _ ih
    have : _ + 6 = _ := readFields_len ‹_›
    have := decodeFieldsN_consumes _ _ _ _ _ hd1
    have := decodeFieldsN_consumes _ _ _ _ _ hd2
    obtain ⟨_, _⟩ := ih.2 _ ‹_›
    exact .ok (by omega) (by rw [List.length_cons]; omega)
  · exact .ok (Nat.zero_le _) (Nat.zero_le _)

def valBytes : List DataField → Nat
  | [] => 0
  | df :: rest => (df.value.getD []).length + valBytes rest

theorem valBytes_replicate_zero (n : Nat) : valBytes (List.replicate n zeroDataField) = 0 := by
  induction n with
  | zero => rfl
  | succ n ih => rw [List.replicate_succ]; simp only [valBytes, ih]; rfl

/-- the values of a decoded record are disjoint pieces of the consumed input -/
theorem decodeFieldValues_valBytes (fs : List Field) (b b' : Bytes) (dfs : List DataField)
    (h : decodeFieldValues fs b = .ok (dfs, b')) : valBytes dfs + b'.length ≤ b.length := by
  induction fs generalizing b b' dfs with
  | nil =>
    simp only [decodeFieldValues, Except.ok.injEq, Prod.mk.injEq] at h
    obtain ⟨rfl, rfl⟩ := h
    simp [valBytes]
  | cons f fs ih =>
    unfold decodeFieldValues at h
    by_cases hv : f.length = 0xffff
    · simp only [hv, if_true] at h
      by_cases h1 : 1 ≤ b.length
      · rw [readU_ok h1] at h
        simp only at h
        by_cases h255 : beNat (b.take 1) = 0xff
        · simp only [h255, if_true] at h
          by_cases h2 : 2 ≤ (b.drop 1).length
          · rw [readU_ok h2] at h
            simp only [nextN] at h
            split at h
            · cases h
            · rename_i dfs' b3 hrec
              cases h
              have := ih _ _ _ hrec
              simp only [List.length_drop] at this h2
              simp only [valBytes, Option.getD_some, List.length_take, List.length_drop]
              omega
          · rw [readU_short (Nat.lt_of_not_le h2)] at h
            cases h
        · simp only [h255, if_false, nextN] at h
          split at h
          · cases h
          · rename_i dfs' b3 hrec
            cases h
            have := ih _ _ _ hrec
            simp only [List.length_drop] at this
            simp only [valBytes, Option.getD_some, List.length_take, List.length_drop]
            omega
      · rw [readU_short (Nat.lt_of_not_le h1)] at h
        cases h
    · simp only [hv, if_false, nextN] at h
      split at h
      · cases h
      · rename_i dfs' b3 hrec
        cases h
        have := ih _ _ _ hrec
        simp only [List.length_drop] at this
        simp only [valBytes, Option.getD_some, List.length_take]
        omega

theorem usingFields_facts (fs : List Field) (b b1 : Bytes) (vs : List DataField)
    (h : decodeDataSetUsingFields fs b = .ok (vs, b1)) :
    vs.length = fs.length ∧ valBytes vs + b1.length ≤ b.length ∧
    (templateSize fs ≤ b.length → b1.length + templateSize fs ≤ b.length) := by
  unfold decodeDataSetUsingFields at h
  by_cases hsz : templateSize fs ≤ b.length
  · simp only [hsz, if_true] at h
    have h1 := decodeFieldValues_consumes _ _ _ _ h
    have h2 := decodeFieldValues_valBytes _ _ _ _ h
    exact ⟨h1.2, h2, fun _ => by omega⟩
  · simp only [hsz, if_false] at h
    cases h
    simp [valBytes_replicate_zero, hsz]

theorem usingFieldsCost_le (fs : List Field) (b : Bytes) : usingFieldsCost fs b ≤ 48 * fs.length := by
  unfold usingFieldsCost
  simp only [szDataField, szSliceBox]
  split <;> omega

/-- DecodeDataSet: every record consumed at least one byte and cost at most `P` per consumed byte,
    where `P` covers the fixed cost of a record, its `fs.length` fields and the bytes of its values;
    a failed record only has its `make` charged -/
theorem dataSetLoopCost_bound (g : List DataField → Nat) (gc gf gv : Nat)
    (Hg : ∀ vs, g vs ≤ gc + gf * vs.length + gv * valBytes vs)
    (fs : List Field) (hpos : 0 < templateSize fs) (P : Nat)
    (hP : 132 + gc + gv + (48 + gf) * fs.length ≤ P) (fuel : Nat) (b : Bytes) :
    dataSetLoopCost g fs fuel b ≤ P * b.length := by
  induction fuel generalizing b with
  | zero => simp [dataSetLoopCost]
  | succ fuel ih =>
    unfold dataSetLoopCost
    by_cases hsz : templateSize fs ≤ b.length
    · simp only [hsz, if_true]
      have hu := usingFieldsCost_le fs b
      have hlen : 1 ≤ b.length := by omega
      cases hd : decodeDataSetUsingFields fs b with
      | error e =>
        simp only
        have : P ≤ P * b.length := Nat.le_mul_of_pos_right P hlen
        rw [Nat.add_mul] at hP
        omega
      | ok r =>
        obtain ⟨vs, b1⟩ := r
        simp only
        obtain ⟨f1, f2, f3⟩ := usingFields_facts _ _ _ _ hd
        have f3' := f3 hsz
        have hg := Hg vs
        rw [f1] at hg
        have hrec := ih b1
        have hvb : gv * valBytes vs ≤ gv * (b.length - b1.length) := Nat.mul_le_mul_left gv (by omega)
        rw [Nat.add_mul] at hP
        refine lin_step0 (K := 132 + gc + 48 * fs.length + gf * fs.length) (k := gv)
          (c := b.length - b1.length) (r := b1.length) (by omega) (by omega) (by omega) ?_
        simp only [appDataRecord]
        omega
    · simp [hsz]

theorem dataSetCost_bound (g : List DataField → Nat) (gc gf gv : Nat)
    (Hg : ∀ vs, g vs ≤ gc + gf * vs.length + gv * valBytes vs)
    (fs : List Field) (P : Nat) (hP : 132 + gc + gv + (48 + gf) * fs.length ≤ P) (fuel : Nat) (b : Bytes) :
    dataSetCost g fs fuel b ≤ P * b.length := by
  unfold dataSetCost
  split
  · omega
  · rename_i hz
    exact dataSetLoopCost_bound g gc gf gv Hg fs (Nat.pos_of_ne_zero hz) P hP fuel b

theorem optsDataLoopCost_bound (go : Nat) (sc op : List Field) (hpos : 0 < templateSize sc + templateSize op)
    (P : Nat) (hP : 264 + go + 48 * (sc.length + op.length) ≤ P) (fuel : Nat) (b : Bytes) :
    optsDataLoopCost go sc op fuel b ≤ P * b.length := by
  induction fuel generalizing b with
  | zero => simp [optsDataLoopCost]
  | succ fuel ih =>
    unfold optsDataLoopCost
    by_cases hsz : templateSize sc + templateSize op ≤ b.length
    · simp only [hsz, if_true]
      have hu := usingFieldsCost_le sc b
      have hlen : 1 ≤ b.length := by omega
      have hPl : P ≤ P * b.length := Nat.le_mul_of_pos_right P hlen
      cases hd : decodeDataSetUsingFields sc b with
      | error e => simp only; omega
      | ok r =>
        obtain ⟨sv, b1⟩ := r
        simp only
        obtain ⟨_, a1, f3⟩ := usingFields_facts _ _ _ _ hd
        have hu2 := usingFieldsCost_le op b1
        cases hd2 : decodeDataSetUsingFields op b1 with
        | error e => simp only; omega
        | ok r2 =>
          obtain ⟨ov, b2⟩ := r2
          simp only
          obtain ⟨_, c1, g3⟩ := usingFields_facts _ _ _ _ hd2
          -- the two reads together consumed at least one byte, even when one of the lists is empty
          have hprog : 1 + b2.length ≤ b.length := by
            have := f3 (Nat.le_trans (Nat.le_add_right _ _) hsz)
            by_cases hop : templateSize op ≤ b1.length
            · have := g3 hop; omega
            · omega
          have hrec := ih b2
          refine lin_step0 (K := 264 + go + 48 * (sc.length + op.length)) (k := 0) (c := 1) (Nat.le_refl 1) hP hprog ?_
          simp only [appOptsDataRecord]
          omega
    · simp [hsz]

theorem optsDataSetCost_bound (go : Nat) (sc op : List Field)
    (P : Nat) (hP : 264 + go + 48 * (sc.length + op.length) ≤ P) (fuel : Nat) (b : Bytes) :
    optsDataSetCost go sc op fuel b ≤ P * b.length := by
  unfold optsDataSetCost
  split
  · omega
  · rename_i hz
    exact optsDataLoopCost_bound go sc op (Nat.pos_of_ne_zero hz) P hP fuel b

theorem get_width_le (s : Store) (k : Nat) (t : Template) (h : s.get k = some t) : t.width ≤ storeWidth s := by
  unfold Store.get at h
  unfold storeWidth
  induction s with
  | nil => simp [List.lookup] at h
  | cons e s ih =>
    obtain ⟨k', t'⟩ := e
    simp only [List.lookup] at h
    simp only [List.map_cons, List.foldr_cons]
    split at h
    · cases h; exact Nat.le_max_left _ _
    · exact Nat.le_trans (ih h) (Nat.le_max_right _ _)

theorem addTemplatesCost_le (prom : Bool) (version dom : Nat) (s : Store) (l : List (Nat × Template)) :
    addTemplatesCost prom version dom s l ≤ 3072 * l.length := by
  induction l generalizing s with
  | nil => simp [addTemplatesCost]
  | cons e l ih =>
    obtain ⟨tid, t⟩ := e
    simp only [addTemplatesCost, List.length_cons]
    have := ih (s.add (templateKey version dom tid) t)
    have h2 : tplAdd prom (s.get (templateKey version dom tid)).isNone ≤ 3072 := by
      unfold tplAdd; split <;> (try split) <;> omega
    omega

/-- `P` is a price per byte of input that covers the share `G` of the producer for templates of at
    most `W` fields: a template and its registration per 4 bytes of template set (820), a data
    record, an options record, and — on the 4 header bytes of a set — its fixed cost -/
def Priced (G : Share) (W P : Nat) : Prop :=
  ∃ gc gf gv, (∀ vs, G.record vs ≤ gc + gf * vs.length + gv * valBytes vs) ∧ 820 ≤ P ∧
    132 + gc + gv + (48 + gf) * W ≤ P ∧ 264 + G.opt + 48 * W ≤ P ∧ 88 + G.set + 192 ≤ 4 * P

/-- a set that cost `X` and decoded to `R`, in a payload of `len` bytes: it is within `P` per byte, a
    failing one up to one unbacked `make`, and a decoded one paid for its place in the list of sets
    out of the bytes it consumed -/
def SetOk (G : Share) (P len X : Nat) (R : Res SetOut) : Prop :=
  X ≤ P * len + abandon ∧
  ∀ o, R = .ok o → ∃ c, c + o.rest.length = len ∧ X + (88 + G.set) ≤ P * c

theorem SetOk.error {G : Share} {P len X : Nat} {e : Err} (h : X ≤ P * len + abandon) :
    SetOk G P len X (.error e) := ⟨h, fun _ ho => nomatch ho⟩

/-- a decoded set of `4 + L` bytes that cost at most `192 + P·L`: the 4 header bytes pay for the 192
    and for the place in the list -/
theorem SetOk.ok {G : Share} {P L len X : Nat} {fs : FlowSet} {tnf : Bool} {st : Store} {rest : Bytes}
    (hP : 88 + G.set + 192 ≤ 4 * P) (hlen : 4 + L + rest.length = len) (hX : X ≤ 192 + P * L) :
    SetOk G P len X (.ok ⟨fs, tnf, st, rest⟩) := by
  have h1 : P * (4 + L) ≤ P * len := Nat.mul_le_mul_left P (by omega)
  rw [Nat.mul_add] at h1
  refine ⟨by omega, fun _ ho => ?_⟩
  cases ho
  exact ⟨4 + L, by omega, by rw [Nat.mul_add]; omega⟩

/-- a template set of any of the three kinds that failed: `k` per byte and one unbacked `make` -/
theorem SetOk.tplError {G : Share} {P L r len k cost : Nat} {e : Err}
    (hk : k + 768 ≤ P) (hlen : 4 + L + r = len) (hc : cost ≤ k * L + abandon) :
    SetOk G P len (szBuffer + cost + 0) (.error e) := by
  have h1 : P * (4 + L) ≤ P * len := Nat.mul_le_mul_left P (by omega)
  have hm := Nat.mul_le_mul_right L hk
  rw [Nat.mul_add] at h1
  rw [Nat.add_mul] at hm
  exact .error (by simp only [szBuffer]; omega)

/-- a decoded template set: `k` per byte, a template registered (at most 3072) per 4 bytes -/
theorem SetOk.tplOk {G : Share} {P L len k cost atc n : Nat} {fs : FlowSet} {tnf : Bool} {st : Store} {rest : Bytes}
    (hP : 88 + G.set + 192 ≤ 4 * P) (hk : k + 768 ≤ P) (hlen : 4 + L + rest.length = len)
    (hc : cost ≤ k * L ∧ 4 * n ≤ L) (ha : atc ≤ 3072 * n) :
    SetOk G P len (szBuffer + cost + (szSetBox + atc)) (.ok ⟨fs, tnf, st, rest⟩) := by
  have hm := Nat.mul_le_mul_right L hk
  rw [Nat.add_mul] at hm
  exact .ok hP hlen (by simp only [szBuffer, szSetBox]; omega)

theorem addTemplatesCost_map_le {α} (prom : Bool) (v dom : Nat) (s : Store) (f : α → Nat × Template) (rs : List α) :
    addTemplatesCost prom v dom s (rs.map f) ≤ 3072 * rs.length := by
  have := addTemplatesCost_le prom v dom s (rs.map f)
  rwa [List.length_map] at this

theorem SetOk.data {G : Share} {P L r len cost : Nat} (R : Res SetOut) (hP : 88 + G.set + 192 ≤ 4 * P)
    (hlen : 4 + L + r = len) (hR : ∀ o, R = .ok o → o.rest.length = r) (hcost : cost ≤ P * L) :
    SetOk G P len (szSetBox + szBuffer + (cost + szSetBox)) R := by
  cases R with
  | error e =>
    have h1 : P * (4 + L) ≤ P * len := Nat.mul_le_mul_left P (by omega)
    rw [Nat.mul_add] at h1
    exact .error (by simp only [szBuffer, szSetBox]; omega)
  | ok o =>
    obtain ⟨fs, tnf, st, rest⟩ := o
    exact .ok hP (by rw [← hR _ rfl] at hlen; exact hlen) (by simp only [szBuffer, szSetBox]; omega)

/-- DecodeMessageCommonFlowSet: one `SetOk` constructor per kind of set (`tplError` / `tplOk` for the three template
    sets from their own bounds, `data` for a data set whose template is in the store, of width at most `W`); each
    inequality of `Priced` pays for one of them -/
theorem flowSetCost_bound (G : Share) (prom : Bool) (W P : Nat) (hG : Priced G W P)
    (fuel version dom : Nat) (s : Store) (b : Bytes) (hW : storeWidth s ≤ W) :
    SetOk G P b.length (flowSetCost G prom fuel version dom s b) (decodeFlowSet fuel version dom s b) := by
  obtain ⟨gc, gf, gv, Hrec, hP1, hP2, hP3, hP4⟩ := hG
  unfold flowSetCost decodeFlowSet
  cases hr : readFields [2, 2] b with
  | error e => exact .error (Nat.zero_le _)
  | ok r =>
    obtain ⟨vs, b1⟩ := r
    obtain ⟨id, len, rfl, hl⟩ := readFields2_shape hr
    simp only
    by_cases hlen : len < 4
    · rw [if_pos hlen, if_pos hlen]
      exact .error (Nat.zero_le _)
    · rw [if_neg hlen, if_neg hlen]
      simp only [nextN]
      have hbody : 4 + (List.take (len - 4) b1).length + (List.drop (len - 4) b1).length = b.length := by
        rw [Nat.add_assoc, ← List.length_append, List.take_append_drop, Nat.add_comm]
        exact hl
      generalize List.take (len - 4) b1 = body at hbody ⊢
      generalize List.drop (len - 4) b1 = rest at hbody ⊢
      by_cases hc1 : id = 0 ∧ version = 9 ∨ id = 2 ∧ version = 10
      · rw [if_pos hc1, if_pos hc1]
        obtain ⟨t1, t2⟩ := templateSetCost_bound version fuel body
        cases hd : decodeTemplateSet version fuel body with
        | error e => exact .tplError (by omega) hbody t1
        | ok rs => exact .tplOk hP4 (by omega) hbody (t2 rs hd) (addTemplatesCost_map_le ..)
      · rw [if_neg hc1, if_neg hc1]
        by_cases hc2 : id = 1 ∧ version = 9
        · rw [if_pos hc2, if_pos hc2]
          obtain ⟨t1, t2⟩ := v9OptsSetCost_bound fuel body
          cases hd : decodeNFv9OptionsTemplateSet fuel body with
          | error e => exact .tplError hP1 hbody t1
          | ok rs => exact .tplOk hP4 hP1 hbody (t2 rs hd) (addTemplatesCost_map_le ..)
        · rw [if_neg hc2, if_neg hc2]
          by_cases hc3 : id = 3 ∧ version = 10
          · rw [if_pos hc3, if_pos hc3]
            obtain ⟨t1, t2⟩ := ipfixOptsSetCost_bound fuel body
            cases hd : decodeIPFIXOptionsTemplateSet fuel body with
            | error e => exact .tplError hP1 hbody t1
            | ok rs => exact .tplOk hP4 hP1 hbody (t2 rs hd) (addTemplatesCost_map_le ..)
          · rw [if_neg hc3, if_neg hc3]
            by_cases hc4 : id ≥ 256
            · rw [if_pos hc4, if_pos hc4]
              cases hg : s.get (templateKey version dom id) with
              | none => exact .ok hP4 hbody (Nat.le_add_right _ _)
              | some t =>
                have hw := Nat.le_trans (get_width_le s _ t hg) hW
                cases t with
                | data r =>
                  simp only
                  have hP' : 132 + gc + gv + (48 + gf) * r.fields.length ≤ P :=
                    Nat.le_trans (by have := Nat.mul_le_mul_left (48 + gf) hw; simp only [Template.width] at this; omega) hP2
                  exact .data _ hP4 hbody (fun o ho => by split at ho <;> cases ho; rfl) (dataSetCost_bound G.record gc gf gv Hrec r.fields P hP' fuel body)
                | ipfixopts r =>
                  simp only
                  exact .data _ hP4 hbody (fun o ho => by split at ho <;> cases ho; rfl) (optsDataSetCost_bound G.opt r.scopes r.options P
                    (by simp only [Template.width] at hw; omega) fuel body)
                | v9opts r =>
                  simp only
                  exact .data _ hP4 hbody (fun o ho => by split at ho <;> cases ho; rfl) (optsDataSetCost_bound G.opt r.scopes r.options P
                    (by simp only [Template.width] at hw; omega) fuel body)
            · rw [if_neg hc4, if_neg hc4]
              exact .error (Nat.zero_le _)

/-- DecodeMessageCommon: the sets of a message share its bytes; only the one that fails can leave an
    allocation unbacked, because a failing set ends the datagram -/
theorem setsCost_bound (G : Share) (prom : Bool) (W P : Nat) (hG : Priced G W P)
    (version dom size startLen fuel : Nat) (i : Nat) (s : Store) (b : Bytes)
    (hW : setsWidest version dom size startLen fuel i s b ≤ W) :
    setsCost G prom version dom size startLen fuel i s b ≤ P * b.length + abandon := by
  induction fuel generalizing i s b with
  | zero => exact Nat.zero_le _
  | succ fuel ih =>
    unfold setsCost
    unfold setsWidest at hW
    by_cases hcnd : ((i < size ∧ version = 9) ∨ ((startLen - b.length) % 65536 < size ∧ version = 10)) ∧ 0 < b.length
    · simp only [if_pos hcnd] at hW ⊢
      cases hd : decodeFlowSet (b.length + 2) version dom s b with
      | error e =>
        rw [hd] at hW
        exact (flowSetCost_bound G prom W P hG (b.length + 2) version dom s b hW).1
      | ok o =>
        rw [hd] at hW
        simp only at hW ⊢
        obtain ⟨c, hc1, hc2⟩ := (flowSetCost_bound G prom W P hG (b.length + 2) version dom s b
          (Nat.le_trans (Nat.le_max_left _ _) hW)).2 o hd
        have hrec := ih (i + 1) o.store o.rest (Nat.le_trans (Nat.le_max_right _ _) hW)
        have hm : P * (c + o.rest.length) = P * b.length := by rw [hc1]
        rw [Nat.mul_add] at hm
        simp only [appIface]
        omega
    · simp only [if_neg hcnd]
      omega

/-- the price of one byte of a v9 / IPFIX datagram whose widest referenced template has `W` fields:
    928 bytes whatever the template (a one-byte record still gets a 576-byte message and its places
    in three lists; a template registered with Prometheus costs 820 per byte) and 252 per field
    (DataField 24, boxed value 24, mapping key 72, the MplsIp append 132) -/
def price (W : Nat) : Nat := 928 + 252 * W

theorem parseCost_le (v : Bytes) : Producer.parseCost v ≤ 44 * v.length := by
  unfold Producer.parseCost
  simp only [parseFixed, parsePerByte]
  split <;> omega

theorem actionCost_le (v : Bytes) (a : Option Producer.Action) : Producer.actionCost v a ≤ 132 + 44 * v.length := by
  have := parseCost_le v
  cases a with
  | none => simp [Producer.actionCost]
  | some act => cases act <;> simp [Producer.actionCost, appBytes] <;> omega

theorem fieldsProdCost_le (version : Nat) (vs : List DataField) :
    Producer.fieldsProdCost version vs ≤ 204 * vs.length + 44 * valBytes vs := by
  induction vs with
  | nil => simp [Producer.fieldsProdCost]
  | cons df rest ih =>
    simp only [Producer.fieldsProdCost, List.length_cons, valBytes]
    have hf : Producer.fieldProdCost version df ≤ 204 + 44 * (df.value.getD []).length := by
      unfold Producer.fieldProdCost
      cases hv : df.value with
      | none => simp
      | some v =>
        simp only [Option.getD_some, szMapKey]
        have := actionCost_le v (Producer.lookupAction version df.type)
        split <;> omega
    omega

theorem recordProdCost_le (version : Nat) (vs : List DataField) :
    Producer.recordProdCost version vs ≤ 752 + 204 * vs.length + 44 * valBytes vs := by
  have := fieldsProdCost_le version vs
  simp only [Producer.recordProdCost, szMsg, appIface]
  omega

/-- the three readers of a v9 / IPFIX message parse its header alike: either it is short (nothing is
    charged, no set is decoded), or all three run their set loop on the same payload with the same
    arguments. The IPFIX bound of that loop, `(length + 65536 - 16) % 65536`, stays behind the
    quantifier: next to a free variable the kernel evaluates it in unary. -/
theorem message_cases (s : Store) (v : Nat) (b : Bytes) (hv : v = 9 ∨ v = 10) :
    ((∀ G prom, messageCost G prom s v b = 0) ∧
      (if v = 9 then decodeMessageNetFlow s b else decodeMessageIPFIX s b).packet = ⟨v, [], []⟩) ∨
    ∃ dom size hdr b1, b1.length ≤ b.length ∧
      (∀ G prom, messageCost G prom s v b = setsCost G prom v dom size b1.length (b1.length + 2) 0 s b1) ∧
      messageWidest s v b = setsWidest v dom size b1.length (b1.length + 2) 0 s b1 ∧
      (if v = 9 then decodeMessageNetFlow s b else decodeMessageIPFIX s b).packet =
        ⟨v, hdr, (decodeSets v dom size b1.length (b1.length + 2) 0 s b1).flowSets⟩ := by
  rcases hv with rfl | rfl
  · rw [if_pos rfl]
    unfold messageCost messageWidest
    simp only [if_pos]
    cases hr : readFields [2, 4, 4, 4, 4] b with
    | error e => exact .inl ⟨fun _ _ => rfl, by rw [decodeMessageNetFlow_err hr]⟩
    | ok r =>
      obtain ⟨vs, b1⟩ := r
      obtain ⟨hl1, hl2⟩ := readFields_length hr
      obtain ⟨c, u, t, q, d, rfl⟩ := list_len5 hl1
      obtain ⟨r, rfl, hd⟩ := decodeMessageNetFlow_ok (s := s) hr
      exact .inr ⟨d, c, _, b1, Nat.le.intro hl2, fun _ _ => rfl, rfl, by rw [hd]⟩
  · have h109 : ¬ 10 = 9 := by decide
    rw [if_neg h109]
    unfold messageCost messageWidest
    simp only [if_neg h109, if_pos]
    cases hr : readFields [2, 4, 4, 4] b with
    | error e => exact .inl ⟨fun _ _ => rfl, by rw [decodeMessageIPFIX_err hr]⟩
    | ok r =>
      obtain ⟨vs, b1⟩ := r
      obtain ⟨hl1, hl2⟩ := readFields_length hr
      obtain ⟨l, t, q, d, rfl⟩ := list_len4 hl1
      obtain ⟨size, r, hsize, rfl, hd⟩ := decodeMessageIPFIX_ok (s := s) hr
      exact .inr ⟨d, size, _, b1, Nat.le.intro hl2, fun _ _ => by rw [hsize], by rw [hsize], by rw [hd]⟩

theorem messageCost_bound (G : Share) (prom : Bool) (W P : Nat) (hG : Priced G W P)
    (s : Store) (version : Nat) (b : Bytes) (hW : messageWidest s version b ≤ W) :
    messageCost G prom s version b ≤ P * b.length + abandon := by
  by_cases hv : version = 9 ∨ version = 10
  · rcases message_cases s version b hv with ⟨h0, _⟩ | ⟨dom, size, _, b1, hl, hc, hw, _⟩
    · rw [h0]; omega
    · rw [hc]
      rw [hw] at hW
      have := setsCost_bound G prom W P hG version dom size b1.length (b1.length + 2) 0 s b1 hW
      have := Nat.mul_le_mul_left P hl
      omega
  · unfold messageCost
    rw [if_neg (fun h => hv (.inl h)), if_neg (fun h => hv (.inr h))]
    omega

/-- decoding AND producing a v9 / IPFIX message, charged along the decode -/
theorem netflow_total_bound (prom : Bool) (s : Store) (version : Nat) (b : Bytes) (W : Nat)
    (hW : messageWidest s version b ≤ W) :
    messageCost (Producer.netflowShare version) prom s version b ≤ price W * b.length + abandon := by
  refine messageCost_bound _ prom W _ ⟨752, 204, 44, recordProdCost_le version, ?_, ?_, ?_, ?_⟩ s version b hW
  all_goals (simp only [price, Producer.netflowShare, optsRecordProd, appSet]; omega)

/-- decoding any byte string as a v9 / IPFIX message allocates at most
    `price W` bytes per byte of input plus ONE unbacked allocation of 65535 fields -/
theorem netflow_cost_bound (prom : Bool) (s : Store) (version : Nat) (b : Bytes) (W : Nat)
    (hW : messageWidest s version b ≤ W) :
    decodeCost prom s version b ≤ price W * b.length + abandon := by
  refine messageCost_bound _ prom W _ ⟨0, 0, 0, fun _ => Nat.zero_le _, ?_, ?_, ?_, ?_⟩ s version b hW
  all_goals (simp only [price, Share.none]; omega)

/-! The producer's share: what `Produce` allocates for the decoded packet is what the instrumented
    decode charges per record, per options record and per set. -/

open Goflow.Producer in
theorem dataSetLoop_split (v : Nat) (fs : List Field) (fuel : Nat) (b : Bytes) :
    dataSetLoopCost (fun _ => 0) fs fuel b +
      (match decodeDataSetLoop fs fuel b with | .ok rs => recordsProdCost v rs | .error _ => 0) ≤
    dataSetLoopCost (recordProdCost v) fs fuel b := by
  fun_induction decodeDataSetLoop fs fuel b <;> simp only [dataSetLoopCost, *, ↓reduceIte, ← Nat.add_assoc]
  any_goals exact Nat.le_refl _
  all_goals
    rename_i hrec ih
    rw [hrec] at ih
    simp only [recordsProdCost] at ih ⊢
    omega

open Goflow.Producer in
theorem optsDataLoop_split (sc op : List Field) (fuel : Nat) (b : Bytes) :
    optsDataLoopCost 0 sc op fuel b +
      (match decodeOptionsDataSetLoop sc op fuel b with | .ok rs => rs.length * optsRecordProd | .error _ => 0) ≤
    optsDataLoopCost optsRecordProd sc op fuel b := by
  fun_induction decodeOptionsDataSetLoop sc op fuel b <;> simp only [optsDataLoopCost, *, ↓reduceIte, ← Nat.add_assoc]
  any_goals exact Nat.le_refl _
  all_goals
    rename_i hrec ih
    rw [hrec] at ih
    simp only [List.length_cons, Nat.add_mul, Nat.one_mul] at ih ⊢
    omega

/-- what Produce allocates for one decoded set (beyond its place in the typed list) -/
def setProd (v : Nat) : FlowSet → Nat
  | .data _ _ rs => Producer.recordsProdCost v rs
  | .optsData _ _ rs => rs.length * optsRecordProd
  | _ => 0

open Goflow.Producer in
theorem dataSet_split (v : Nat) {fs : List Field} {fuel : Nat} {b : Bytes} {r : Res (List DataRecord)}
    (hr : decodeDataSet fs fuel b = r) :
    dataSetCost (fun _ => 0) fs fuel b +
      (match (generalizing := false) r with | .ok rs => recordsProdCost v rs | .error _ => 0) ≤
    dataSetCost (recordProdCost v) fs fuel b := by
  subst hr
  unfold dataSetCost decodeDataSet
  by_cases hz : templateSize fs = 0
  · rw [if_pos hz, if_pos hz, if_pos hz]; exact Nat.le_refl _
  · rw [if_neg hz, if_neg hz, if_neg hz]; exact dataSetLoop_split v fs fuel b

open Goflow.Producer in
theorem optsDataSet_split {sc op : List Field} {fuel : Nat} {b : Bytes} {r : Res (List OptionsDataRecord)}
    (hr : decodeOptionsDataSet sc op fuel b = r) :
    optsDataSetCost 0 sc op fuel b +
      (match (generalizing := false) r with | .ok rs => rs.length * optsRecordProd | .error _ => 0) ≤
    optsDataSetCost optsRecordProd sc op fuel b := by
  subst hr
  unfold optsDataSetCost decodeOptionsDataSet
  by_cases hz : templateSize sc + templateSize op = 0
  · rw [if_pos hz, if_pos hz, if_pos hz]; exact Nat.le_refl _
  · rw [if_neg hz, if_neg hz, if_neg hz]; exact optsDataLoop_split sc op fuel b

theorem flowSet_split (prom : Bool) (fuel v dom : Nat) (s : Store) (b : Bytes) :
    flowSetCost Share.none prom fuel v dom s b +
      (match decodeFlowSet fuel v dom s b with | .ok o => setProd v o.flowSet | .error _ => 0) ≤
    flowSetCost (Producer.netflowShare v) prom fuel v dom s b := by
  fun_cases decodeFlowSet fuel v dom s b <;> simp only [flowSetCost, *, ↓reduceIte, ← Nat.add_assoc]
  any_goals exact Nat.le_refl _
  -- left: the data sets and the options data sets, failed or decoded
  · have := dataSet_split v ‹_›
    simp only [Share.none, Producer.netflowShare] at this ⊢
    omega
  · have := dataSet_split v ‹_›
    simp only [setProd, Share.none, Producer.netflowShare] at this ⊢
    omega
  · have := optsDataSet_split ‹_›
    simp only [Share.none, Producer.netflowShare] at this ⊢
    omega
  · have := optsDataSet_split ‹_›
    simp only [setProd, Share.none, Producer.netflowShare] at this ⊢
    omega
  · have := optsDataSet_split ‹_›
    simp only [Share.none, Producer.netflowShare] at this ⊢
    omega
  · have := optsDataSet_split ‹_›
    simp only [setProd, Share.none, Producer.netflowShare] at this ⊢
    omega

def setsProd (v : Nat) : List FlowSet → Nat
  | [] => 0
  | fs :: rest => appSet + setProd v fs + setsProd v rest

theorem recordsProdCost_append (v : Nat) (a b : List DataRecord) :
    Producer.recordsProdCost v (a ++ b) = Producer.recordsProdCost v a + Producer.recordsProdCost v b := by
  induction a with
  | nil => simp [Producer.recordsProdCost]
  | cons r a ih => simp [Producer.recordsProdCost, ih, Nat.add_assoc]

theorem setsProd_eq (v : Nat) (hdr : List Nat) (l : List FlowSet) :
    Producer.netflowProduceCost ⟨v, hdr, l⟩ = setsProd v l := by
  unfold Producer.netflowProduceCost
  simp only
  induction l with
  | nil => simp [setsProd, Producer.dataRecordsOf, Producer.optionRecordsOf, Producer.recordsProdCost]
  | cons fs l ih =>
    cases fs <;>
    · simp only [Producer.dataRecordsOf, Producer.optionRecordsOf, List.flatMap_cons, List.nil_append,
        recordsProdCost_append, List.length_append, List.length_cons, setsProd, setProd,
        Nat.add_mul, Nat.one_mul] at ih ⊢
      omega

theorem sets_split (prom : Bool) (v dom size startLen fuel i : Nat) (s : Store) (b : Bytes) :
    setsCost Share.none prom v dom size startLen fuel i s b +
      setsProd v (decodeSets v dom size startLen fuel i s b).flowSets ≤
    setsCost (Producer.netflowShare v) prom v dom size startLen fuel i s b := by
  induction fuel generalizing i s b with
  | zero => simp [setsCost, decodeSets, setsProd]
  | succ fuel ih =>
    unfold setsCost decodeSets
    by_cases hcnd : ((i < size ∧ v = 9) ∨ ((startLen - b.length) % 65536 < size ∧ v = 10)) ∧ 0 < b.length
    · simp only [if_pos hcnd]
      have hf := flowSet_split prom (b.length + 2) v dom s b
      cases hd : decodeFlowSet (b.length + 2) v dom s b with
      | error e => rw [hd] at hf; simp only [setsProd] at hf ⊢; omega
      | ok o =>
        rw [hd] at hf
        have := ih (i + 1) o.store o.rest
        simp only [setsProd, Share.none, Producer.netflowShare] at hf this ⊢
        omega
    · simp [if_neg hcnd, setsProd]

/-- decode, then Produce on the decoded packet: together at most the instrumented decode with the
    producer's share -/
theorem netflow_split (prom : Bool) (s : Store) (v : Nat) (b : Bytes) (hv : v = 9 ∨ v = 10) :
    decodeCost prom s v b +
      Producer.netflowProduceCost (if v = 9 then decodeMessageNetFlow s b else decodeMessageIPFIX s b).packet ≤
    messageCost (Producer.netflowShare v) prom s v b := by
  unfold decodeCost
  rcases message_cases s v b hv with ⟨h0, hp⟩ | ⟨dom, size, _, b1, _, hc, _, hp⟩
  · rw [h0, h0, hp, setsProd_eq]
    exact Nat.le_refl _
  · rw [hc, hc, hp, setsProd_eq]
    exact sets_split prom v dom size b1.length (b1.length + 2) 0 s b1

end Netflow

namespace V5
open Goflow.V5

theorem readRecord_consumes (b b' : Bytes) (r : Record) (h : readRecord b = .ok (r, b')) :
    b'.length + 48 = b.length := by
  unfold readRecord at h
  cases hr : readFields Record.widths b with
  | error e => rw [hr] at h; cases h
  | ok q =>
    obtain ⟨vs, b1⟩ := q
    rw [hr] at h
    simp only at h
    have := (readFields_length hr).2
    split at h
    · cases h; simpa [sumW, Record.widths] using this
    · cases h

theorem readRecordsCost_bound (g P : Nat) (hP : 48 + g ≤ 48 * P) (n : Nat) (b : Bytes) :
    readRecordsCost g n b ≤ P * b.length := by
  induction n generalizing b with
  | zero => simp [readRecordsCost]
  | succ n ih =>
    unfold readRecordsCost
    split
    · cases hr : readRecord b with
      | error e => simp
      | ok q =>
        obtain ⟨r, b'⟩ := q
        simp only [szV5Record]
        have hc := readRecord_consumes _ _ _ hr
        have := ih b'
        have hm : P * (b'.length + 48) = P * b.length := by rw [hc]
        rw [Nat.mul_add] at hm
        omega
    · omega

/-- the one allocation sized by the header: 65535 records of 48 bytes -/
def abandon : Nat := 65535 * 48

theorem messageCost_bound (g P : Nat) (hP : 48 + g ≤ 48 * P) (b : Bytes) :
    messageCost g b ≤ P * b.length + abandon := by
  unfold messageCost
  cases hr : readFields Header.widths b with
  | error e => simp
  | ok q =>
    obtain ⟨vs, b'⟩ := q
    simp only
    obtain ⟨hl1, hl2⟩ := readFields_length hr
    have hf := readFields_fits hr
    cases ho : Header.ofList vs with
    | none => simp
    | some h =>
      simp only [szV5Record]
      have hcount : h.count ≤ 65535 := by
        match vs, hl1, ho with
        | [a, b, c, d, e, f, g, i], _, ho =>
          simp only [Header.ofList, Option.some.injEq] at ho
          subst ho
          simp only [Header.widths, Fits] at hf
          show a ≤ 65535
          omega
      have := readRecordsCost_bound g P hP h.count b'
      have hm : P * b'.length ≤ P * b.length := Nat.mul_le_mul_left P (by omega)
      unfold abandon
      omega

/-- whatever the header count says: one `make` of at most 65535 records, and one
    48-byte temporary per record that is really there -/
theorem v5_cost_bound (b : Bytes) : decodeCost b ≤ 1 * b.length + abandon :=
  messageCost_bound 0 1 (by omega) b

theorem v5_total_bound (b : Bytes) : messageCost Producer.v5RecordProd b ≤ 16 * b.length + abandon :=
  messageCost_bound _ 16 (by simp [Producer.v5RecordProd, szMsg, appIface]) b

theorem readRecords_split (g n : Nat) (b : Bytes) :
    readRecordsCost 0 n b + (match readRecords n b with | .ok rs => rs.length * g | .error _ => 0) ≤
    readRecordsCost g n b := by
  fun_induction readRecords n b <;> simp only [readRecordsCost, *, ↓reduceIte, List.length_nil, List.length_cons, Nat.zero_mul, Nat.add_mul, Nat.one_mul]
  any_goals exact Nat.le_refl _
  all_goals
    rename_i hrec ih
    rw [hrec] at ih
    simp only at ih
    omega

theorem v5_split (b : Bytes) :
    decodeCost b + (match decodeMessage b with | .ok p => Producer.legacyProduceCost p | .error _ => 0) ≤
    messageCost Producer.v5RecordProd b := by
  unfold decodeCost messageCost decodeMessage
  cases hr : readFields Header.widths b with
  | error e => simp
  | ok q =>
    obtain ⟨vs, b'⟩ := q
    simp only
    cases ho : Header.ofList vs with
    | none => simp
    | some h =>
      simp only
      have := readRecords_split Producer.v5RecordProd h.count b'
      cases hrec : readRecords h.count b' with
      | error e => rw [hrec] at this; simp only at this ⊢; omega
      | ok rs => rw [hrec] at this; simp only [Producer.legacyProduceCost] at this ⊢; omega

end V5

namespace Sflow
open Goflow.Sflow

theorem readWords_length (w n : Nat) (b b' : Bytes) (vs : List Nat) (h : readWords w n b = .ok (vs, b')) :
    b'.length ≤ b.length := by
  fun_induction readWords w n b generalizing vs b' <;> cases h
  · exact Nat.le_refl _
  · rename_i ih
    have := readU_ok_length ‹_›
    have := ih _ _ ‹_›
    omega

theorem readCapped_length (len : Nat) (b b' : Bytes) (vs : List Nat) :
    readCapped len b = .ok (vs, b') → b'.length ≤ b.length := by
  fun_cases readCapped len b
  · nofun
  · nofun
  · exact readWords_length _ _ _ _ _

/-- the plausibility check of the decoder: an AS path / community list is only allocated when the
    payload is at least as long as its count -/
theorem cappedCost_le (len : Nat) (b : Bytes) : cappedCost len b ≤ 4 * b.length := by
  unfold cappedCost
  split
  · omega
  · split <;> omega

theorem decodeIP_length (b b1 ip : Bytes) (v : Nat) : decodeIP b = .ok (v, ip, b1) → b1.length ≤ b.length := by
  fun_cases decodeIP b <;> intro h <;> cases h
  have := readU_ok_length ‹_›
  simp only [List.length_drop]
  omega

theorem stringCost_le (b : Bytes) : stringCost b ≤ b.length := by
  fun_cases stringCost b <;> try exact Nat.zero_le _
  have := readU_ok_length ‹_›
  omega

theorem gatewayTailCost_le (b4 : Bytes) : gatewayTailCost b4 ≤ 120 + 4 * b4.length := by
  unfold gatewayTailCost
  cases hu : readU 4 b4 with
  | error e => simp
  | ok q =>
    obtain ⟨cl, b5⟩ := q
    have := readU_ok_length hu
    have := cappedCost_le cl b5
    simp only
    cases readCapped cl b5 with
    | error e => simp only; omega
    | ok q2 =>
      obtain ⟨_, b6⟩ := q2
      simp only
      cases readU 4 b6 <;> simp only <;> omega

theorem gatewayPath_le (hd : List Nat) (b2 : Bytes) :
    (gatewayPath hd b2).1 ≤ 4 * b2.length ∧ ∀ b4, (gatewayPath hd b2).2 = .ok b4 → b4.length ≤ b2.length := by
  unfold gatewayPath
  split
  · cases hr : readFields [4, 4] b2 with
    | error e => simp
    | ok q =>
      obtain ⟨tl, b3⟩ := q
      obtain ⟨hl1, hl2⟩ := readFields_length hr
      simp only [sumW, List.foldr] at hl2
      match tl, hl1 with
      | [pt, pl], _ =>
        simp only
        have := cappedCost_le pl b3
        refine ⟨by omega, ?_⟩
        intro b4 h4
        cases hc : readCapped pl b3 with
        | error e => rw [hc] at h4; cases h4
        | ok q2 =>
          obtain ⟨vs, b4'⟩ := q2
          rw [hc] at h4
          cases h4
          have := readCapped_length _ _ _ _ hc
          omega
  · simp only
    refine ⟨by omega, ?_⟩
    intro b4 h4; cases h4; omega

/-- DecodeFlowRecord: whatever the record claims, it allocates at most 136 bytes plus 8 per byte it has. By cases on the
    format: a constant for the fixed structs, the bounds of the variable parts (`gatewayPath_le`, `gatewayTailCost_le`,
    `stringCost_le`) for the others -/
theorem flowRecordCost_le (fmt len : Nat) (b : Bytes) : flowRecordCost fmt len b ≤ 136 + 8 * b.length := by
  unfold flowRecordCost
  split
  · cases readFields [4, 4, 4, 4] b <;> simp only <;> omega
  · split
    · cases hd : decodeIP b with
      | error e => simp only; omega
      | ok q =>
        obtain ⟨v, ip, b1⟩ := q
        simp only
        cases readFields [4, 4] b1 <;> simp only <;> omega
    · split
      · cases hd : decodeIP b with
        | error e => simp only; omega
        | ok q =>
          obtain ⟨v, ip, b1⟩ := q
          have h1 := decodeIP_length _ _ _ _ hd
          simp only
          cases hr : readFields [4, 4, 4, 4] b1 with
          | error e => simp only; omega
          | ok q2 =>
            obtain ⟨hd4, b2⟩ := q2
            have h2 := (readFields_length hr).2
            obtain ⟨p1, p2⟩ := gatewayPath_le hd4 b2
            simp only
            cases hp : (gatewayPath hd4 b2).2 with
            | error e => simp only; omega
            | ok b4 =>
              have h4 := p2 b4 hp
              have := gatewayTailCost_le b4
              simp only
              omega
      · split
        · cases hu : readU 4 b with
          | error e => simp only; omega
          | ok q =>
            obtain ⟨num, b1⟩ := q
            have := readU_ok_length hu
            have := stringCost_le b1
            simp only
            cases readString b1 with
            | error e => simp only; omega
            | ok q2 =>
              obtain ⟨name, b2⟩ := q2
              simp only
              cases readU 4 b2 <;> simp only <;> omega
        · split
          · have := stringCost_le b
            cases readString b <;> simp only <;> omega
          · split
            · rename_i lay _
              cases readItems lay b <;> simp only <;> omega
            · omega

theorem counterRecordCost_le (fmt len : Nat) (b : Bytes) : counterRecordCost fmt len b ≤ 88 := by
  unfold counterRecordCost
  split
  · cases readFields ifCountersW b <;> simp only <;> omega
  · split
    · cases readFields ethCountersW b <;> simp only <;> omega
    · omega

theorem rec_step {P K k l r len X : Nat} (hK : K ≤ 8 * P) (hk : k ≤ P) (hlen : 8 + l + r = len)
    (hX : X ≤ K + k * l + P * r) : X ≤ P * len := by
  subst hlen
  rw [Nat.mul_add, Nat.mul_add]
  have h2 : k * l ≤ P * l := Nat.mul_le_mul_right l hk
  omega

/-- records and samples are framed alike: two header words, then `len` bytes of body -/
theorem framed {b b1 : Bytes} {fmt len : Nat} (hr : readFields [4, 4] b = .ok ([fmt, len], b1))
    (hle : ¬ len > b1.length) : (b1.take len).length = len ∧ 8 + len + (b1.drop len).length = b.length := by
  have : _ + 8 = _ := readFields_len hr
  rw [List.length_take, List.length_drop]
  omega

/-- the record loop of DecodeSample: every record consumed its 8-byte header and its body -/
theorem recordLoopCost_bound {α} (dec : Nat → Nat → Bytes → Res α) (cost : Nat → Nat → Bytes → Nat) (g : α → Nat)
    (c0 k gk : Nat) (Hcost : ∀ fmt len b, cost fmt len b ≤ c0 + k * b.length)
    (Hg : ∀ fmt len b r, dec fmt len b = .ok r → g r ≤ gk * b.length)
    (P : Nat) (hP1 : 72 + c0 ≤ 8 * P) (hP2 : k + gk ≤ P) (n : Nat) (b : Bytes) :
    recordLoopCost dec cost g n b ≤ P * b.length := by
  fun_induction recordLoop dec n b <;> simp only [recordLoopCost, *, ↓reduceIte, szRecordFixed, ← Nat.add_assoc]
  any_goals exact Nat.zero_le _
  · rename_i b1 fmt len hle _ _ hr
    obtain ⟨ht, hb⟩ := framed hr hle
    have hc := Hcost fmt len (b1.take len)
    rw [ht] at hc
    exact rec_step (K := 72 + c0) (k := k) hP1 (by omega) hb (by omega)
  all_goals
    rename_i b1 fmt len hle r hd _ _ hr ih
    obtain ⟨ht, hb⟩ := framed hr hle
    have hc := Hcost fmt len (b1.take len)
    have hg := Hg fmt len _ r hd
    rw [ht] at hc hg
    have hkk : (k + gk) * len = k * len + gk * len := Nat.add_mul _ _ _
    exact rec_step (K := 72 + c0) (k := k + gk) hP1 hP2 hb (by omega)

/-- what Produce allocates for a decoded flow record lies inside the record: only a raw Ethernet
    header makes it allocate (ParsePacket) -/
theorem sflowRecordProd_le (fmt len : Nat) (b : Bytes) (r : FlowRecord) :
    decodeFlowRecord fmt len b = .ok r → Producer.sflowRecordProdCost r ≤ 44 * b.length := by
  fun_cases decodeFlowRecord fmt len b <;> intro h <;> cases h
  · rename_i vs b1 hr
    have := (readFields_length hr).2
    have := Netflow.parseCost_le (b1.take (vs.getD 3 0))
    have := List.length_take (i := vs.getD 3 0) (l := b1)
    simp only [Producer.sflowRecordProdCost]
    split <;> omega
  all_goals exact Nat.zero_le _

/-- the capped `make([]Record, count)` (at most 1000 × 24 bytes), the boxed sample, the records -/
theorem recordsCost_le {α} (dec : Nat → Nat → Bytes → Res α) (cost : Nat → Nat → Bytes → Nat) (g : α → Nat)
    (c0 k gk : Nat) (Hcost : ∀ fmt len b, cost fmt len b ≤ c0 + k * b.length)
    (Hg : ∀ fmt len b r, dec fmt len b = .ok r → g r ≤ gk * b.length)
    (P : Nat) (hP1 : 72 + c0 ≤ 8 * P) (hP2 : k + gk ≤ P) (cnt : Nat) (b : Bytes) :
    recordsCost true dec cost g cnt b ≤ 24080 + P * b.length := by
  unfold recordsCost
  have := recordLoopCost_bound dec cost g c0 k gk Hcost Hg P hP1 hP2 (min cnt cap1000) b
  simp only [true_and, cap1000, szFlowRecord, szSampleBox] at this ⊢
  split <;> omega

theorem sampleSrc_length (format : Nat) (b1 b2 : Bytes) (x : Nat × Nat) :
    sampleSrc format b1 = .ok (x, b2) → b2.length + 4 ≤ b1.length := by
  fun_cases sampleSrc format b1 <;> intro h <;> cases h
  · have := readU_ok_length ‹_›
    omega
  · have : _ + 8 = _ := readFields_len ‹_›
    omega

/-- the producer's share `G` of a sample is covered by the decoder's price per byte: a record's share
    by 44 per byte of the record, the sample's own by 752 -/
def Priced (G : Share) : Prop :=
  (∀ fmt len b r, decodeFlowRecord fmt len b = .ok r → G.record r ≤ 44 * b.length) ∧ G.sample ≤ 752

theorem flowRecordsCost_le (g : FlowRecord → Nat)
    (hg : ∀ fmt len b r, decodeFlowRecord fmt len b = .ok r → g r ≤ 44 * b.length) (cnt : Nat) (b : Bytes) :
    recordsCost true decodeFlowRecord flowRecordCost g cnt b ≤ 24080 + 52 * b.length :=
  recordsCost_le decodeFlowRecord flowRecordCost g 136 8 44 flowRecordCost_le hg 52 (by omega) (by omega) cnt b

theorem counterRecordsCost_le (cnt : Nat) (b : Bytes) :
    recordsCost true decodeCounterRecord counterRecordCost (fun _ => 0) cnt b ≤ 24080 + 52 * b.length :=
  recordsCost_le decodeCounterRecord counterRecordCost (fun _ => 0) 88 0 0
    (fun f l b => Nat.le_add_right_of_le (counterRecordCost_le f l b)) (fun _ _ _ _ _ => Nat.zero_le _) 52 (by omega) (by omega) cnt b

/-- DecodeSample behind the data source: the capped make can only happen behind the record count,
    which is at least 4 bytes into the body, 12 into the sample, 20 into the loop's input -/
theorem sampleBodyCost_le (G : Share) (hG : Priced G) (format : Nat) (b2 : Bytes) :
    72 + sampleBodyCost true G format b2 ≤ 1280 * (16 + b2.length) := by
  have Hs := hG.2
  fun_cases sampleBodyCost true G format b2
  any_goals omega
  · rename_i vs b3 hr
    have : _ + 24 = _ := readFields_len hr
    have := flowRecordsCost_le G.record hG.1 (vs.getD 5 0) b3
    omega
  · rename_i cnt b3 hu
    have := readU_ok_length hu
    have := counterRecordsCost_le cnt b3
    omega
  · rename_i vs b3 hr
    have : _ + 32 = _ := readFields_len hr
    have := flowRecordsCost_le G.record hG.1 (vs.getD 7 0) b3
    omega
  · rename_i vs b3 hr
    have : _ + 20 = _ := readFields_len hr
    have := flowRecordsCost_le (fun _ => 0) (fun _ _ _ _ _ => Nat.zero_le _) (vs.getD 4 0) b3
    omega

theorem sampleCost_le (G : Share) (hG : Priced G) (format : Nat) (b : Bytes) :
    72 + sampleCostWith true G format b ≤ 1280 * (8 + b.length) := by
  fun_cases sampleCostWith true G format b
  any_goals omega
  have := readU_ok_length ‹_›
  have := sampleSrc_length _ _ _ _ ‹_›
  have := sampleBodyCost_le G hG format ‹_›
  omega

/-- the sample loop of DecodeMessage: a sample that allocates its (capped) record slice has consumed
    at least 20 bytes of the datagram — 1280 bytes per byte of input -/
theorem sampleLoopCost_bound (G : Share) (hG : Priced G) (n : Nat) (b : Bytes) :
    sampleLoopCost true G n b ≤ 1280 * b.length := by
  fun_induction sampleLoop n b <;> simp only [sampleLoopCost, *, ↓reduceIte, szSampleFixed]
  any_goals exact Nat.zero_le _
  · rename_i b1 fmt len hle _ _ hr
    obtain ⟨ht, hb⟩ := framed hr hle
    have hc := sampleCost_le G hG fmt (b1.take len)
    omega
  all_goals
    rename_i b1 fmt len hle _ _ _ _ hr ih
    obtain ⟨ht, hb⟩ := framed hr hle
    have hc := sampleCost_le G hG fmt (b1.take len)
    omega

/-- DecodeMessageVersion and its cost model read the datagram header alike: either the header is
    not accepted (at most the 16 bytes of the agent address are charged, nothing is decoded), or both
    run the sample loop on the same payload, `cnt ≤ 1000` times -/
theorem message_cases (b : Bytes) :
    (∃ c, c ≤ 16 ∧ (∀ G, messageCostWith true G b = c) ∧ ∀ p, decodeMessageVersion b ≠ .ok p) ∨
    ∃ cnt b3, cnt ≤ 1000 ∧ b3.length ≤ b.length ∧
      (∀ G, messageCostWith true G b = 16 + (cnt * 16 + sampleLoopCost true G cnt b3)) ∧
      ∃ ipv ip hd,
        (∀ e, sampleLoop cnt b3 = .error e → decodeMessageVersion b = .error e) ∧
        (∀ ss, sampleLoop cnt b3 = .ok ss →
          decodeMessageVersion b = .ok ⟨5, ipv, ip, hd, padTo cnt Sample.none ss⟩) := by
  unfold messageCostWith decodeMessageVersion decodeMessage
  cases hu : readU 4 b with
  | error e => exact .inl ⟨0, Nat.zero_le _, fun _ => rfl, fun _ h => by cases h⟩
  | ok q =>
    obtain ⟨v, b0⟩ := q
    have h0 := readU_ok_length hu
    simp only
    by_cases hv : v ≠ 5
    · simp only [if_pos hv]
      exact .inl ⟨0, Nat.zero_le _, fun _ => rfl, fun _ h => by cases h⟩
    · simp only [if_neg hv]
      cases hu1 : readU 4 b0 with
      | error e => exact .inl ⟨0, Nat.zero_le _, fun _ => rfl, fun _ h => by cases h⟩
      | ok q1 =>
        obtain ⟨ipv, b1⟩ := q1
        have h1 := readU_ok_length hu1
        simp only
        generalize (if ipv = 1 then 4 else if ipv = 2 then 16 else 0) = n
        by_cases hn : n = 0
        · simp only [if_pos hn]
          exact .inl ⟨0, Nat.zero_le _, fun _ => rfl, fun _ h => by cases h⟩
        · simp only [if_neg hn]
          cases ht : takeN n b1 with
          | error e => exact .inl ⟨16, Nat.le_refl _, fun _ => rfl, fun _ h => by cases h⟩
          | ok q2 =>
            obtain ⟨ip, b2⟩ := q2
            have h2 : b2.length ≤ b1.length := by
              obtain ⟨_, _, rfl⟩ := takeN_ok_iff.mp ht
              simp only [List.length_drop]; omega
            simp only
            cases hr : readFields [4, 4, 4, 4] b2 with
            | error e => exact .inl ⟨16, Nat.le_refl _, fun _ => rfl, fun _ h => by cases h⟩
            | ok q3 =>
              obtain ⟨hd, b3⟩ := q3
              have h3 := (readFields_length hr).2
              simp only
              by_cases hc : hd.getD 3 0 > 1000
              · have hc' : hd.getD 3 0 > cap1000 := hc
                simp only [if_pos hc, if_pos hc']
                exact .inl ⟨16, Nat.le_refl _, fun _ => rfl, fun _ h => by cases h⟩
              · have hc' : ¬ hd.getD 3 0 > cap1000 := hc
                simp only [if_neg hc, if_neg hc']
                refine .inr ⟨hd.getD 3 0, b3, Nat.le_of_not_lt hc, ?_, fun _ => rfl, ipv, ip, hd,
                  fun e he => by rw [he], fun ss hs => by rw [hs]⟩
                omega

/-- the agent address, the capped `make([]interface{}, count)` (at most 16 000 bytes), the samples -/
theorem messageCost_bound (G : Share)
    (hG : Priced G)
    (b : Bytes) : messageCostWith true G b ≤ 1280 * b.length + 16016 := by
  rcases message_cases b with ⟨c, hc, h0, _⟩ | ⟨cnt, b3, hcnt, hlen, hc, _⟩
  · rw [h0]; omega
  · rw [hc]
    have := sampleLoopCost_bound G hG cnt b3
    omega

/-- decoding any byte string as an sFlow datagram allocates at most 1280
    bytes per byte of input (the capped slices) plus 16 016 -/
theorem sflow_cost_bound (b : Bytes) : decodeCost b ≤ 1280 * b.length + 16016 :=
  messageCost_bound Share.none ⟨fun _ _ _ _ _ => Nat.zero_le _, Nat.zero_le _⟩ b

theorem sflow_total_bound (b : Bytes) : messageCostWith true Producer.sflowShare b ≤ 1280 * b.length + 16016 :=
  messageCost_bound Producer.sflowShare ⟨sflowRecordProd_le, Nat.le_refl _⟩ b

open Goflow.Producer in
theorem flowRecordLoop_split (n : Nat) (b : Bytes) :
    recordLoopCost decodeFlowRecord flowRecordCost (fun _ => 0) n b +
      (match recordLoop decodeFlowRecord n b with | .ok rs => sflowRecordsProdCost rs | .error _ => 0) ≤
    recordLoopCost decodeFlowRecord flowRecordCost sflowRecordProdCost n b := by
  fun_induction recordLoop decodeFlowRecord n b <;> simp only [recordLoopCost, *, ↓reduceIte, ← Nat.add_assoc]
  any_goals exact Nat.le_refl _
  all_goals
    rename_i hrec _ ih
    rw [hrec] at ih
    simp only [sflowRecordsProdCost] at ih ⊢
    omega

open Goflow.Producer in
theorem sflowRecordsProdCost_pad (rs : List FlowRecord) (k : Nat) :
    sflowRecordsProdCost (rs ++ List.replicate k zeroFlowRecord) = sflowRecordsProdCost rs := by
  induction rs with
  | nil =>
    induction k with
    | zero => rfl
    | succ k ih =>
      simp only [List.nil_append, List.replicate_succ, sflowRecordsProdCost] at ih ⊢
      rw [ih]; rfl
  | cons r rs ih => simp only [List.cons_append, sflowRecordsProdCost, ih]

open Goflow.Producer in
/-- flow-record samples: the count is capped, so the loop runs `cnt` times -/
theorem flowRecords_split {cnt : Nat} {b : Bytes} {r : Res (List FlowRecord)} (hc : ¬ cnt > 1000)
    (hr : recordLoop decodeFlowRecord cnt b = r) :
    recordsCost true decodeFlowRecord flowRecordCost (fun _ => 0) cnt b +
      (match r with
       | .ok rs => sflowRecordsProdCost (padTo cnt zeroFlowRecord rs) | .error _ => 0) ≤
    recordsCost true decodeFlowRecord flowRecordCost sflowRecordProdCost cnt b := by
  unfold recordsCost
  have hmin : min cnt 1000 = cnt := by omega
  have := flowRecordLoop_split cnt b
  simp only [true_and, cap1000, if_neg hc] at this ⊢
  rw [hmin]
  rw [hr] at this
  cases r with
  | error e => simp only at this ⊢; omega
  | ok rs =>
    simp only [padTo, sflowRecordsProdCost_pad] at this ⊢
    omega

open Goflow.Producer in
theorem sample_split (format length : Nat) (b : Bytes) :
    sampleCostWith true Share.none format b +
      (match decodeSample format length b with | .ok smp => sampleProdCost smp | .error _ => 0) ≤
    sampleCostWith true sflowShare format b := by
  fun_cases decodeSample format length b
  · simp only [sampleCostWith, *]
    exact Nat.le_refl _
  all_goals
    -- the decoder reads the data source with the code of `sampleSrc`
    have hs : sampleSrc format _ = _ := ‹_›
    simp only [sampleCostWith, ‹readU 4 b = _›, hs, sampleBodyCost]
    try simp only [*, ↓reduceIte, Nat.reduceEqDiff, or_self]
    try exact Nat.le_refl _
  -- left: the flow and the expanded flow sample, each with the count refused, the records failing, decoded
  · simp only [recordsCost, cap1000, true_and, Share.none]
    rw [if_pos ‹_›, if_pos ‹_›]
    exact Nat.zero_le _
  · rename_i cnt hc _ hrec
    have := flowRecords_split hc hrec
    simp only [cnt, Share.none, sflowShare] at this ⊢
    omega
  · rename_i cnt hc _ hrec
    have := flowRecords_split hc hrec
    simp only [cnt, sampleProdCost, Share.none, sflowShare] at this ⊢
    omega
  · simp only [recordsCost, cap1000, true_and, Share.none]
    rw [if_pos ‹_›, if_pos ‹_›]
    exact Nat.zero_le _
  · rename_i cnt hc _ hrec
    have := flowRecords_split hc hrec
    simp only [cnt, Share.none, sflowShare] at this ⊢
    omega
  · rename_i cnt hc _ hrec
    have := flowRecords_split hc hrec
    simp only [cnt, sampleProdCost, Share.none, sflowShare] at this ⊢
    omega

open Goflow.Producer in
theorem sampleLoop_split (n : Nat) (b : Bytes) :
    sampleLoopCost true Share.none n b +
      (match sampleLoop n b with | .ok ss => samplesProdCost ss | .error _ => 0) ≤
    sampleLoopCost true sflowShare n b := by
  induction n generalizing b with
  | zero => simp [sampleLoopCost, sampleLoop, samplesProdCost]
  | succ n ih =>
    unfold sampleLoopCost sampleLoop
    split
    · cases hr : readFields [4, 4] b with
      | error e => simp
      | ok q =>
        obtain ⟨vs, b1⟩ := q
        obtain ⟨hl1, _⟩ := readFields_length hr
        match vs, hl1 with
        | [fmt, len], _ =>
          simp only
          split
          · simp [samplesProdCost]
          · have hsmp := sample_split fmt len (b1.take len)
            cases hd : decodeSample fmt len (b1.take len) with
            | error e => rw [hd] at hsmp; simp only at hsmp ⊢; omega
            | ok smp =>
              rw [hd] at hsmp
              simp only at hsmp ⊢
              have := ih (b1.drop len)
              cases hrec : sampleLoop n (b1.drop len) with
              | error e => rw [hrec] at this; simp only at this ⊢; omega
              | ok ss => rw [hrec] at this; simp only [samplesProdCost] at this ⊢; omega
    · simp [samplesProdCost]

open Goflow.Producer in
theorem samplesProdCost_pad (ss : List Sample) (k : Nat) :
    samplesProdCost (ss ++ List.replicate k Sample.none) = samplesProdCost ss := by
  induction ss with
  | nil =>
    induction k with
    | zero => rfl
    | succ k ih =>
      simp only [List.nil_append, List.replicate_succ, samplesProdCost] at ih ⊢
      rw [ih]; rfl
  | cons r rs ih => simp only [List.cons_append, samplesProdCost, ih]

open Goflow.Producer in
/-- decode, then Produce on the decoded datagram: together at most the instrumented decode with the
    producer's share -/
theorem sflow_split (b : Bytes) :
    decodeCost b + (match decodeMessageVersion b with | .ok p => sflowProduceCost p | .error _ => 0) ≤
    messageCostWith true sflowShare b := by
  unfold decodeCost
  rcases message_cases b with ⟨c, _, hc, h0⟩ | ⟨cnt, b3, _, _, hc, ipv, ip, hd, herr, hok⟩
  · rw [hc, hc]
    cases hd : decodeMessageVersion b with
    | error e => exact Nat.le_refl _
    | ok p => exact absurd hd (h0 p)
  · rw [hc, hc]
    have := sampleLoop_split cnt b3
    cases hs : sampleLoop cnt b3 with
    | error e => rw [herr e hs]; rw [hs] at this; simp only at this ⊢; omega
    | ok ss =>
      rw [hok ss hs]
      rw [hs] at this
      simp only [sflowProduceCost, padTo, samplesProdCost_pad] at this ⊢
      omega

end Sflow

open Goflow.Pipe Goflow.Producer

/-- v9 / IPFIX: converting the packet decoded from `b` allocates at most
    `price W` bytes per byte of `b` — one pooled message per record, and a record has at least one byte -/
theorem produce_cost_bound (prom : Bool) (s : Netflow.Store) (v : Nat) (b : Bytes) (hv : v = 9 ∨ v = 10) (W : Nat)
    (hW : Netflow.messageWidest s v b ≤ W) :
    netflowProduceCost (if v = 9 then Netflow.decodeMessageNetFlow s b else Netflow.decodeMessageIPFIX s b).packet ≤
      Netflow.price W * b.length + Netflow.abandon := by
  have h1 := Netflow.netflow_split prom s v b hv
  have h2 := Netflow.netflow_total_bound prom s v b W hW
  omega

/-- sFlow: one pooled message per flow sample, ParsePacket inside the sampled header -/
theorem produce_cost_bound_sflow (b : Bytes) (p : Sflow.Packet) (h : Sflow.decodeMessageVersion b = .ok p) :
    sflowProduceCost p ≤ 1280 * b.length + 16016 := by
  have h1 := Sflow.sflow_split b
  have h2 := Sflow.sflow_total_bound b
  rw [h] at h1
  simp only at h1
  omega

/-- NetFlow v5: one pooled message and three 4-byte slices per 48-byte record -/
theorem produce_cost_bound_v5 (b : Bytes) (p : V5.Packet) (h : V5.decodeMessage b = .ok p) :
    legacyProduceCost p ≤ 16 * b.length + V5.abandon := by
  have h1 := V5.v5_split b
  have h2 := V5.v5_total_bound b
  rw [h] at h1
  simp only at h1
  omega

theorem budget_mono (len w w' : Nat) (h : w ≤ w') : budget len w ≤ budget len w' := by
  unfold budget
  have : 256 * len * (1 + w) ≤ 256 * len * (1 + w') := Nat.mul_le_mul_left _ (by omega)
  omega

/-- the largest datagram the theorem covers. The UDP receiver reads into a 9000-byte buffer
    (utils/udp.go), so every datagram the collector decodes is shorter. The bound is needed: at about
    20 000 bytes 1000 minimal counter samples, each claiming 1000 records, cost 1000 × 24 000 bytes,
    which is above the budget for that length. -/
def maxDatagram : Nat := 16000

theorem sflowPipeCost_bound (d : Bytes) (hlen : d.length ≤ maxDatagram) : sflowPipeCost d ≤ budget d.length 0 := by
  unfold sflowPipeCost
  have h1 := Sflow.sflow_split d
  have h2 := Sflow.sflow_total_bound d
  cases hdec : Sflow.decodeMessageVersion d <;>
  · rw [hdec] at h1
    simp only [budget, pipeFixed, maxDatagram] at *
    omega

theorem netflowPipeCost_bound (prom : Bool) (st : State) (src : Src) (d : Bytes) (hlen : d.length ≤ maxDatagram) :
    netflowPipeCost prom st src d ≤
      budget d.length (match readU 2 d with
        | .error _ => 0
        | .ok (version, b) => Netflow.messageWidest (st.templatesOf src) version b) := by
  unfold netflowPipeCost
  cases hu : readU 2 d with
  | error e => simp only [budget, pipeFixed]; omega
  | ok q =>
    obtain ⟨version, b⟩ := q
    have hb := readU_ok_length hu
    simp only
    by_cases h5 : version = 5
    · simp only [if_pos h5]
      have h1 := V5.v5_split b
      have h2 := V5.v5_total_bound b
      cases hdec : V5.decodeMessage b <;>
      · rw [hdec] at h1
        simp only [budget, pipeFixed, V5.abandon, maxDatagram] at *
        omega
    · simp only [if_neg h5]
      by_cases h910 : version = 9 ∨ version = 10
      · simp only [if_pos h910]
        generalize hW : Netflow.messageWidest (st.templatesOf src) version b = W
        have h1 := Netflow.netflow_split prom (st.templatesOf src) version b h910
        have h2 := Netflow.netflow_total_bound prom (st.templatesOf src) version b W (by omega)
        generalize (if version = 9 then Netflow.decodeMessageNetFlow (st.templatesOf src) b
              else Netflow.decodeMessageIPFIX (st.templatesOf src) b) = o at h1 ⊢
        -- price W · |b| ≤ 928·|d| + 252·(|d|·W)
        have h4 : Netflow.price W * b.length ≤ Netflow.price W * d.length := Nat.mul_le_mul_left _ (by omega)
        have h5 : Netflow.price W * d.length = 928 * d.length + 252 * (d.length * W) := by
          unfold Netflow.price
          rw [Nat.add_mul, Nat.mul_assoc, Nat.mul_comm W d.length]
        have h6 : 256 * d.length * (1 + W) = 256 * d.length + 256 * (d.length * W) := by
          rw [Nat.mul_add, Nat.mul_one, Nat.mul_assoc]
        have h45 : Netflow.price W * b.length ≤ 928 * d.length + 252 * (d.length * W) := by
          rw [← h5]; exact h4
        simp only [budget, pipeFixed]
        rw [h6]
        simp only [Netflow.abandon, maxDatagram] at h2 hlen
        clear h4 h5 h6
        generalize d.length * W = X at *
        generalize Netflow.price W * b.length = Y at *
        cases o.err <;> simp only <;> omega
      · simp only [if_neg h910, budget, pipeFixed]
        omega

/-- for every pipe kind, configuration, collector state, source and byte
    string of at most `maxDatagram` bytes, the modelled allocation of `DecodeFlow` is within
    16 MiB + 256 × length × (1 + widest), where `widest` is the widest template of the exporter's
    store while the datagram is decoded (its store on arrival and the templates the datagram announces) -/
theorem cost_within_budget (k : Kind) (cfg : Config) (st : State) (src : Src) (d : Bytes)
    (hlen : d.length ≤ maxDatagram) :
    pipeCost k cfg st src d ≤ 16 * 2 ^ 20 + 256 * d.length * (1 + widest k st src d) := by
  show pipeCost k cfg st src d ≤ budget d.length (widest k st src d)
  cases k with
  | netflow => exact netflowPipeCost_bound false st src d hlen
  | sflow => exact sflowPipeCost_bound d hlen
  | auto =>
    simp only [pipeCost, widest, autoPipeCost]
    cases hu : readU 4 d with
    | error e => simp only [budget, pipeFixed]; omega
    | ok q =>
      obtain ⟨proto, r⟩ := q
      simp only
      split
      · exact Nat.le_trans (sflowPipeCost_bound d hlen) (budget_mono _ _ _ (Nat.zero_le _))
      · split
        · exact netflowPipeCost_bound true st src d hlen
        · simp only [budget, pipeFixed]; omega

/-- the collector's own datagrams: the UDP receiver never hands over more than 9000 bytes -/
theorem cost_within_budget_udp (k : Kind) (cfg : Config) (st : State) (src : Src) (d : Bytes)
    (hlen : d.length ≤ 9000) :
    pipeCost k cfg st src d ≤ 16 * 2 ^ 20 + 256 * d.length * (1 + widest k st src d) :=
  cost_within_budget k cfg st src d (by unfold maxDatagram; omega)

/-- an 80-byte sFlow datagram: one expanded flow sample claiming 2^32 − 1 records -/
def giantCount : Bytes :=
  [0, 0, 0, 5, 0, 0, 0, 1, 10, 0, 0, 1, 0, 0, 0, 0, 0, 0, 0, 1, 0, 0, 0, 100, 0, 0, 0, 1,
   0, 0, 0, 3, 0, 0, 0, 44,
   0, 0, 0, 1, 0, 0, 0, 0, 0, 0, 0, 1, 0, 0, 0, 10, 0, 0, 0, 20, 0, 0, 0, 0, 0, 0, 0, 0, 0, 0, 0, 1,
   0, 0, 0, 0, 0, 0, 0, 2, 255, 255, 255, 255]

/-- negative control: with the `> 1000` check of the expanded flow sample removed (the
    repository before aff12d8), the same accounting charges 24 × (2^32 − 1) bytes for an 80-byte
    datagram: 6000 times the budget. With the cap the datagram is rejected before the make. -/
theorem uncapped_cost_unbounded :
    giantCount.length = 80 ∧
    Goflow.Sflow.decodeCostUncapped giantCount > budget 80 0 ∧
    Goflow.Sflow.decodeCost giantCount ≤ 200 := by
  decide +kernel

end Goflow.C02Cost
