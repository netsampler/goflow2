import Goflow.Conc.KafkaLifecycle
import Proofs.C20
import Proofs.Lemmas.Run
import Proofs.Lemmas.Count
/-!
  C20 with lifecycles and faults — the singleton Kafka driver through any number of
  Init → Send* → Close lifecycles; brokers that reject messages; a reader of the error stream that
  stops at the nil end marker.

  First at call level: under the stated sarama contract for each producer, every lifecycle's messages are
  delivered or reported by that lifecycle's Close. Then as a transition system, for every schedule: the same as an
  invariant, with the producers' internals explicit; and Close never waits for the reader of `Errors()`.
  As in C20 nothing about sarama itself is proved: the producer's behaviour is the stated contract.
-/
namespace Goflow.C20Faults
open Goflow Goflow.Conc.KafkaAdapter Goflow.Conc.KafkaLifecycle

theorem sendAll_eq (st : St) (msgs : List (Bytes × Bytes)) :
    sendAll st msgs = { st with input := st.input ++ msgs.map (mkMsg st.topic) } :=
  C20.sendAll_eq st msgs

private theorem runOps_append (once : Bool) (d : Driver) (a b : List Op) :
    runOps once d (a ++ b) = (runOps once d a).bind fun d' => runOps once d' b := by
  induction a generalizing d with
  | nil => rfl
  | cons o rest ih =>
    simp only [List.cons_append, runOps]
    cases applyOp once d o with
    | none => rfl
    | some d' => exact ih d'

private theorem runOps_sends (once : Bool) (d : Driver) (p : St) (hp : d.cur = some p) (hc : p.closed = false)
    (msgs : List (Bytes × Bytes)) :
    runOps once d (msgs.map fun kv => Op.send kv.1 kv.2) = some { d with cur := some (sendAll p msgs) } := by
  induction msgs generalizing d p with
  | nil =>
    simp only [List.map_nil, runOps, sendAll, ← hp]
  | cons m rest ih =>
    obtain ⟨k, v⟩ := m
    simp only [List.map_cons, runOps, applyOp, hp, hc, Bool.false_eq_true, if_false]
    rw [ih _ (send p k v) rfl (by simpa [send] using hc)]
    rfl

def afterLifecycle (d : Driver) (msgs : List (Bytes × Bytes)) : Driver :=
  ⟨d.topic, producers d, some ⟨d.topic, msgs.map (mkMsg d.topic), true⟩, true⟩

/-- a new producer receives exactly this lifecycle's messages and is closed; the earlier producers are untouched -/
theorem runOps_lifecycle (d : Driver) (msgs : List (Bytes × Bytes)) :
    runOps false d (lifecycleOps msgs) = some (afterLifecycle d msgs) := by
  simp only [lifecycleOps, List.cons_append, runOps, applyOp]
  rw [runOps_append, runOps_sends false _ ⟨d.topic, [], false⟩ rfl rfl]
  simp [runOps, applyOp, sendAll_eq, afterLifecycle]

theorem runOps_all (d : Driver) (ls : List (List (Bytes × Bytes))) :
    ∃ d', runOps false d (allOps ls) = some d' ∧ d'.topic = d.topic ∧
      producers d' = producers d ++ ls.map fun msgs => ⟨d.topic, msgs.map (mkMsg d.topic), true⟩ := by
  induction ls generalizing d with
  | nil => exact ⟨d, rfl, rfl, by simp⟩
  | cons msgs rest ih =>
    have h1 := runOps_lifecycle d msgs
    obtain ⟨d', h2, ht, hp⟩ := ih (afterLifecycle d msgs)
    refine ⟨d', ?_, ht, ?_⟩
    · simp only [allOps, List.flatMap_cons] at h2 ⊢
      rw [runOps_append, h1]
      exact h2
    · rw [hp]
      simp [producers, afterLifecycle]

theorem runOps_fresh (topic : String) (ls : List (List (Bytes × Bytes))) :
    ∃ d, runOps false { topic := topic } (allOps ls) = some d ∧
      producers d = ls.map fun msgs => (⟨topic, msgs.map (mkMsg topic), true⟩ : St) := by
  obtain ⟨d, hrun, _, hp⟩ := runOps_all { topic := topic } ls
  exact ⟨d, hrun, by rw [hp]; simp [producers]⟩

/-- Every lifecycle flushed, at call level: for every number of lifecycles and every batch of messages in each, the
    calls do not panic; lifecycle `i` has its own producer, which received exactly the messages handed to Send in
    lifecycle `i` and whose Close was called by the i-th `d.Close()`; hence, under the stated contract for each
    producer (Close delivers or reports everything handed to it before), every message of lifecycle `i` is
    delivered or reported exactly once by the time the i-th Close returns. -/
theorem every_lifecycle_flushed_contract (hashing : Bool) (parts : Nat) (topic : String)
    (ls : List (List (Bytes × Bytes))) (o : Nat → Outcome) :
    ∃ d, runOps false { topic := topic } (allOps ls) = some d ∧
      (∀ (i : Nat) (p : St), (producers d)[i]? = some p → p.closed = true) ∧
      ((∀ (i : Nat) (p : St), (producers d)[i]? = some p → p.closed = true → ContractF hashing parts p.input (o i)) →
        ∀ (i : Nat) (msgs : List (Bytes × Bytes)), ls[i]? = some msgs →
          ((o i).delivered.map (·.1) ++ (o i).errors).Perm (msgs.map (mkMsg topic))) := by
  obtain ⟨d, hrun, hp⟩ := runOps_fresh topic ls
  refine ⟨d, hrun, fun i p hi => ?_, fun hc i msgs hi => ?_⟩
  · rw [hp, List.getElem?_map] at hi
    cases hl : ls[i]? with
    | none => rw [hl] at hi; cases hi
    | some msgs => rw [hl] at hi; cases hi; rfl
  · have hprod : (producers d)[i]? = some ⟨topic, msgs.map (mkMsg topic), true⟩ := by
      rw [hp, List.getElem?_map, hi]; rfl
    exact (hc i _ hprod rfl).1

/-- the same with the fault-free `KafkaAdapter.Contract`: everything delivered, nothing reported -/
theorem every_lifecycle_delivered_contract (hashing : Bool) (parts : Nat) (topic : String)
    (ls : List (List (Bytes × Bytes))) (o : Nat → Outcome) :
    ∃ d, runOps false { topic := topic } (allOps ls) = some d ∧
      ((∀ (i : Nat) (p : St), (producers d)[i]? = some p → p.closed = true → Contract hashing parts p.input (o i)) →
        ∀ (i : Nat) (msgs : List (Bytes × Bytes)), ls[i]? = some msgs →
          ((o i).delivered.map (·.1)).Perm (msgs.map (mkMsg topic)) ∧ (o i).errors = []) := by
  obtain ⟨d, hrun, hp⟩ := runOps_fresh topic ls
  refine ⟨d, hrun, fun hc i msgs hi => ?_⟩
  have hprod : (producers d)[i]? = some ⟨topic, msgs.map (mkMsg topic), true⟩ := by
    rw [hp, List.getElem?_map, hi]; rfl
  obtain ⟨he, hperm, _⟩ := hc i _ hprod rfl
  exact ⟨hperm, he⟩

/-- per lifecycle: conservation of the messages handed to Send; `p.errors` is closed only when nothing
    is in flight and only after Close was called; a Close that got past `producer.Close()` saw it closed -/
def LInv (cfg : Cfg) (lf : Life) : Prop :=
  (∀ m : KMsg, lf.input.count m = (lf.delivered.map (·.1)).count m + lf.reported.count m + lf.pending.count m) ∧
  (lf.errClosed = true → lf.pending = [] ∧ lf.close ≠ CPc.notCalled) ∧
  (lf.close ≠ CPc.notCalled → lf.close ≠ CPc.draining → lf.errClosed = true) ∧
  (cfg.hashing = true → ∀ e ∈ lf.delivered, e.2 = hashPartition e.1.key cfg.parts)

def SInv (cfg : Cfg) (s : Sys) : Prop := ∀ lf ∈ s.lives, LInv cfg lf

private theorem count_move (pending : List KMsg) (m x : KMsg) (hm : m ∈ pending) :
    (pending.erase m).count x + (if m = x then 1 else 0) = pending.count x := by
  rw [List.count_erase]
  by_cases h : m = x
  · subst h
    have := List.count_pos_iff.mpr hm
    simp; omega
  · simp [h]

private theorem count_snoc (l : List KMsg) (m x : KMsg) :
    (l ++ [m]).count x = l.count x + (if m = x then 1 else 0) := by
  simp [List.count_append, List.count_cons]

/-- `lifeStep` as a relation, so that proofs go by cases on the enabled branch; the last index is what the reader of
    `Errors()` is handed -/
inductive LStep (cfg : Cfg) (rd : Reader) (lf : Life) : LEv → Life → Option (Option KMsg) → Prop
  | deliver {m p} : m ∈ lf.pending →
      LStep cfg rd lf (.deliver m p)
        { lf with
          pending := lf.pending.erase m,
          delivered := lf.delivered ++ [(m, if cfg.hashing then hashPartition m.key cfg.parts else p)] } none
  | failToFwd {m} : m ∈ lf.pending → lf.fwd = .waiting →
      LStep cfg rd lf (.failToFwd m)
        { lf with pending := lf.pending.erase m, reported := lf.reported ++ [m], fwd := .got (some m) } none
  | failToClose {m} : m ∈ lf.pending → lf.close = .draining →
      LStep cfg rd lf (.failToClose m)
        { lf with pending := lf.pending.erase m, reported := lf.reported ++ [m], collected := lf.collected ++ [m] } none
  | errorsClosed : lf.close = .draining → lf.pending = [] → lf.errClosed = false →
      LStep cfg rd lf .errorsClosed { lf with errClosed := true } none
  | closeSeesEnd : lf.close = .draining → lf.errClosed = true →
      LStep cfg rd lf .closeSeesEnd
        { lf with close := if cfg.blockingForward then .forwarding lf.collected else .flushed } none
  | closeForward {e rest} : lf.close = .forwarding (e :: rest) → rd = .reading →
      LStep cfg rd lf .closeForward { lf with close := .forwarding rest } (some (some e))
  | closeQ : lf.close = .flushed ∨ lf.close = .forwarding [] →
      LStep cfg rd lf .closeQ { lf with qClosed := true, close := .returned } none
  | fwdSeesEnd : lf.fwd = .waiting → lf.errClosed = true → LStep cfg rd lf .fwdSeesEnd { lf with fwd := .got none } none
  | fwdQuit : lf.fwd = .waiting → lf.qClosed = true → LStep cfg rd lf .fwdQuit { lf with fwd := .exited } none
  | fwdForward {e} : lf.fwd = .got e → rd = .reading →
      LStep cfg rd lf .fwdForward { lf with fwd := afterForward e } (some e)
  | fwdDrop {e} : lf.fwd = .got e → LStep cfg rd lf .fwdDrop { lf with fwd := afterForward e } none

theorem LStep.of_lifeStep {cfg : Cfg} {rd : Reader} {lf lf' : Life} {ev : LEv} {out : Option (Option KMsg)}
    (h : lifeStep cfg rd lf ev = some (lf', out)) : LStep cfg rd lf ev lf' out := by
  cases ev with
  | deliver m p =>
    simp only [lifeStep] at h
    split at h <;> cases h
    exact .deliver (List.contains_iff_mem.mp ‹_›)
  | failToFwd m =>
    simp only [lifeStep] at h
    split at h <;> cases h
    rename_i hg
    exact .failToFwd (List.contains_iff_mem.mp hg.1) hg.2
  | failToClose m =>
    simp only [lifeStep] at h
    split at h <;> cases h
    rename_i hg
    exact .failToClose (List.contains_iff_mem.mp hg.1) hg.2
  | errorsClosed =>
    simp only [lifeStep] at h
    split at h <;> cases h
    rename_i hg
    exact .errorsClosed hg.1 hg.2.1 hg.2.2
  | closeSeesEnd =>
    simp only [lifeStep] at h
    split at h <;> cases h
    rename_i hg
    exact .closeSeesEnd hg.1 hg.2
  | closeForward =>
    simp only [lifeStep] at h
    split at h
    · split at h <;> cases h
      exact .closeForward ‹_› ‹_›
    · cases h
  | closeQ =>
    simp only [lifeStep] at h
    split at h <;> cases h
    exact .closeQ ‹_›
  | fwdSeesEnd =>
    simp only [lifeStep] at h
    split at h <;> cases h
    rename_i hg
    exact .fwdSeesEnd hg.1 hg.2
  | fwdQuit =>
    simp only [lifeStep] at h
    split at h <;> cases h
    rename_i hg
    exact .fwdQuit hg.1 hg.2
  | fwdForward =>
    simp only [lifeStep] at h
    split at h
    · split at h <;> cases h
      exact .fwdForward ‹_› ‹_›
    · cases h
  | fwdDrop =>
    simp only [lifeStep] at h
    split at h <;> cases h
    exact .fwdDrop ‹_›

theorem LStep.linv {cfg : Cfg} {rd : Reader} {lf lf' : Life} {ev : LEv} {out : Option (Option KMsg)}
    (hinv : LInv cfg lf) (h : LStep cfg rd lf ev lf' out) : LInv cfg lf' := by
  obtain ⟨ha, hb, hc, hd⟩ := hinv
  -- a message in flight: `p.errors` is still open
  have open_of : ∀ {m}, m ∈ lf.pending → lf.errClosed = true → False := fun hmem he => by
    rw [(hb he).1] at hmem; cases hmem
  cases h with
  | @deliver m p hmem =>
    refine ⟨fun x => ?_, fun he => (open_of hmem he).elim, hc, fun hh e he => ?_⟩
    · have h1 := ha x
      have h2 := count_move lf.pending m x hmem
      simp only [List.map_append, List.map_cons, List.map_nil, count_snoc]
      omega
    · rcases List.mem_append.mp he with he | he
      · exact hd hh e he
      · cases List.mem_singleton.mp he; simp [hh]
  | @failToFwd m hmem =>
    refine ⟨fun x => ?_, fun he => (open_of hmem he).elim, hc, hd⟩
    have h1 := ha x
    have h2 := count_move lf.pending m x hmem
    simp only [count_snoc]
    omega
  | @failToClose m hmem =>
    refine ⟨fun x => ?_, fun he => (open_of hmem he).elim, hc, hd⟩
    have h1 := ha x
    have h2 := count_move lf.pending m x hmem
    simp only [count_snoc]
    omega
  | errorsClosed hcl hp => exact ⟨ha, fun _ => ⟨hp, by rw [hcl]; exact CPc.noConfusion⟩, fun _ _ => rfl, hd⟩
  | closeSeesEnd _ he =>
    refine ⟨ha, fun he => ⟨(hb he).1, ?_⟩, fun _ _ => he, hd⟩
    dsimp only; split <;> exact CPc.noConfusion
  | closeForward hcl =>
    exact ⟨ha, fun he => ⟨(hb he).1, CPc.noConfusion⟩,
      fun _ _ => hc (by rw [hcl]; exact CPc.noConfusion) (by rw [hcl]; exact CPc.noConfusion), hd⟩
  | closeQ hg =>
    refine ⟨ha, fun he => ⟨(hb he).1, CPc.noConfusion⟩, fun _ _ => ?_, hd⟩
    rcases hg with hg | hg <;> exact hc (by rw [hg]; exact CPc.noConfusion) (by rw [hg]; exact CPc.noConfusion)
  | fwdSeesEnd | fwdQuit | fwdForward | fwdDrop => exact ⟨ha, hb, hc, hd⟩

private theorem toReader_lives (s : Sys) (out : Option (Option KMsg)) : (toReader s out).lives = s.lives := by
  cases out <;> rfl

private theorem lastLife_mem {s : Sys} {lf : Life} (h : lastLife s = some lf) : lf ∈ s.lives :=
  List.mem_of_getElem? h

theorem run_cons (cfg : Cfg) (s : Sys) (e : Ev) (sched : List Ev) :
    run cfg s (e :: sched) = run cfg ((step cfg s e).getD s) sched := by
  rw [run]
  cases step cfg s e <;> rfl

/-- what a step of the system does to one lifecycle (a Close that a `sync.Once` skips returns at once) -/
inductive LifeStep (cfg : Cfg) (topic : String) (lf : Life) : Life → Prop
  | send (k v : Bytes) : lf.close = .notCalled →
      LifeStep cfg topic lf { lf with input := lf.input ++ [⟨topic, k, v⟩], pending := lf.pending ++ [⟨topic, k, v⟩] }
  | closeSkipped : lf.close = .notCalled → cfg.onceClose = true → LifeStep cfg topic lf { lf with close := .returned }
  | closeCall : lf.close = .notCalled → LifeStep cfg topic lf { lf with close := .draining }
  | life {rd ev lf' out} : LStep cfg rd lf ev lf' out → LifeStep cfg topic lf lf'

theorem step_lives {cfg : Cfg} {s s' : Sys} {e : Ev} (h : step cfg s e = some s') :
    s'.topic = s.topic ∧
    ((s'.lives = s.lives ++ [({} : Life)] ∧ ∀ lf, lastLife s = some lf → lf.close = .returned) ∨
     (∃ l lf lf', s.lives[l]? = some lf ∧ LifeStep cfg s.topic lf lf' ∧ s'.lives = s.lives.set l lf') ∨
     s'.lives = s.lives) := by
  cases e with
  | init =>
    simp only [step] at h
    split at h
    · rename_i hl
      cases h
      exact ⟨rfl, .inl ⟨rfl, fun lf hlf => by rw [hl] at hlf; cases hlf⟩⟩
    · rename_i lf hl
      split at h <;> cases h
      exact ⟨rfl, .inl ⟨rfl, fun lf' hlf => by rw [hl] at hlf; cases hlf; assumption⟩⟩
  | send k v =>
    simp only [step] at h
    split at h
    · rename_i lf hl
      split at h <;> cases h
      exact ⟨rfl, .inr (.inl ⟨_, lf, _, hl, .send k v ‹_›, rfl⟩)⟩
    · cases h
  | closeCall =>
    simp only [step] at h
    split at h
    · rename_i lf hl
      split at h
      · split at h <;> cases h
        · exact ⟨rfl, .inr (.inl ⟨_, lf, _, hl, .closeSkipped ‹_› (by simp_all), rfl⟩)⟩
        · exact ⟨rfl, .inr (.inl ⟨_, lf, _, hl, .closeCall ‹_›, rfl⟩)⟩
      · cases h
    · cases h
  | life l ev =>
    simp only [step] at h
    split at h
    · rename_i lf hl
      split at h <;> cases h
      rename_i lf' out hls
      exact ⟨by cases out <;> rfl, .inr (.inl ⟨l, lf, lf', hl, .life (.of_lifeStep hls), toReader_lives _ out⟩)⟩
    · cases h
  | readerQuit =>
    simp only [step] at h
    split at h <;> cases h
    exact ⟨rfl, .inr (.inr rfl)⟩

theorem lives_inv {cfg : Cfg} {s s' : Sys} {e : Ev} {P : Life → Prop} (hnew : P {})
    (hstep : ∀ lf lf', P lf → LifeStep cfg s.topic lf lf' → P lf')
    (hinv : ∀ lf ∈ s.lives, P lf) (h : step cfg s e = some s') : ∀ lf ∈ s'.lives, P lf := by
  obtain ⟨_, ⟨hl, _⟩ | ⟨l, lf, lf', hget, hls, hl⟩ | hl⟩ := step_lives h <;> rw [hl]
  · intro x hx
    rcases List.mem_append.mp hx with hx | hx
    · exact hinv x hx
    · cases List.mem_singleton.mp hx; exact hnew
  · intro x hx
    rcases List.mem_or_eq_of_mem_set hx with hx | rfl
    · exact hinv x hx
    · exact hstep lf _ (hinv lf (List.mem_of_getElem? hget)) hls
  · exact hinv

theorem linv_new (cfg : Cfg) : LInv cfg {} := by
  refine ⟨fun m => by simp, fun h => by simp at h, fun h => by simp at h, fun _ e he => by simp at he⟩

theorem LifeStep.linv {cfg : Cfg} {topic : String} {lf lf' : Life} (honce : cfg.onceClose = false)
    (hinv : LInv cfg lf) (h : LifeStep cfg topic lf lf') : LInv cfg lf' := by
  obtain ⟨ha, hb, hc, hd⟩ := hinv
  cases h with
  | send k v hnc =>
    refine ⟨fun x => ?_, fun he => absurd hnc (hb he).2, fun hne => absurd hnc hne, hd⟩
    have := ha x
    simp only [count_snoc]; omega
  | closeSkipped _ ho => rw [honce] at ho; cases ho
  | closeCall hnc => exact ⟨ha, fun he => absurd hnc (hb he).2, fun _ hne => absurd rfl hne, hd⟩
  | life hls => exact hls.linv ⟨ha, hb, hc, hd⟩

theorem sinv_step (cfg : Cfg) (honce : cfg.onceClose = false) (s s' : Sys) (e : Ev)
    (hinv : SInv cfg s) (h : step cfg s e = some s') : SInv cfg s' :=
  lives_inv (linv_new cfg) (fun _ _ hl hs => hs.linv honce hl) hinv h

theorem sinv_run (cfg : Cfg) (honce : cfg.onceClose = false) (s : Sys) (sched : List Ev) (hinv : SInv cfg s) :
    SInv cfg (run cfg s sched) :=
  inv_run (fun _ => rfl) (run_cons cfg) (fun s e s' => sinv_step cfg honce s s' e) sched s hinv

theorem sinv_init (cfg : Cfg) (topic : String) : SInv cfg (initSys topic) :=
  fun _ h => (List.not_mem_nil h).elim

/-- Every lifecycle flushed: for every number of lifecycles and every interleaving of the application's calls, the
    brokers' acknowledgements and rejections, the forwarders, Close's steps and the reader: when the Close of
    lifecycle `l` has returned, every message handed to Send in lifecycle `l` has been delivered or reported,
    exactly once (with the hash partitioner, on its key's partition). Both for Go's Close and for the variant that
    forwards the collected errors; not for a `sync.Once`-guarded Close (`Findings.C20`). -/
theorem every_lifecycle_flushed (cfg : Cfg) (honce : cfg.onceClose = false) (topic : String) (sched : List Ev)
    (l : Nat) (lf : Life) (hl : (run cfg (initSys topic) sched).lives[l]? = some lf) (hret : lf.close = CPc.returned) :
    lf.pending = [] ∧ ContractF cfg.hashing cfg.parts lf.input (outcome lf) := by
  obtain ⟨ha, hb, hc, hd⟩ := sinv_run cfg honce _ sched (sinv_init cfg topic) lf (List.mem_of_getElem? hl)
  have herr : lf.errClosed = true := hc (by rw [hret]; simp) (by rw [hret]; simp)
  have hpend := (hb herr).1
  refine ⟨hpend, ?_, hd⟩
  rw [List.perm_iff_count]
  intro m
  have := ha m
  rw [hpend] at this
  simp only [outcome, List.count_append, List.count_nil] at this ⊢
  omega

/-- … and when the brokers rejected nothing in that lifecycle the outcome is the one of the fault-free
    `KafkaAdapter.Contract`: the operational producer of the transition system implements the contract -/
theorem lifecycle_outcome_contract (cfg : Cfg) (honce : cfg.onceClose = false) (topic : String) (sched : List Ev)
    (l : Nat) (lf : Life) (hl : (run cfg (initSys topic) sched).lives[l]? = some lf) (hret : lf.close = CPc.returned)
    (hnofault : lf.reported = []) :
    Contract cfg.hashing cfg.parts lf.input (outcome lf) := by
  obtain ⟨_, hperm, hh⟩ := every_lifecycle_flushed cfg honce topic sched l lf hl hret
  refine ⟨hnofault, ?_, hh⟩
  simpa [outcome, hnofault] using hperm

/-- every message handed to Send in any lifecycle carries the configured topic -/
theorem inputs_are_sends (cfg : Cfg) (topic : String) (sched : List Ev) (lf : Life)
    (hl : lf ∈ (run cfg (initSys topic) sched).lives) (m : KMsg) (hm : m ∈ lf.input) : m.topic = topic := by
  refine (inv_run (P := fun s => (∀ lf ∈ s.lives, ∀ m ∈ lf.input, m.topic = topic) ∧ s.topic = topic)
    (fun _ => rfl) (run_cons cfg) ?_ sched (initSys topic) ⟨fun _ h => (List.not_mem_nil h).elim, rfl⟩).1 lf hl m hm
  intro s e s' ⟨hs, ht⟩ h
  refine ⟨lives_inv (fun _ hm => (List.not_mem_nil hm).elim) (fun lf lf' hlf hls => ?_) hs h, (step_lives h).1.trans ht⟩
  cases hls with
  | send k v =>
    intro m hm
    rcases List.mem_append.mp hm with hm | hm
    · exact hlf m hm
    · cases List.mem_singleton.mp hm; exact ht
  | closeSkipped | closeCall => exact hlf
  | life hls => cases hls <;> exact hlf

def fwdW : FPc → Nat
  | .waiting => 2
  | .got (some _) => 3
  | .got none => 1
  | .exited => 0

def closeW : CPc → Nat
  | .notCalled => 3
  | .draining => 2
  | .flushed => 1
  | .forwarding errs => errs.length + 1
  | .returned => 0

/-- the work left in a lifecycle: messages in flight, the forwarder's remaining moves, the closing
    of `p.errors`, Close's remaining statements -/
def lifeM (lf : Life) : Nat :=
  2 * lf.pending.length + fwdW lf.fwd + (if lf.errClosed then 0 else 1) + closeW lf.close

def readerW : Reader → Nat
  | .reading => 1
  | .stopped => 0

def M (s : Sys) : Nat := (s.lives.map lifeM).sum + readerW s.reader

theorem LStep.decreases {cfg : Cfg} (hgo : cfg.blockingForward = false) {rd : Reader} {lf lf' : Life} {ev : LEv}
    {out : Option (Option KMsg)} (h : LStep cfg rd lf ev lf' out) : lifeM lf' < lifeM lf := by
  have herase : ∀ {m : KMsg}, m ∈ lf.pending → (lf.pending.erase m).length + 1 = lf.pending.length := by
    intro m hmem
    have := List.length_erase_of_mem hmem
    have hpos : 0 < lf.pending.length := List.length_pos_of_mem hmem
    omega
  cases h with
  | deliver hm => have := herase hm; simp only [lifeM]; omega
  | failToFwd hm hf => have := herase hm; simp only [lifeM, hf, fwdW]; omega
  | failToClose hm => have := herase hm; simp only [lifeM]; omega
  | errorsClosed _ _ he => simp [lifeM, he]
  | closeSeesEnd hcl => simp [lifeM, hcl, closeW, hgo]
  | closeForward hcl => simp [lifeM, hcl, closeW]
  | closeQ hg => rcases hg with hg | hg <;> simp [lifeM, hg, closeW]
  | fwdSeesEnd hf => simp [lifeM, hf, fwdW]
  | fwdQuit hf => simp [lifeM, hf, fwdW]
  | @fwdForward e hf => cases e <;> simp [lifeM, hf, fwdW, afterForward]
  | @fwdDrop e hf => cases e <;> simp [lifeM, hf, fwdW, afterForward]

private theorem readerW_toReader (s : Sys) (out : Option (Option KMsg)) : readerW (toReader s out).reader ≤ readerW s.reader := by
  cases out with
  | none => exact Nat.le_refl _
  | some e =>
    simp only [toReader]
    split
    · cases s.reader <;> simp [readerW]
    · exact Nat.le_refl _

def closing (s : Sys) : Prop := ∃ lf, lastLife s = some lf ∧ inClose lf = true

theorem step_decreases (cfg : Cfg) (hgo : cfg.blockingForward = false) (s s' : Sys) (e : Ev)
    (happ : ∀ k v, e ≠ Ev.init ∧ e ≠ Ev.send k v ∧ e ≠ Ev.closeCall) (h : step cfg s e = some s') : M s' < M s := by
  cases e with
  | init => exact absurd rfl (happ [] []).1
  | send k v => exact absurd rfl (happ k v).2.1
  | closeCall => exact absurd rfl (happ [] []).2.2
  | life l ev =>
    simp only [step] at h
    split at h
    · rename_i lf hl
      split at h
      · rename_i lf' out hls
        cases h
        have h1 := (LStep.of_lifeStep hls).decreases hgo
        have h2 := sum_map_set lifeM s.lives l lf lf' hl
        have h3 := readerW_toReader { s with lives := s.lives.set l lf' } out
        simp only [M, toReader_lives] at h3 ⊢
        omega
      · cases h
    · cases h
  | readerQuit =>
    simp only [step] at h
    split at h
    · rename_i hr
      cases h
      simp [M, hr, readerW]
    · cases h

theorem closing_no_app (cfg : Cfg) (s : Sys) (hc : closing s) (k v : Bytes) :
    step cfg s .init = none ∧ step cfg s (.send k v) = none ∧ step cfg s .closeCall = none := by
  obtain ⟨lf, hl, hin⟩ := hc
  have h1 : lf.close ≠ CPc.returned := by intro h; rw [inClose, h] at hin; cases hin
  have h2 : lf.close ≠ CPc.notCalled := by intro h; rw [inClose, h] at hin; cases hin
  simp [step, hl, h1, h2]

/-- whatever is scheduled while Go's `d.Close()` is in progress strictly decreases `M`: no interleaving keeps Close
    busy forever -/
theorem close_step_decreases (cfg : Cfg) (hgo : cfg.blockingForward = false) (s s' : Sys) (e : Ev)
    (hc : closing s) (h : step cfg s e = some s') : M s' < M s := by
  apply step_decreases cfg hgo s s' e _ h
  intro k v
  refine ⟨?_, ?_, ?_⟩ <;> intro he <;> subst he
  · rw [(closing_no_app cfg s hc [] []).1] at h; cases h
  · rw [(closing_no_app cfg s hc k v).2.1] at h; cases h
  · rw [(closing_no_app cfg s hc [] []).2.2] at h; cases h

/-- the steps that do not involve the reader are enabled or not independently of what the reader does -/
theorem reader_irrelevant (cfg : Cfg) (s : Sys) (r : Reader) (e : Ev) (he : usesReader e = false) :
    (step cfg { s with reader := r } e).isSome = (step cfg s e).isSome := by
  cases e with
  | init => simp only [step, lastLife]; split <;> (try split) <;> rfl
  | send k v => simp only [step, lastLife]; split <;> (try split) <;> rfl
  | closeCall => simp only [step, lastLife]; split <;> (try split) <;> (try split) <;> rfl
  | readerQuit => simp [usesReader] at he
  | life l ev =>
    have hls : ∀ lf, lifeStep cfg r lf ev = lifeStep cfg s.reader lf ev := by
      intro lf
      cases ev <;> first | rfl | simp [usesReader] at he
    simp only [step, hls]
    split
    · split <;> rfl
    · rfl

def NoFwd (s : Sys) : Prop := ∀ lf ∈ s.lives, ∀ errs, lf.close ≠ CPc.forwarding errs

theorem noFwd_step (cfg : Cfg) (hgo : cfg.blockingForward = false) (s s' : Sys) (e : Ev)
    (hinv : NoFwd s) (h : step cfg s e = some s') : NoFwd s' := by
  refine lives_inv (P := fun lf => ∀ errs, lf.close ≠ CPc.forwarding errs) (fun _ => CPc.noConfusion)
    (fun lf lf' hold hls => ?_) hinv h
  cases hls with
  | send => exact hold
  | closeSkipped | closeCall => exact fun _ => CPc.noConfusion
  | life hls =>
    cases hls with
    | closeSeesEnd => rw [hgo]; exact fun _ => CPc.noConfusion
    | closeForward hcl => exact absurd hcl (hold _)
    | closeQ => exact fun _ => CPc.noConfusion
    | _ => exact hold

theorem noFwd_run (cfg : Cfg) (hgo : cfg.blockingForward = false) (s : Sys) (sched : List Ev) (hinv : NoFwd s) :
    NoFwd (run cfg s sched) :=
  inv_run (fun _ => rfl) (run_cons cfg) (fun s e s' => noFwd_step cfg hgo s s' e) sched s hinv

/-- Close forwards nothing by a blocking send and is never blocked: in every reachable state in which `d.Close()` is
    in progress, a step of Close or of the producer it waits for is enabled that does not involve the reader of
    `Errors()`, and stays enabled whatever the reader does (reading, stopped after the nil end marker, gone). -/
theorem close_forwards_nonblocking (cfg : Cfg) (hgo : cfg.blockingForward = false) (topic : String) (sched : List Ev)
    (hc : closing (run cfg (initSys topic) sched)) :
    ∃ e, usesReader e = false ∧ (step cfg (run cfg (initSys topic) sched) e).isSome = true ∧
      ∀ r, (step cfg { run cfg (initSys topic) sched with reader := r } e).isSome = true := by
  have hnf := noFwd_run cfg hgo _ sched (by intro lf h; simp [initSys] at h : NoFwd (initSys topic))
  generalize run cfg (initSys topic) sched = s at *
  obtain ⟨lf, hl, hin⟩ := hc
  have hl' : s.lives[s.lives.length - 1]? = some lf := hl
  have key : ∃ ev, (lifeStep cfg s.reader lf ev).isSome = true ∧ usesReader (.life (s.lives.length - 1) ev) = false := by
    cases hcl : lf.close with
    | notCalled => rw [inClose, hcl] at hin; cases hin
    | returned => rw [inClose, hcl] at hin; cases hin
    | forwarding errs => exact absurd hcl (hnf lf (lastLife_mem hl) errs)
    | flushed => exact ⟨.closeQ, by simp [lifeStep, hcl], rfl⟩
    | draining =>
      cases hp : lf.pending with
      | cons m rest => exact ⟨.deliver m 0, by simp [lifeStep, hp], rfl⟩
      | nil =>
        cases he : lf.errClosed with
        | true => exact ⟨.closeSeesEnd, by simp [lifeStep, hcl, he], rfl⟩
        | false => exact ⟨.errorsClosed, by simp [lifeStep, hcl, hp, he], rfl⟩
  obtain ⟨ev, hev, hur⟩ := key
  have hstep : (step cfg s (.life (s.lives.length - 1) ev)).isSome = true := by
    simp only [step, hl']
    cases hls : lifeStep cfg s.reader lf ev with
    | none => rw [hls] at hev; cases hev
    | some x => rfl
  exact ⟨.life (s.lives.length - 1) ev, hur, hstep, fun r => by rw [reader_irrelevant cfg s r _ hur]; exact hstep⟩

/-- while Close drains, the broker is free to reject any message in flight: the error event is taken by Close's own
    range loop, no forwarder and no reader is needed -/
theorem draining_accepts_errors (cfg : Cfg) (rd : Reader) (lf : Life) (m : KMsg)
    (hd : lf.close = CPc.draining) (hm : m ∈ lf.pending) :
    (lifeStep cfg rd lf (.failToClose m)).isSome = true ∧ (lifeStep cfg rd lf (.deliver m 0)).isSome = true := by
  simp [lifeStep, hm, hd]

private theorem LifeStep.close {cfg : Cfg} {topic : String} {lf lf' : Life} (h : LifeStep cfg topic lf lf') :
    (inClose lf = true → inClose lf' = true ∨ lf'.close = CPc.returned) ∧
    (lf.close = CPc.returned → lf'.close = CPc.returned) := by
  -- the application thread's own calls need a Close that was not called yet
  have app : lf.close = CPc.notCalled → (inClose lf = true → inClose lf' = true ∨ lf'.close = CPc.returned) ∧
      (lf.close = CPc.returned → lf'.close = CPc.returned) := fun hnc =>
    ⟨fun hi => (by rw [inClose, hnc] at hi; cases hi), fun hr => (by rw [hnc] at hr; cases hr)⟩
  cases h with
  | send _ _ hnc => exact app hnc
  | closeSkipped hnc => exact app hnc
  | closeCall hnc => exact app hnc
  | life hls =>
    cases hls with
    | closeSeesEnd hcl => exact ⟨fun _ => .inl (by cases cfg.blockingForward <;> rfl), fun hr => by rw [hcl] at hr; cases hr⟩
    | closeForward hcl => exact ⟨fun _ => .inl rfl, fun hr => by rw [hcl] at hr; cases hr⟩
    | closeQ => exact ⟨fun _ => .inr rfl, fun _ => rfl⟩
    | _ => exact ⟨.inl, id⟩

private theorem returned_step (cfg : Cfg) (s s' : Sys) (e : Ev) (l : Nat) (h : step cfg s e = some s')
    (hr : ∃ lf, s.lives[l]? = some lf ∧ lf.close = CPc.returned) :
    ∃ lf, s'.lives[l]? = some lf ∧ lf.close = CPc.returned := by
  obtain ⟨lf, hl, hret⟩ := hr
  obtain ⟨_, ⟨hl', _⟩ | ⟨l', lf0, lf', hget, hls, hl'⟩ | hl'⟩ := step_lives h <;> rw [hl']
  · exact ⟨lf, by rw [List.getElem?_append_left (List.getElem?_eq_some_iff.mp hl).1]; exact hl, hret⟩
  · rw [getElem?_set_of_some lf' hget]
    by_cases hij : l' = l
    · subst hij
      rw [hl] at hget; cases hget
      exact ⟨lf', if_pos rfl, hls.close.2 hret⟩
    · rw [if_neg hij]; exact ⟨lf, hl, hret⟩
  · exact ⟨lf, hl, hret⟩

private theorem returned_run (cfg : Cfg) (s : Sys) (sched : List Ev) (l : Nat)
    (hr : ∃ lf, s.lives[l]? = some lf ∧ lf.close = CPc.returned) :
    ∃ lf, (run cfg s sched).lives[l]? = some lf ∧ lf.close = CPc.returned :=
  inv_run (fun _ => rfl) (run_cons cfg) (fun s e s' hP h => returned_step cfg s s' e l h hP) sched s hr

private theorem closingAt_closing (s : Sys) (l : Nat) (h : closingAt s l) : closing s := by
  obtain ⟨hlen, lf, hl, hin⟩ := h
  refine ⟨lf, ?_, hin⟩
  rw [lastLife, hlen]; exact hl

private theorem closingAt_step (cfg : Cfg) (s s' : Sys) (e : Ev) (l : Nat) (hc : closingAt s l)
    (h : step cfg s e = some s') :
    closingAt s' l ∨ ∃ lf, s'.lives[l]? = some lf ∧ lf.close = CPc.returned := by
  obtain ⟨lf1, hlast, _⟩ := closingAt_closing s l hc
  obtain ⟨hlen, lf, hl, hin⟩ := hc
  obtain ⟨_, ⟨_, hret⟩ | ⟨l', lf0, lf', hget, hls, hl'⟩ | hl'⟩ := step_lives h
  · -- a new lifecycle cannot be opened while the last Close is in progress
    have hlast' : lastLife s = some lf := by rw [lastLife, hlen]; exact hl
    rw [inClose, hret lf hlast'] at hin; cases hin
  · have hget' : s'.lives[l]? = if l' = l then some lf' else s.lives[l]? := by
      rw [hl']; exact getElem?_set_of_some lf' hget l
    have hlen' : s'.lives.length = l + 1 := by rw [hl', List.length_set]; exact hlen
    by_cases hij : l' = l
    · subst hij
      rw [hl] at hget; cases hget
      rw [if_pos rfl] at hget'
      rcases hls.close.1 hin with h1 | h1
      · exact .inl ⟨hlen', lf', hget', h1⟩
      · exact .inr ⟨lf', hget', h1⟩
    · rw [if_neg hij] at hget'
      exact .inl ⟨hlen', lf, hget'.trans hl, hin⟩
  · exact .inl ⟨hl' ▸ hlen, lf, hl' ▸ hl, hin⟩

/-- Close returns within `M` steps in every interleaving: from any state in which the Close of lifecycle `l` is in
    progress, under any schedule, as long as that Close has not returned the steps taken so far plus the work left
    are bounded by the work at the start. -/
theorem close_bounded (cfg : Cfg) (hgo : cfg.blockingForward = false) (s : Sys) (sched : List Ev) (l : Nat)
    (h0 : closingAt s l) (h1 : closingAt (run cfg s sched) l) :
    effSteps cfg s sched + M (run cfg s sched) ≤ M s := by
  induction sched generalizing s with
  | nil => simp [effSteps, run]
  | cons e rest ih =>
    simp only [run, effSteps] at h1 ⊢
    cases hs : step cfg s e with
    | none =>
      simp only [hs] at h1 ⊢
      exact ih s h0 h1
    | some s' =>
      simp only [hs] at h1 ⊢
      have hdec := close_step_decreases cfg hgo s s' e (closingAt_closing s l h0) hs
      rcases closingAt_step cfg s s' e l h0 hs with hc | hr
      · have := ih s' hc h1
        omega
      · exfalso
        obtain ⟨lf, hl, hret⟩ := returned_run cfg s' rest l hr
        obtain ⟨_, lf2, hl2, hin⟩ := h1
        rw [hl] at hl2; cases hl2
        rw [inClose, hret] at hin; cases hin

/-- … so a schedule with more than `M s` effective steps cannot leave that Close in progress -/
theorem close_returns_within (cfg : Cfg) (hgo : cfg.blockingForward = false) (s : Sys) (sched : List Ev) (l : Nat)
    (h0 : closingAt s l) (hlong : M s < effSteps cfg s sched) : ¬ closingAt (run cfg s sched) l := by
  intro h1
  have := close_bounded cfg hgo s sched l h0 h1
  omega

private def ma : KMsg := ⟨"t", [1], [10]⟩
private def mb : KMsg := ⟨"t", [2], [20]⟩
private def mc : KMsg := ⟨"t", [3], [30]⟩

/-- two lifecycles on Go's driver. Lifecycle 1: one message acknowledged, one rejected during the final
    flush (Close's range loop takes the event); the forwarder hands the nil end marker to the reader, which
    stops. Lifecycle 2: the message is rejected, its forwarder takes the event and — the reader is gone —
    drops it (`default:`); Close returns all the same. -/
private def twoLifecycles : List Ev :=
  [.init, .send [1] [10], .send [2] [20], .closeCall, .life 0 (.deliver ma 0), .life 0 (.failToClose mb), .life 0 .errorsClosed,
   .life 0 .fwdSeesEnd, .life 0 .fwdForward, .life 0 .closeSeesEnd, .life 0 .closeQ,
   .init, .send [3] [30], .closeCall, .life 1 (.failToFwd mc), .life 1 .fwdForward, .life 1 .fwdDrop, .life 1 .errorsClosed,
   .life 1 .closeSeesEnd, .life 1 .closeQ, .life 1 .fwdQuit]

example :
    let s := run (goCfg false 1) (initSys "t") twoLifecycles
    (s.lives.map (·.close)) = [CPc.returned, CPc.returned] ∧
    (s.lives.map (·.input)) = [[ma, mb], [mc]] ∧
    (s.lives.map (·.delivered)) = [[(ma, 0)], []] ∧
    (s.lives.map (·.reported)) = [[mb], [mc]] ∧
    (s.lives.map (·.pending)) = [[], []] ∧
    s.reader = Reader.stopped ∧ s.readerGot = [none] ∧
    effSteps (goCfg false 1) (initSys "t") twoLifecycles = 20 := by decide

/-- the hypotheses of `close_forwards_nonblocking` / `close_bounded` are satisfiable: Close in progress with two
    messages in flight and a reader that has already gone -/
example :
    let s := run (goCfg false 1) (initSys "t") [.init, .send [1] [10], .send [2] [20], .readerQuit, .closeCall]
    closingAt s 0 ∧ closing s ∧ M s = 9 := by
  intro s
  refine ⟨⟨by decide, ⟨[ma, mb], [ma, mb], [], [], [], false, false, .waiting, .draining⟩, by decide, by decide⟩,
    ⟨⟨[ma, mb], [ma, mb], [], [], [], false, false, .waiting, .draining⟩, by decide, by decide⟩, by decide⟩

/-- the hypothesis of `lifecycle_outcome_contract` (no rejection) is satisfiable, with hashing -/
example :
    let s := run (goCfg true 4) (initSys "t")
      [.init, .send [1] [10], .closeCall, .life 0 (.deliver ma 7), .life 0 .errorsClosed, .life 0 .closeSeesEnd, .life 0 .closeQ]
    (s.lives.map (·.close)) = [CPc.returned] ∧ (s.lives.map (·.reported)) = [[]] ∧
    (s.lives.map (·.delivered)) = [[(ma, hashPartition [1] 4)]] := by decide

/-- the contract hypothesis of `every_lifecycle_flushed_contract` is satisfiable for every driver state -/
example (d : Driver) :
    ∃ o : Nat → Outcome, ∀ (i : Nat) (p : St), (producers d)[i]? = some p → p.closed = true → ContractF false 1 p.input (o i) := by
  refine ⟨fun i => match (producers d)[i]? with
    | some p => ⟨p.input.map (fun m => (m, 0)), []⟩
    | none => ⟨[], []⟩, ?_⟩
  intro i p hp _
  simp only [hp]
  refine ⟨?_, fun h => by cases h⟩
  simp [Function.comp_def]

end Goflow.C20Faults
