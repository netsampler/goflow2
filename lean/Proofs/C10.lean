import Goflow.Spec.Frame
import Goflow.Producer.Packet
import Goflow.Generated.Parsers
/-!
  C10 — Sampled packet headers are dissected correctly at any capture length.

  Here: the ties of the model to producer_packet.go (the parser table, the length guards), and the rules of the
  ParsePacket loop stated parser by parser — the encapsulation flag along a chain of parsers, tunnelled layers
  leaving the outer columns alone, ICMP ending the chain, the sizes of the fixed headers. What the dissector
  reports on a whole frame is in Proofs/C10Parsers.lean … C10Full.lean, on a truncated one in C10Trunc.lean.
-/
namespace Goflow.C10
open Goflow Goflow.Producer

/-- the Go variable holding each parser's ParserInfo literal -/
def goVar : Parser → String
  | .none => "parserNone" | .ethernet => "parserEthernet" | .dot1q => "parser8021Q" | .mpls => "parserMPLS"
  | .ipv4 => "parserIPv4" | .ipv6 => "parserIPv6" | .ipv6route => "parserIPv6HeaderRouting"
  | .ipv6frag => "parserIPv6HeaderFragment" | .tcp => "parserTCP" | .udp => "parserUDP" | .icmp => "parserICMP"
  | .icmpv6 => "parserICMPv6" | .gre => "parserGRE" | .teredo => "parserTeredoDst" | .geneve => "parserGeneve"

/-- The parser table of the model is the one of producer_packet.go (regenerated on every run):
    names, configuration keys, layer indices, parser indices and EncapSkip flags; the ethertype and
    IP-protocol dispatch; the order of the bookkeeping statements of the ParsePacket loop. -/
theorem parser_table_matches :
    (Parser.none :: allParsers).map (fun p => (goVar p, p.name, p.keys, p.layerIndex, p.parserIndex, p.encapSkip)) =
      Goflow.Generated.parserInfos.filter (fun e => e.1 != "parserPayload") ∧
    Goflow.Generated.etypeDispatch.all (fun e =>
      (if e.2 = "none" then "parserNone" else e.2) == goVar (nextParserEtype (e.1 / 256) (e.1 % 256)).parser) = true ∧
    Goflow.Generated.protoDispatch.all (fun e =>
      (if e.2 = "none" then "parserNone" else e.2) == goVar (nextParserProto e.1).parser) = true ∧
    Goflow.Generated.parsePacketLoopCond = "nextParser.Parser != nil && len(data) >= offset" ∧
    Goflow.Generated.parsePacketLoopBody =
      ["parseConfig.Calls = calls[nextParser.ParserIndex]",
       "parseConfig.LayerCall = callsLayer[nextParser.LayerIndex]",
       "layersBefore := len(flowMessage.GetFlowMessage().LayerStack)",
       "res, err := nextParser.Parser(flowMessage.GetFlowMessage(), data[offset:], parseConfig)",
       "parseConfig.Layer += 1",
       "if err != nil { return err }",
       "recognised := len(flowMessage.GetFlowMessage().LayerStack) > layersBefore",
       "for-range: custom mapping over nextParser.ConfigKeyList if config != nil && recognised",
       "fm := flowMessage.GetFlowMessage()",
       "if recognised { fm.LayerSize = append(fm.LayerSize, uint32(res.Size)) }",
       "if !nextParser.EncapSkip { encapIndex = nextParser.LayerIndex }",
       "if res.NextParser.LayerIndex < encapIndex || (!res.NextParser.EncapSkip && res.NextParser.LayerIndex == encapIndex) { parseConfig.Encapsulated = true }",
       "calls[nextParser.ParserIndex] += 1",
       "callsLayer[nextParser.LayerIndex] += 1",
       "nextParser = res.NextParser",
       "offset += res.Size"] :=
  ⟨rfl, rfl, rfl, rfl, rfl⟩

/-- every constant index or slice bound a parser applies to `data` lies below its own length guard
    (regenerated from the source: removing or weakening a guard breaks this) -/
theorem guards_cover_indices :
    Goflow.Generated.parserGuards.all (fun e => e.2.2 ≤ e.2.1) = true ∧
    Goflow.Generated.parserGuards.map (fun e => (e.1, e.2.1)) =
      [("ParseEthernet", 14), ("Parse8021Q", 4), ("ParseMPLS", 4), ("ParseIPv4", 20), ("ParseIPv6", 40),
       ("ParseIPv6HeaderFragment", 8), ("ParseIPv6HeaderRouting", 8), ("ParseTCP", 20), ("ParseUDP", 8),
       ("ParseGRE", 4), ("ParseTeredoDst", 0), ("ParseGeneve", 8), ("ParseICMP", 2), ("ParseICMPv6", 2)] :=
  ⟨rfl, rfl⟩

/-- the columns of the message other than the layer stack (which every parser extends) -/
def sameBase (a b : FlowMsg) : Prop := { a with layerStack := [] } = { b with layerStack := [] }

/-- Once `Encapsulated` is set, no parser except the ICMP ones touches any column: fields of tunnelled
    inner headers (GRE, IP-in-IP, a second Ethernet) never overwrite those of the outer headers. -/
theorem encap_preserves_outer (p : Parser) (m : FlowMsg) (d : Bytes) (pc : PC)
    (henc : pc.encapsulated = true) (hp : p ≠ .icmp ∧ p ≠ .icmpv6) :
    sameBase (runParser p m d pc).msg m := by
  obtain ⟨h1, h2⟩ := hp
  have hnot : (!pc.encapsulated) = false := by rw [henc]; rfl
  cases p <;> simp only [runParser]
  case none => exact rfl
  case ethernet => unfold parseEthernet; split; exact rfl; simp only [hnot, Bool.false_eq_true, if_false]; exact rfl
  case dot1q => unfold parse8021Q; split; exact rfl; simp only [hnot, Bool.false_eq_true, if_false]; exact rfl
  case mpls =>
    unfold parseMPLS; split; exact rfl
    simp only [hnot, Bool.false_eq_true, if_false]
    split <;> exact rfl
  case ipv4 => unfold parseIPv4; split; exact rfl; simp only [hnot, Bool.false_eq_true, if_false]; exact rfl
  case ipv6 => unfold parseIPv6; split; exact rfl; simp only [hnot, Bool.false_eq_true, if_false]; exact rfl
  case ipv6route =>
    unfold parseIPv6HeaderRouting; split; exact rfl; simp only [hnot, Bool.false_eq_true, if_false]; exact rfl
  case ipv6frag =>
    unfold parseIPv6HeaderFragment; split; exact rfl; simp only [hnot, Bool.false_eq_true, if_false]; exact rfl
  case tcp => unfold parseTCP; split; exact rfl; simp only [hnot, Bool.false_eq_true, if_false]; exact rfl
  case udp => unfold parseUDP; split; exact rfl; simp only [hnot, Bool.false_eq_true, if_false]; exact rfl
  case icmp => exact absurd rfl h1
  case icmpv6 => exact absurd rfl h2
  case gre => unfold parseGRE; split <;> exact rfl
  case teredo => exact rfl
  case geneve => unfold parseGeneve; split <;> exact rfl

/-- ICMP parsers end the chain: no parser runs after them, so an ICMP header can only be the last
    layer and a second one cannot follow -/
theorem icmp_terminal (m : FlowMsg) (d : Bytes) (pc : PC) :
    (parseICMP m d pc).next.callable = false ∧ (parseICMPv6 m d pc).next.callable = false := by
  constructor
  · unfold parseICMP; split <;> simp [tooShort, Next.none, Next.callable]
  · unfold parseICMPv6; split <;> simp [tooShort, Next.none, Next.callable]

/-- ICMP type / code come from the first ICMP layer only -/
theorem icmp_first_only (m : FlowMsg) (d : Bytes) (pc : PC) (h : pc.calls ≠ 0) :
    (parseICMP m d pc).msg.icmpType = m.icmpType ∧ (parseICMP m d pc).msg.icmpCode = m.icmpCode := by
  unfold parseICMP; split <;> simp [tooShort, addLayer, h]

/-- the encapsulation flag each layer of a chain of parsers is parsed with (the chain starts at Ethernet,
    as ParsePacket does) -/
def chainFlags : Nat → Bool → List Parser → List Bool
  | _, _, [] => []
  | _, e, [_] => [e]
  | idx, e, cur :: nxt :: rest =>
    let idx' := encapIdx idx cur.encapSkip cur.layerIndex
    e :: chainFlags idx' (e || encapTrig idx' nxt.encapSkip nxt.layerIndex) (nxt :: rest)

def flagsOf (chain : List Parser) : List Bool := chainFlags Parser.ethernet.layerIndex false chain

/-- which layers are encapsulated, on the chains the frame grammar produces and a few beyond it: plain stacks
    never are (also with both IPv6 extension headers in either order); everything behind GRE is, including an
    MPLS stack between GRE and the inner IP header (the defect repaired by the `fix:` commit — the rule
    before it compared the inner IP header with the MPLS layer and left it un-encapsulated); the inner header of
    IP-in-IP is, also behind a fragment header; Geneve / a second Ethernet header are -/
theorem encap_rule :
    flagsOf [.ethernet, .dot1q, .dot1q, .mpls, .ipv4, .tcp] = [false, false, false, false, false, false] ∧
    flagsOf [.ethernet, .ipv6, .ipv6frag, .ipv6route, .tcp] = [false, false, false, false, false] ∧
    flagsOf [.ethernet, .ipv6, .ipv6route, .ipv6frag, .udp] = [false, false, false, false, false] ∧
    flagsOf [.ethernet, .ipv4, .gre, .ipv4, .tcp] = [false, false, false, true, true] ∧
    flagsOf [.ethernet, .ipv4, .gre, .mpls, .ipv4, .tcp] = [false, false, false, true, true, true] ∧
    flagsOf [.ethernet, .mpls, .ipv6, .gre, .mpls, .ipv4, .udp] = [false, false, false, false, true, true, true] ∧
    flagsOf [.ethernet, .ipv4, .gre, .ethernet, .dot1q, .ipv6, .icmpv6] = [false, false, false, true, true, true, true] ∧
    flagsOf [.ethernet, .ipv4, .ipv6, .tcp] = [false, false, true, true] ∧
    flagsOf [.ethernet, .ipv6, .ipv6frag, .ipv4, .tcp] = [false, false, false, true, true] ∧
    flagsOf [.ethernet, .ipv6, .ipv6route, .ipv6, .tcp] = [false, false, false, true, true] ∧
    flagsOf [.ethernet, .ipv4, .udp, .geneve, .ethernet, .ipv4] = [false, false, false, true, true, true] := by
  decide

/-- the flag is monotone along a chain: once a layer is encapsulated, all later ones are -/
theorem encap_monotone (idx : Nat) (chain : List Parser) : ∀ b ∈ chainFlags idx true chain, b = true := by
  induction chain generalizing idx with
  | nil => intro b hb; cases hb
  | cons cur rest ih =>
    cases rest with
    | nil => intro b hb; simpa [chainFlags] using hb
    | cons nxt rest' =>
      intro b hb
      simp only [chainFlags, Bool.true_or, List.mem_cons] at hb
      rcases hb with h | h
      · exact h
      · exact ih _ b h

/-- layer sizes of the fixed-size headers; TCP reports its data offset -/
theorem layer_sizes (m : FlowMsg) (d : Bytes) (pc : PC) :
    (14 ≤ d.length → (parseEthernet m d pc).size = 14) ∧ (4 ≤ d.length → (parse8021Q m d pc).size = 4) ∧
    (20 ≤ d.length → (parseIPv4 m d pc).size = 20) ∧ (40 ≤ d.length → (parseIPv6 m d pc).size = 40) ∧
    (8 ≤ d.length → (parseUDP m d pc).size = 8) ∧ (8 ≤ d.length → (parseIPv6HeaderFragment m d pc).size = 8) ∧
    (20 ≤ d.length → (parseTCP m d pc).size = max 20 (4 * ((d.getD 12 0).toNat / 16))) := by
  refine ⟨?_, ?_, ?_, ?_, ?_, ?_, ?_⟩ <;> intro h
  · unfold parseEthernet; simp [Nat.not_lt.mpr h]
  · unfold parse8021Q; simp [Nat.not_lt.mpr h]
  · unfold parseIPv4; simp [Nat.not_lt.mpr h]
  · unfold parseIPv6; simp [Nat.not_lt.mpr h]
  · unfold parseUDP; simp [Nat.not_lt.mpr h]
  · unfold parseIPv6HeaderFragment; simp [Nat.not_lt.mpr h]
  · unfold parseTCP; simp [Nat.not_lt.mpr h, u8, Nat.mul_comm]

end Goflow.C10
