import Goflow.Generated.NetflowDecT
import Goflow.Decoders.Netflow
import Proofs.Lemmas.GoPrims
import Proofs.Lemmas.Netflow
import Proofs.C03Trans
/-!
  C03 (translation tie, second part) — the NetFlow v9 / IPFIX wire decoder. The template-set and data-set decoders of
  decoders/netflow/netflow.go are regenerated into Lean on every run (Goflow/Generated/NetflowDecT.lean) and proved equal
  to the hand-written model of Goflow/Decoders/Netflow.lean, for EVERY byte string (and every template): one `_trans_eq`
  theorem for each of DecodeField, DecodeTemplateSet, DecodeNFv9OptionsTemplateSet, DecodeIPFIXOptionsTemplateSet,
  DecodeDataSetUsingFields, DecodeDataSet and DecodeOptionsDataSet against the model's function of the same name.
  Each says: the same records (through the explicit maps `fieldOf`, `tplOf`, … from the generated typed structs to the
  model's), or the same error class; the translated body never panics (no store out of range into the `make`d slices)
  and its loops end within their fuel.
-/
set_option linter.unusedSimpArgs false
set_option linter.unusedVariables false
namespace Goflow.C03Trans2
open Goflow Goflow.Producer Goflow.Generated Goflow.Go Goflow.Netflow
open Goflow.C03Trans (fieldOf)

theorem and_32768 (x : Nat) : x &&& 32768 = 32768 * (x / 32768 % 2) := by
  have h1 : (x &&& 32768) / 2^15 = x / 2^15 &&& 32768 / 2^15 := Nat.and_div_two_pow
  have h2 : (x &&& 32768) % 2^15 = x % 2^15 &&& 32768 % 2^15 := Nat.and_mod_two_pow
  have e1 : (32768 : Nat) / 2 ^ 15 = 2 ^ 1 - 1 := by decide
  have e2 : (32768 : Nat) % 2 ^ 15 = 0 := by decide
  rw [e1, Nat.and_two_pow_sub_one_eq_mod] at h1
  rw [e2, Nat.and_zero] at h2
  have e3 : (2 : Nat) ^ 15 = 32768 := by decide
  rw [e3] at h1 h2
  omega

theorem xor_32768 (x : Nat) (h1 : 32768 ≤ x) (h2 : x < 65536) : x ^^^ 32768 = x - 32768 := by
  apply Nat.eq_of_testBit_eq
  intro i
  rw [Nat.testBit_xor]
  have e : (32768 : Nat) = 2 ^ 15 := rfl
  obtain ⟨y, rfl⟩ : ∃ y, x = 2 ^ 15 + y := ⟨x - 32768, by omega⟩
  have hy : y < 2 ^ 15 := by omega
  rw [e, Nat.add_sub_cancel_left, Nat.testBit_two_pow]
  by_cases hi : i = 15
  · subst hi
    rw [Nat.testBit_two_pow_add_eq, Nat.testBit_lt_two_pow hy]
    simp
  · by_cases hlt : i < 15
    · rw [Nat.testBit_two_pow_add_gt hlt]
      simp [Ne.symm hi]
    · have hgt : 15 < i := by omega
      have hb : 2 ^ 15 + y < 2 ^ i := by
        have : 2 ^ 16 ≤ 2 ^ i := Nat.pow_le_pow_right (by decide) hgt
        omega
      have hb' : y < 2 ^ i := by omega
      rw [Nat.testBit_lt_two_pow hb, Nat.testBit_lt_two_pow hb']
      simp [Ne.symm hi]

/-- `t & 0x8000 != 0` is `t ≥ 0x8000` -/
theorem ent_iff (t : UInt16) : (t &&& 32768 ≠ 0) ↔ 0x8000 ≤ t.toNat := by
  rw [Ne, ← UInt16.toNat_inj, UInt16.toNat_and]
  have h : t.toNat < 65536 := t.toNat_lt
  show ¬ (t.toNat &&& 32768 = 0) ↔ _
  rw [and_32768]
  omega

/-- `t ^ 0x8000` clears the bit when it is set -/
theorem ent_xor (t : UInt16) (h : 0x8000 ≤ t.toNat) : (t ^^^ 32768).toNat = t.toNat - 0x8000 := by
  rw [UInt16.toNat_xor]
  exact xor_32768 _ h t.toNat_lt

theorem readFields_22 {b : Bytes} (h : 4 ≤ b.length) :
    readFields [2, 2] b = .ok ([beNat (b.take 2), beNat ((b.drop 2).take 2)], b.drop 4) := by
  simp (disch := (first | omega | (simp only [List.length_drop]; omega))) only [readFields, readU_ok, List.drop_drop]

theorem readFields_22_short {b : Bytes} (h : b.length < 4) : readFields [2, 2] b = .error .eof :=
  readFields_err_of_lt _ _ (by simpa [sumW] using h)

/-- the two 16-bit words at the front of a field specifier -/
def tyAt (b : Bytes) : UInt16 := UInt16.ofNat (beNat (b.take 2))
def lenAt (b : Bytes) : UInt16 := UInt16.ofNat (beNat ((b.drop 2).take 2))

theorem tyAt_drop2 (b : Bytes) : tyAt (b.drop 2) = lenAt b := rfl

theorem decodeField_eq (pen : Bool) (b : Bytes) :
    decodeField pen b = thenR (readFields [2, 2] b) fun vs b1 =>
      match vs with
      | [t, l] =>
        if pen ∧ t ≥ 0x8000 then thenR (readU 4 b1) fun p b2 => .ok (⟨true, t - 0x8000, l, p⟩, b2)
        else .ok (⟨false, t, l, 0⟩, b1)
      | _ => .error .panic := by
  fun_cases decodeField pen b
  all_goals simp only [thenR, *, and_self, if_true, if_false]

/-- netflow.DecodeField on a zeroed field (every caller passes `Field{}`): the model's field specifier and the bytes that
    remain, or the EOF class -/
theorem decodeField_trans_eq (b : Bytes) (pen : Bool) :
    (TD.DecodeField b {} pen).map (fun r => (fieldOf r.2, r.1)) = decodeField pen b := by
  rw [decodeField_eq]
  unfold TD.DecodeField
  simp only [thenR_readFields_cons, thenR_readFields_nil]
  apply readU16_sim; intro t b0
  apply readU16_sim; intro l b1
  apply cond_sim _ (by simp only [Bool.and_eq_true, decide_eq_true_eq, ent_iff])
  · intro h
    apply readU32_sim; intro p b2
    simp only [Except.map, fieldOf, ent_xor t h.2]
  · intro _; rfl

theorem decodeField_progress {pen : Bool} {p p1 : Bytes} {f : Netflow.Field} (h : decodeField pen p = .ok (f, p1)) :
    p1.length + 4 ≤ p.length := by
  unfold decodeField at h
  by_cases h4 : 4 ≤ p.length
  · rw [readFields_22 h4] at h
    simp only at h
    split at h
    · by_cases h8 : 4 ≤ (p.drop 4).length
      · rw [readU_ok h8] at h
        simp only [Except.ok.injEq, Prod.mk.injEq] at h
        rw [← h.2]
        simp only [List.length_drop]
        omega
      · rw [readU_short (Nat.lt_of_not_le h8)] at h
        cases h
    · simp only [Except.ok.injEq, Prod.mk.injEq] at h
      rw [← h.2]
      simp only [List.length_drop]
      omega
  · rw [readFields_22_short (Nat.lt_of_not_le h4)] at h
    cases h

theorem decodeField_simP {β γ : Type} (P : Res β → Res γ) (hP : ∀ e, P (.error e) = .error e) (pen : Bool) (p : Bytes)
    (f : Bytes × TD.Field → Res β) (k : Netflow.Field → Bytes → Res γ)
    (h : ∀ r b', b'.length + 4 ≤ p.length → P (f (b', r)) = k (fieldOf r) b') :
    P (TD.DecodeField p {} pen >>= f) = thenR (decodeField pen p) k :=
  map_sim P hP (decodeField_trans_eq p pen) f k fun r hr => h _ _ (decodeField_progress hr)

theorem thenR_decodeFieldsN_succ {γ : Type} (pen : Bool) (n : Nat) (p : Bytes) (k : List Netflow.Field → Bytes → Res γ) :
    thenR (decodeFieldsN pen (n + 1) p) k =
      thenR (decodeField pen p) fun f b1 => thenR (decodeFieldsN pen n b1) fun fs => k (f :: fs) := by
  rw [decodeFieldsN]
  cases decodeField pen p with
  | error e => rfl
  | ok r =>
    obtain ⟨f, b1⟩ := r
    simp only [thenR]
    cases decodeFieldsN pen n b1 <;> rfl

/-- the shape shared by the generated field loops (`for i := 0; i < n; i++ { field := Field{}; DecodeField(payload, &field,
    pen); fields[i] = field }`): they store the model's `decodeFieldsN pen (n - i)` from index `i` on, never out of range,
    and end within `len + 1` iterations. The index is a Go `int` in one decoder and a `uint16` count in the others: `c`
    embeds the natural numbers into whichever it is. `P` is what the function does with the loop's result. -/
theorem fieldLoopG_sim {ι γ : Type} (c : Nat → ι) (lt : ι → Bool) (set : List TD.Field → ι → TD.Field → Res (List TD.Field))
    (succ : ι → ι) (pen : Bool) (n : Nat) (hlt : ∀ i, lt (c i) = decide (i < n))
    (hset : ∀ l i v, set l (c i) v = Go.setIdxL l i v) (hsucc : ∀ i, succ (c i) = c (i + 1))
    (L : Nat → Bytes → Go.Error → List TD.Field → ι → Res (Bytes × Go.Error × List TD.Field × ι))
    (hs : ∀ fuel p e fs i, L (fuel + 1) p e fs i =
      if lt i = true then
        TD.DecodeField p {} pen >>= fun t => set fs i t.2 >>= fun fs' => L fuel t.1 e fs' (succ i)
      else .ok (p, e, fs, i))
    (P : Res (Bytes × Go.Error × List TD.Field × ι) → Res γ) (hP : ∀ e, P (.error e) = .error e) (e : Go.Error) :
    ∀ (fuel : Nat) (p : Bytes) (fs : List TD.Field) (i : Nat) (k : List Netflow.Field → Bytes → Res γ),
      fs.length = n → i ≤ n → p.length < fuel →
      (∀ gs p', p'.length ≤ p.length → P (.ok (p', e, fs.take i ++ gs, c n)) = k (gs.map fieldOf) p') →
      P (L fuel p e fs (c i)) = thenR (decodeFieldsN pen (n - i) p) k := by
  intro fuel
  induction fuel with
  | zero => intro p fs i k _ _ h; omega
  | succ fuel ih =>
    intro p fs i k hlen hi hf hk
    rw [hs, hlt]
    by_cases hlt' : i < n
    · obtain ⟨m, hm⟩ : ∃ m, n - i = m + 1 := ⟨n - i - 1, by omega⟩
      have hm' : n - (i + 1) = m := by omega
      rw [hm, thenR_decodeFieldsN_succ, if_pos (decide_eq_true hlt')]
      apply decodeField_simP P hP; intro r b' hb'
      simp only [hset, hsucc, Go.setIdxL, hlen, hlt', if_true, ok_bind]
      rw [← hm']
      apply ih b' (fs.set i r) (i + 1) _ (by simp [hlen]) hlt' (by omega)
      intro gs p' hp'
      rw [take_set_succ _ _ _ (by omega : i < fs.length), List.append_assoc]
      exact hk (r :: gs) p' (by omega)
    · have : i = n := by omega
      subst this
      have := hk [] p (Nat.le_refl _)
      rw [List.append_nil, take_self hlen] at this
      rw [if_neg (by simpa using hlt'), Nat.sub_self]
      exact this

theorem fieldLoop_sim {γ : Type} (pen : Bool) (n : Nat)
    (L : Nat → Bytes → Go.Error → List TD.Field → Nat → Res (Bytes × Go.Error × List TD.Field × Nat))
    (hs : ∀ fuel p e fs i, L (fuel + 1) p e fs i =
      if decide (i < n) = true then
        TD.DecodeField p {} pen >>= fun t => Go.setIdxL fs i t.2 >>= fun fs' => L fuel t.1 e fs' (i + 1)
      else .ok (p, e, fs, i))
    (P : Res (Bytes × Go.Error × List TD.Field × Nat) → Res γ) (hP : ∀ e, P (.error e) = .error e) (e : Go.Error)
    (p : Bytes) (k : List Netflow.Field → Bytes → Res γ)
    (hk : ∀ gs p', p'.length ≤ p.length → P (.ok (p', e, gs, n)) = k (gs.map fieldOf) p') :
    P (L (Go.loopFuel p) p e (List.replicate n {}) 0) = thenR (decodeFieldsN pen n p) k :=
  fieldLoopG_sim id (fun i => decide (i < n)) Go.setIdxL (· + 1) pen n (fun _ => rfl) (fun _ _ _ => rfl) (fun _ => rfl) L hs
    P hP e _ p _ 0 k List.length_replicate (Nat.zero_le _) (Nat.lt_succ_self _) hk

def tplOf (r : TD.TemplateRecord) : Netflow.TemplateRecord := ⟨r.TemplateId.toNat, r.FieldCount.toNat, r.Fields.map fieldOf⟩

/-- the field loop of DecodeTemplateSet repeats the body of DecodeField inline (with `version == 10` for `pen`) -/
theorem templateLoop2_step (version : UInt16) (records : List TD.TemplateRecord) (tr : TD.TemplateRecord)
    (fuel : Nat) (p : Bytes) (e : Go.Error) (fs : List TD.Field) (i : Nat) :
    TD.DecodeTemplateSet_loop2 version records tr (fuel + 1) p e fs i =
      if decide (i < tr.FieldCount.toNat) = true then
        TD.DecodeField p {} (decide (version = 10)) >>= fun t => Go.setIdxL fs i t.2 >>= fun fs' =>
          TD.DecodeTemplateSet_loop2 version records tr fuel t.1 e fs' (i + 1)
      else .ok (p, e, fs, i) := by
  rw [TD.DecodeTemplateSet_loop2]
  unfold TD.DecodeField
  split
  · simp only [bind_assoc]
    refine bind_congr fun x => bind_congr fun y => ?_
    split <;> simp only [*, if_true, if_false, bind_assoc, ok_bind]
  · rfl

theorem u16_eq_10 (v : UInt16) : (v.toNat = 10) ↔ v = 10 := by
  rw [← UInt16.toNat_inj]; rfl

/-- the model's two field loops agree: DecodeTemplateSet's inline loop is `decodeFieldsN` with `pen := version == 10` -/
theorem decodeTemplateFields_eq (v : UInt16) (n : Nat) (b : Bytes) :
    decodeTemplateFields v.toNat n b = decodeFieldsN (decide (v = 10)) n b := by
  induction n generalizing b with
  | zero => rfl
  | succ n ih =>
    rw [decodeFieldsN, decodeTemplateFields, decodeField]
    by_cases h4 : 4 ≤ b.length
    · rw [readFields_22 h4]
      simp only [ih, u16_eq_10, decide_eq_true_eq]
      split
      · cases readU 4 (b.drop 4) with
        | error er => rfl
        | ok r => rfl
      · rfl
    · rw [readFields_22_short (Nat.lt_of_not_le h4)]

theorem decodeTemplateSet_succ (v m : Nat) (b : Bytes) :
    decodeTemplateSet v (m + 1) b =
      if 4 ≤ b.length then
        thenR (readFields [2, 2] b) fun vs b1 =>
          match vs with
          | [tid, fc] => thenR (decodeTemplateFields v fc b1) fun fs b2 => (decodeTemplateSet v m b2).map (⟨tid, fc, fs⟩ :: ·)
          | _ => .error .panic
      else .ok [] := by
  rw [decodeTemplateSet]
  split
  · cases readFields [2, 2] b with
    | error e => rfl
    | ok r =>
      obtain ⟨vs, b1⟩ := r
      rcases vs with _ | ⟨tid, _ | ⟨fc, _ | _⟩⟩ <;> try rfl
      simp only [thenR]
      cases decodeTemplateFields v fc b1 with
      | error e => rfl
      | ok r => simp only; cases decodeTemplateSet v m r.2 <;> rfl
  · rfl

/-- what DecodeTemplateSet makes of the outcome of its record loop -/
def finT (r : Res (Go.Ctl (Bytes × List TD.TemplateRecord × Go.Error) (Bytes × List TD.TemplateRecord))) :
    Res (List Netflow.TemplateRecord) :=
  (r >>= fun t_10 => Go.Ctl.elim t_10 (fun x => .ok x) fun t_11 => .ok (t_11.1, t_11.2.1)).map (fun r => r.2.map tplOf)

theorem templateLoop1_fin (v : UInt16) : ∀ (fuel mfuel : Nat) (b : Bytes) (recs : List TD.TemplateRecord),
    b.length < fuel → b.length < mfuel →
    finT (TD.DecodeTemplateSet_loop1 v fuel b recs none) =
      (decodeTemplateSet v.toNat mfuel b).map (fun ms => recs.map tplOf ++ ms) := by
  intro fuel
  induction fuel with
  | zero => intro mfuel b recs h; omega
  | succ fuel ih =>
    intro mfuel b recs hf hm
    obtain ⟨m, rfl⟩ : ∃ m, mfuel = m + 1 := ⟨mfuel - 1, by omega⟩
    rw [decodeTemplateSet_succ]
    by_cases h4 : 4 ≤ b.length
    · rw [if_pos h4]
      simp only [thenR_map, thenR_readFields_cons, thenR_readFields_nil]
      rw [TD.DecodeTemplateSet_loop1, TD.DecodeTemplateSet_loop1_body, if_pos (by simpa using h4)]
      apply readU16_simP (fun r => finT (r >>= _)) (fun _ => rfl); intro tid b0 _
      apply readU16_simP (fun r => finT (r >>= _)) (fun _ => rfl); intro fc b1 _
      have hl : b1.length + 4 = b.length := by dsimp only at *; omega
      simp only [Nat.not_lt_zero, decide_false, Bool.false_eq_true, if_false, Go.makeL, ok_bind, decodeTemplateFields_eq]
      apply fieldLoop_sim _ _ _ (templateLoop2_step v recs _) (fun r => finT (r >>= _ >>= _)) (fun _ => rfl); intro gs p' hp'
      simp only [ok_bind]
      rw [ih m p' _ (by omega) (by omega)]
      cases decodeTemplateSet v.toNat m p' with
      | error e => rfl
      | ok rs => simp [Except.map, tplOf]
    · rw [if_neg h4, TD.DecodeTemplateSet_loop1, TD.DecodeTemplateSet_loop1_body, if_neg (by simpa using h4)]
      simp [finT, Go.Ctl.elim, Except.map]

/-- netflow.DecodeTemplateSet for every version and byte string: the model's template records (same ids, counts, field
    specifiers — the enterprise bit taken off and the enterprise number read only for version 10), or the model's error
    class; no `fields[i] = field` out of range, the loops end within their fuel -/
theorem decodeTemplateSet_trans_eq (v : UInt16) (b : Bytes) (fuel : Nat) (hf : b.length < fuel) :
    (TD.DecodeTemplateSet v b).map (fun r => r.2.map tplOf) = decodeTemplateSet v.toNat fuel b := by
  refine (templateLoop1_fin v _ fuel b [] (by simp [Go.loopFuel]) hf).trans ?_
  cases decodeTemplateSet v.toNat fuel b <;> simp [Except.map]

def w3At (b : Bytes) : UInt16 := UInt16.ofNat (beNat ((b.drop 4).take 2))

def v9optOf (r : TD.NFv9OptionsTemplateRecord) : Netflow.NFv9OptionsTemplateRecord :=
  ⟨r.TemplateId.toNat, r.ScopeLength.toNat, r.OptionLength.toNat, r.Scopes.map fieldOf, r.Options.map fieldOf⟩

theorem tyAt_drop4 (b : Bytes) : tyAt (b.drop 4) = w3At b := rfl

theorem decodeNFv9OptionsTemplateSet_succ (m : Nat) (b : Bytes) :
    decodeNFv9OptionsTemplateSet (m + 1) b =
      if 4 ≤ b.length then
        thenR (readFields [2, 2, 2] b) fun vs b1 =>
          match vs with
          | [tid, sl, ol] =>
            thenR (decodeFieldsN false (sl / 4) b1) fun scopes b2 => thenR (decodeFieldsN false (ol / 4) b2) fun opts b3 =>
              (decodeNFv9OptionsTemplateSet m b3).map (⟨tid, sl, ol, scopes, opts⟩ :: ·)
          | _ => .error .panic
      else .ok [] := by
  rw [decodeNFv9OptionsTemplateSet]
  split
  · cases readFields [2, 2, 2] b with
    | error e => rfl
    | ok r =>
      obtain ⟨vs, b1⟩ := r
      rcases vs with _ | ⟨tid, _ | ⟨sl, _ | ⟨ol, _ | _⟩⟩⟩ <;> try rfl
      simp only [thenR]
      cases decodeFieldsN false (sl / 4) b1 with
      | error e => rfl
      | ok r =>
        simp only
        cases decodeFieldsN false (ol / 4) r.2 with
        | error e => rfl
        | ok r' => simp only; cases decodeNFv9OptionsTemplateSet m r'.2 <;> rfl
  · rfl

def finV9 (r : Res (Go.Ctl (Bytes × List TD.NFv9OptionsTemplateRecord × Go.Error) (Bytes × List TD.NFv9OptionsTemplateRecord))) :
    Res (List Netflow.NFv9OptionsTemplateRecord) :=
  (r >>= fun t_13 => Go.Ctl.elim t_13 (fun x => .ok x) fun t_14 => Go.retSt t_14.2.2 (t_14.1, t_14.2.1)).map
    (fun r => r.2.map v9optOf)

theorem v9Loop1_fin : ∀ (fuel mfuel : Nat) (b : Bytes) (recs : List TD.NFv9OptionsTemplateRecord),
    b.length < fuel → b.length < mfuel →
    finV9 (TD.DecodeNFv9OptionsTemplateSet_loop1 fuel b recs none) =
      (decodeNFv9OptionsTemplateSet mfuel b).map (fun ms => recs.map v9optOf ++ ms) := by
  intro fuel
  induction fuel with
  | zero => intro mfuel b recs h; omega
  | succ fuel ih =>
    intro mfuel b recs hf hm
    obtain ⟨m, rfl⟩ : ∃ m, mfuel = m + 1 := ⟨mfuel - 1, by omega⟩
    rw [decodeNFv9OptionsTemplateSet_succ]
    by_cases h4 : 4 ≤ b.length
    · rw [if_pos h4]
      simp only [thenR_map, thenR_readFields_cons, thenR_readFields_nil]
      rw [TD.DecodeNFv9OptionsTemplateSet_loop1, TD.DecodeNFv9OptionsTemplateSet_loop1_body, if_pos (by simpa using h4)]
      apply readU16_simP (fun r => finV9 (r >>= _)) (fun _ => rfl); intro tid b0 _
      apply readU16_simP (fun r => finV9 (r >>= _)) (fun _ => rfl); intro sl b1 _
      apply readU16_simP (fun r => finV9 (r >>= _)) (fun _ => rfl); intro ol b2 _
      have hl : b2.length + 6 = b.length := by dsimp only at *; omega
      simp only [Nat.not_lt_zero, decide_false, Bool.false_eq_true, Bool.or_self, if_false, Go.makeL, ok_bind]
      apply fieldLoop_sim _ _ _ (fun _ _ _ _ _ => by rw [TD.DecodeNFv9OptionsTemplateSet_loop2]) (fun r => finV9 (r >>= _ >>= _)) (fun _ => rfl); intro sc p1 hp1
      simp only [ok_bind]
      apply fieldLoop_sim _ _ _ (fun _ _ _ _ _ => by rw [TD.DecodeNFv9OptionsTemplateSet_loop3]) (fun r => finV9 (r >>= _ >>= _)) (fun _ => rfl); intro op p2 hp2
      simp only [ok_bind]
      rw [ih m p2 _ (by omega) (by omega)]
      cases decodeNFv9OptionsTemplateSet m p2 with
      | error e => rfl
      | ok rs => simp [Except.map, v9optOf]
    · rw [if_neg h4, TD.DecodeNFv9OptionsTemplateSet_loop1, TD.DecodeNFv9OptionsTemplateSet_loop1_body, if_neg (by simpa using h4)]
      simp [finV9, Go.Ctl.elim, Go.retSt, Except.map]

/-- netflow.DecodeNFv9OptionsTemplateSet for every byte string: the model's options template records (scope and option
    field specifiers, `length / 4` of each, never an enterprise number), or the model's error class -/
theorem decodeNFv9OptionsTemplateSet_trans_eq (b : Bytes) (fuel : Nat) (hf : b.length < fuel) :
    (TD.DecodeNFv9OptionsTemplateSet b).map (fun r => r.2.map v9optOf) = decodeNFv9OptionsTemplateSet fuel b := by
  refine (v9Loop1_fin _ fuel b [] (by simp [Go.loopFuel]) hf).trans ?_
  cases decodeNFv9OptionsTemplateSet fuel b <;> simp [Except.map]

theorem setIdxLI_nat {α : Type} (l : List α) (i : Nat) (v : α) : Go.setIdxLI l (i : Int) v = Go.setIdxL l i v := by
  have : ¬ ((i : Int) < 0) := by omega
  simp [Go.setIdxLI, this]

theorem makeLI_nat {α : Type} (n : Nat) (z : α) : Go.makeLI (n : Int) z = .ok (List.replicate n z) := by
  have : ¬ ((n : Int) < 0) := by omega
  simp [Go.makeLI, this]

/-- the count is a Go `int`, modelled as `Int`: DecodeIPFIXOptionsTemplateSet subtracts two counts -/
theorem fieldLoopI_sim {γ : Type} (pen : Bool) (n : Nat)
    (L : Nat → Bytes → Go.Error → List TD.Field → Int → Res (Bytes × Go.Error × List TD.Field × Int))
    (hs : ∀ fuel p e fs (i : Int), L (fuel + 1) p e fs i =
      if decide (i < (n : Int)) = true then
        TD.DecodeField p {} pen >>= fun t => Go.setIdxLI fs i t.2 >>= fun fs' => L fuel t.1 e fs' (i + 1)
      else .ok (p, e, fs, i))
    (P : Res (Bytes × Go.Error × List TD.Field × Int) → Res γ) (hP : ∀ e, P (.error e) = .error e) (e : Go.Error)
    (p : Bytes) (k : List Netflow.Field → Bytes → Res γ)
    (hk : ∀ gs p', p'.length ≤ p.length → P (.ok (p', e, gs, (n : Int))) = k (gs.map fieldOf) p') :
    P (L (Go.loopFuel p) p e (List.replicate n {}) 0) = thenR (decodeFieldsN pen n p) k :=
  fieldLoopG_sim (fun i : Nat => (i : Int)) (fun i => decide (i < (n : Int))) Go.setIdxLI (· + 1) pen n
    (fun i => by simp only [Int.ofNat_lt]) (fun l i v => setIdxLI_nat l i v) (fun _ => rfl) L hs
    P hP e _ p _ 0 k List.length_replicate (Nat.zero_le _) (Nat.lt_succ_self _) hk

def ipfixoptOf (r : TD.IPFIXOptionsTemplateRecord) : Netflow.IPFIXOptionsTemplateRecord :=
  ⟨r.TemplateId.toNat, r.FieldCount.toNat, r.ScopeFieldCount.toNat, r.Options.map fieldOf, r.Scopes.map fieldOf⟩

theorem decodeIPFIXOptionsTemplateSet_succ (m : Nat) (b : Bytes) :
    decodeIPFIXOptionsTemplateSet (m + 1) b =
      if 4 ≤ b.length then
        thenR (readFields [2, 2, 2] b) fun vs b1 =>
          match vs with
          | [tid, fc, sfc] =>
            thenR (decodeFieldsN true sfc b1) fun scopes b2 =>
              if fc < sfc then .error .bad
              else thenR (decodeFieldsN true (fc - sfc) b2) fun opts b3 =>
                (decodeIPFIXOptionsTemplateSet m b3).map (⟨tid, fc, sfc, opts, scopes⟩ :: ·)
          | _ => .error .panic
      else .ok [] := by
  rw [decodeIPFIXOptionsTemplateSet]
  split
  · cases readFields [2, 2, 2] b with
    | error e => rfl
    | ok r =>
      obtain ⟨vs, b1⟩ := r
      rcases vs with _ | ⟨tid, _ | ⟨fc, _ | ⟨sfc, _ | _⟩⟩⟩ <;> try rfl
      simp only [thenR]
      cases decodeFieldsN true sfc b1 with
      | error e => rfl
      | ok r =>
        simp only
        split
        · rfl
        · cases decodeFieldsN true (fc - sfc) r.2 with
          | error e => rfl
          | ok r' => simp only; cases decodeIPFIXOptionsTemplateSet m r'.2 <;> rfl
  · rfl

def finX (r : Res (Go.Ctl (Bytes × List TD.IPFIXOptionsTemplateRecord × Go.Error) (Bytes × List TD.IPFIXOptionsTemplateRecord))) :
    Res (List Netflow.IPFIXOptionsTemplateRecord) :=
  (r >>= fun t_13 => Go.Ctl.elim t_13 (fun x => .ok x) fun t_14 => .ok (t_14.1, t_14.2.1)).map (fun r => r.2.map ipfixoptOf)

theorem ipfixLoop1_fin : ∀ (fuel mfuel : Nat) (b : Bytes) (recs : List TD.IPFIXOptionsTemplateRecord),
    b.length < fuel → b.length < mfuel →
    finX (TD.DecodeIPFIXOptionsTemplateSet_loop1 fuel b recs none) =
      (decodeIPFIXOptionsTemplateSet mfuel b).map (fun ms => recs.map ipfixoptOf ++ ms) := by
  intro fuel
  induction fuel with
  | zero => intro mfuel b recs h; omega
  | succ fuel ih =>
    intro mfuel b recs hf hm
    obtain ⟨m, rfl⟩ : ∃ m, mfuel = m + 1 := ⟨mfuel - 1, by omega⟩
    rw [decodeIPFIXOptionsTemplateSet_succ, TD.DecodeIPFIXOptionsTemplateSet_loop1, TD.DecodeIPFIXOptionsTemplateSet_loop1_body]
    by_cases h4 : 4 ≤ b.length
    · have hc : (b.length : Int) ≥ 4 := by omega
      rw [if_pos h4, if_pos (by simpa using hc)]
      simp only [thenR_map, thenR_readFields_cons, thenR_readFields_nil]
      apply readU16_simP (fun r => finX (r >>= _)) (fun _ => rfl); intro tid b0 _
      apply readU16_simP (fun r => finX (r >>= _)) (fun _ => rfl); intro fc b1 _
      apply readU16_simP (fun r => finX (r >>= _)) (fun _ => rfl); intro sfc b2 _
      have hl : b2.length + 6 = b.length := by dsimp only at *; omega
      simp only [makeLI_nat, ok_bind]
      apply fieldLoopI_sim _ _ _ (fun _ _ _ _ _ => by rw [TD.DecodeIPFIXOptionsTemplateSet_loop2]) (fun r => finX (r >>= _ >>= _)) (fun _ => rfl); intro sc p1 hp1
      simp only [ok_bind]
      by_cases hneg : fc.toNat < sfc.toNat
      · have hneg' : (fc.toNat : Int) - (sfc.toNat : Int) < 0 := by omega
        rw [if_pos hneg, if_pos (by simpa using hneg')]
        rfl
      · have hneg' : ¬ (fc.toNat : Int) - (sfc.toNat : Int) < 0 := by omega
        have hsub : (fc.toNat : Int) - (sfc.toNat : Int) = ((fc.toNat - sfc.toNat : Nat) : Int) := by omega
        rw [if_neg hneg, if_neg (by simpa using hneg'), hsub]
        simp only [makeLI_nat, ok_bind, thenR_map]
        apply fieldLoopI_sim _ _ _ (fun _ _ _ _ _ => by rw [TD.DecodeIPFIXOptionsTemplateSet_loop3]) (fun r => finX (r >>= _ >>= _)) (fun _ => rfl); intro op p2 hp2
        simp only [ok_bind]
        rw [ih m p2 _ (by omega) (by omega)]
        cases decodeIPFIXOptionsTemplateSet m p2 with
        | error e => rfl
        | ok rs => simp [Except.map, ipfixoptOf]
    · have hc : ¬ (b.length : Int) ≥ 4 := by omega
      rw [if_neg h4, if_neg (by simpa using hc)]
      simp [finX, Go.Ctl.elim, Except.map]

/-- netflow.DecodeIPFIXOptionsTemplateSet for every byte string: the model's options template records (ScopeFieldCount
    scope specifiers, FieldCount − ScopeFieldCount option specifiers, enterprise numbers read), `bad` when the scope
    count exceeds the field count, or the model's error class otherwise; the `make` of a negative length is never reached -/
theorem decodeIPFIXOptionsTemplateSet_trans_eq (b : Bytes) (fuel : Nat) (hf : b.length < fuel) :
    (TD.DecodeIPFIXOptionsTemplateSet b).map (fun r => r.2.map ipfixoptOf) = decodeIPFIXOptionsTemplateSet fuel b := by
  refine (ipfixLoop1_fin _ fuel b [] (by simp [Go.loopFuel]) hf).trans ?_
  cases decodeIPFIXOptionsTemplateSet fuel b <;> simp [Except.map]

/-- `Value interface{}` is nil or a `[]byte` -/
def dataFieldOf (d : TD.DataField) : Netflow.DataField := ⟨d.PenProvided, d.Type.toNat, d.Pen.toNat, d.Value⟩

/-- the length of the value of one field: the template's, or the 1-byte / 3-byte variable-length form; generated side -/
def lenResG (f : TD.Field) (p : Bytes) : Res (Nat × Bytes) :=
  if f.Length = 65535 then
    Go.readU8 p >>= fun t =>
      if t.1 = 255 then Go.readU16 t.2 >>= fun u => .ok (u.1.toNat, u.2) else .ok (t.1.toNat, t.2)
  else .ok (f.Length.toNat, p)

/-- the same on the model side (the `lenRes` of `decodeFieldValues`) -/
def lenResM (f : Netflow.Field) (b : Bytes) : Res (Nat × Bytes) :=
  if f.length = 0xffff then
    match readU 1 b with
    | .error e => .error e
    | .ok (l8, b1) => if l8 = 0xff then readU 2 b1 else .ok (l8, b1)
  else .ok (f.length, b)

theorem decodeFieldValues_cons_eq (f : Netflow.Field) (fs : List Netflow.Field) (b : Bytes) :
    decodeFieldValues (f :: fs) b =
      match lenResM f b with
      | .error e => .error e
      | .ok (n, b1) =>
        match decodeFieldValues fs (b1.drop n) with
        | .error e => .error e
        | .ok (dfs, b3) => .ok (⟨f.penProvided, f.type, f.pen, some (b1.take n)⟩ :: dfs, b3) := rfl

theorem u8_eq_255 (l : Bytes) : (UInt8.ofNat (beNat (l.take 1)) = 255) ↔ beNat (l.take 1) = 0xff := by
  rw [← UInt8.toNat_inj, u8_beNat]; rfl

theorem u16_eq_65535 (x : UInt16) : (x = 65535) ↔ x.toNat = 0xffff := by
  rw [← UInt16.toNat_inj]; rfl

theorem lenRes_eq (f : TD.Field) (p : Bytes) : lenResG f p = lenResM (fieldOf f) p := by
  unfold lenResG lenResM
  by_cases hv : f.Length = 65535
  · have hv' : (fieldOf f).length = 0xffff := (u16_eq_65535 _).1 hv
    rw [if_pos hv, if_pos hv']
    by_cases h1 : 1 ≤ p.length
    · rw [readU8_ok h1, readU_ok h1]
      simp only [ok_bind]
      by_cases h255 : beNat (p.take 1) = 0xff
      · rw [if_pos ((u8_eq_255 p).2 h255), if_pos h255]
        by_cases h2 : 2 ≤ (p.drop 1).length
        · rw [readU16_ok h2, readU_ok h2]
          simp only [ok_bind, u16_beNat]
        · rw [readU16_short (Nat.lt_of_not_le h2), readU_short (Nat.lt_of_not_le h2)]
          rfl
      · rw [if_neg (fun h => h255 ((u8_eq_255 p).1 h)), if_neg h255]
        simp only [u8_beNat]
    · rw [readU8_short (Nat.lt_of_not_le h1), readU_short (Nat.lt_of_not_le h1)]
      rfl
  · have hv' : ¬ (fieldOf f).length = 0xffff := fun h => hv ((u16_eq_65535 _).2 h)
    rw [if_neg hv, if_neg hv']
    rfl

def dfAt (f : TD.Field) (v : Bytes) : TD.DataField :=
  { «Type» := f.Type, PenProvided := f.PenProvided, Pen := f.Pen, Value := some v }

theorem dataLoop_step (tpl : List TD.Field) (fuel : Nat) (p : Bytes) (dfs : List TD.DataField) (i : Nat) (hi : i < tpl.length) :
    TD.DecodeDataSetUsingFields_loop1 tpl tpl.length (fuel + 1) p dfs i =
      lenResG tpl[i] p >>= fun r => Go.setIdxL dfs i (dfAt tpl[i] (r.2.take r.1)) >>= fun dfs' =>
        TD.DecodeDataSetUsingFields_loop1 tpl tpl.length fuel (r.2.drop r.1) dfs' (i + 1) := by
  rw [TD.DecodeDataSetUsingFields_loop1, if_pos (by simpa using hi), C03Trans.idxL_getElem hi]
  simp only [ok_bind, lenResG, decide_eq_true_eq]
  split
  · simp only [bind_assoc]
    refine bind_congr fun t => ?_
    split <;> simp only [*, if_true, if_false, bind_assoc, ok_bind] <;> rfl
  · rfl

theorem dataLoop_done (tpl : List TD.Field) (fuel : Nat) (p : Bytes) (dfs : List TD.DataField) :
    TD.DecodeDataSetUsingFields_loop1 tpl tpl.length (fuel + 1) p dfs tpl.length = .ok (p, dfs, tpl.length) := by
  rw [TD.DecodeDataSetUsingFields_loop1, if_neg (by simp)]

theorem thenR_decodeFieldValues_cons {γ : Type} (f : Netflow.Field) (fs : List Netflow.Field) (b : Bytes)
    (k : List Netflow.DataField → Bytes → Res γ) :
    thenR (decodeFieldValues (f :: fs) b) k =
      thenR (lenResM f b) fun n b1 => thenR (decodeFieldValues fs (b1.drop n)) fun dfs =>
        k (⟨f.penProvided, f.type, f.pen, some (b1.take n)⟩ :: dfs) := by
  rw [decodeFieldValues_cons_eq]
  cases lenResM f b with
  | error e => rfl
  | ok r =>
    obtain ⟨n, b1⟩ := r
    simp only [thenR]
    cases decodeFieldValues fs (b1.drop n) <;> rfl

/-- the field loop of DecodeDataSetUsingFields, in the shape of `fieldLoopG_sim` -/
theorem dataLoop_sim {γ : Type} (tpl : List TD.Field) (P : Res (Bytes × List TD.DataField × Nat) → Res γ)
    (hP : ∀ e, P (.error e) = .error e) :
    ∀ (fuel : Nat) (p : Bytes) (dfs : List TD.DataField) (i : Nat) (k : List Netflow.DataField → Bytes → Res γ),
    dfs.length = tpl.length → i ≤ tpl.length → tpl.length - i < fuel →
    (∀ gs p', P (.ok (p', dfs.take i ++ gs, tpl.length)) = k (gs.map dataFieldOf) p') →
    P (TD.DecodeDataSetUsingFields_loop1 tpl tpl.length fuel p dfs i) =
      thenR (decodeFieldValues ((tpl.drop i).map fieldOf) p) k := by
  intro fuel
  induction fuel with
  | zero => intro p dfs i k _ _ h; omega
  | succ fuel ih =>
    intro p dfs i k hlen hi hf hk
    by_cases hlt : i < tpl.length
    · rw [dataLoop_step tpl fuel p dfs i hlt, List.drop_eq_getElem_cons hlt, List.map_cons, thenR_decodeFieldValues_cons,
        lenRes_eq]
      apply bind_sim P hP; intro n p1
      simp only [Go.setIdxL, hlen, hlt, if_true, ok_bind]
      apply ih _ _ (i + 1) _ (by simp [hlen]) hlt (by omega)
      intro gs p'
      rw [take_set_succ _ _ _ (by omega : i < dfs.length), List.append_assoc]
      exact hk (dfAt tpl[i] (p1.take n) :: gs) p'
    · have : i = tpl.length := by omega
      subst this
      have := hk [] p
      rw [List.append_nil, take_self hlen] at this
      rw [dataLoop_done, List.drop_length]
      exact this

/-- netflow.DecodeDataSetUsingFields for every template and byte string: the model's data fields (value bytes cut by the
    template length or by the 1-byte / 3-byte variable-length prefix) and the bytes that remain; zeroed fields when the
    payload is shorter than the smallest record; the EOF class when a length prefix is cut -/
theorem decodeDataSetUsingFields_trans_eq (v : UInt16) (b : Bytes) (tpl : List TD.Field) :
    (TD.DecodeDataSetUsingFields v b tpl).map (fun r => (r.2.map dataFieldOf, r.1)) =
      decodeDataSetUsingFields (tpl.map fieldOf) b := by
  unfold TD.DecodeDataSetUsingFields decodeDataSetUsingFields
  rw [C03Trans.getTemplateSize_eq]
  simp only [Go.makeL, ok_bind, ge_iff_le, decide_eq_true_eq]
  by_cases hsz : templateSize (tpl.map fieldOf) ≤ b.length
  · rw [if_pos hsz, if_pos hsz]
    exact (dataLoop_sim tpl (fun r => (r >>= _).map _) (fun _ => rfl) _ b _ 0 _ List.length_replicate (Nat.zero_le _)
      (Nat.lt_succ_self _) (fun gs p' => rfl)).trans (thenR_pure _)
  · rw [if_neg hsz, if_neg hsz]
    simp [Except.map, dataFieldOf, zeroDataField]

def dataRecOf (r : TD.DataRecord) : Netflow.DataRecord := ⟨r.Values.map dataFieldOf⟩
def optRecOf (r : TD.OptionsDataRecord) : Netflow.OptionsDataRecord :=
  ⟨r.ScopesValues.map dataFieldOf, r.OptionsValues.map dataFieldOf⟩

theorem usingFields_progress {fs : List Netflow.Field} {b b1 : Bytes} {vs : List Netflow.DataField}
    (h : decodeDataSetUsingFields fs b = .ok (vs, b1)) :
    b1.length ≤ b.length ∧ (templateSize fs ≤ b.length → b1.length ≤ b.length - templateSize fs) := by
  unfold decodeDataSetUsingFields at h
  by_cases hsz : templateSize fs ≤ b.length
  · rw [if_pos hsz] at h
    have := (decodeFieldValues_consumes _ _ _ _ h).1
    exact ⟨by omega, fun _ => this⟩
  · rw [if_neg hsz] at h
    cases h
    exact ⟨Nat.le_refl _, fun h => absurd h hsz⟩

theorem usingFields_simP {β γ : Type} (P : Res β → Res γ) (hP : ∀ e, P (.error e) = .error e) (v : UInt16) (b : Bytes)
    (tpl : List TD.Field) (f : Bytes × List TD.DataField → Res β) (k : List Netflow.DataField → Bytes → Res γ)
    (h : ∀ gs b', b'.length ≤ b.length →
      (templateSize (tpl.map fieldOf) ≤ b.length → b'.length ≤ b.length - templateSize (tpl.map fieldOf)) →
      P (f (b', gs)) = k (gs.map dataFieldOf) b') :
    P (TD.DecodeDataSetUsingFields v b tpl >>= f) = thenR (decodeDataSetUsingFields (tpl.map fieldOf) b) k :=
  map_sim P hP (decodeDataSetUsingFields_trans_eq v b tpl) f k fun r hr =>
    h _ _ (usingFields_progress hr).1 (usingFields_progress hr).2

theorem decodeDataSetLoop_succ (fs : List Netflow.Field) (m : Nat) (b : Bytes) :
    decodeDataSetLoop fs (m + 1) b =
      if templateSize fs ≤ b.length then
        thenR (decodeDataSetUsingFields fs b) fun vs b1 => (decodeDataSetLoop fs m b1).map (⟨vs⟩ :: ·)
      else .ok [] := by
  rw [decodeDataSetLoop]
  split
  · cases decodeDataSetUsingFields fs b with
    | error e => rfl
    | ok r => simp only [thenR]; cases decodeDataSetLoop fs m r.2 <;> rfl
  · rfl

def finD (r : Res (Go.Ctl (Bytes × List TD.DataRecord) (Bytes × List TD.DataRecord))) : Res (List Netflow.DataRecord) :=
  (r >>= fun t_3 => Go.Ctl.elim t_3 (fun x => .ok x) fun t_4 => .ok (t_4.1, t_4.2)).map (fun r => r.2.map dataRecOf)

/-- the record loop `for payload.Len() >= listFieldsSize` of DecodeDataSet -/
theorem dataSetLoop_fin (v : UInt16) (tpl : List TD.Field) (hpos : 0 < templateSize (tpl.map fieldOf)) :
    ∀ (fuel mfuel : Nat) (b : Bytes) (recs : List TD.DataRecord), b.length < fuel → b.length < mfuel →
    finD (TD.DecodeDataSet_loop1 v tpl (templateSize (tpl.map fieldOf)) fuel b recs) =
      (decodeDataSetLoop (tpl.map fieldOf) mfuel b).map (fun ms => recs.map dataRecOf ++ ms) := by
  intro fuel
  induction fuel with
  | zero => intro mfuel b recs h; omega
  | succ fuel ih =>
    intro mfuel b recs hf hm
    obtain ⟨m, rfl⟩ : ∃ m, mfuel = m + 1 := ⟨mfuel - 1, by omega⟩
    rw [TD.DecodeDataSet_loop1, decodeDataSetLoop_succ, TD.DecodeDataSet_loop1_body]
    by_cases hsz : templateSize (tpl.map fieldOf) ≤ b.length
    · rw [if_pos (decide_eq_true hsz), if_pos hsz, thenR_map]
      apply usingFields_simP (fun r => finD (r >>= _)) (fun _ => rfl); intro vs b1 _ hb1
      have := hb1 hsz
      simp only [ok_bind]
      rw [ih m b1 _ (by omega) (by omega)]
      cases decodeDataSetLoop (tpl.map fieldOf) m b1 with
      | error e => rfl
      | ok rs => simp [Except.map, dataRecOf]
    · rw [if_neg (by simpa using hsz), if_neg hsz]
      simp [finD, Go.Ctl.elim, Except.map]

/-- netflow.DecodeDataSet for every template and byte string: `bad` for a template whose records occupy no bytes (the
    zero-size guard), otherwise the model's data records or the model's error class; the record loop ends within its fuel -/
theorem decodeDataSet_trans_eq (v : UInt16) (b : Bytes) (tpl : List TD.Field) (fuel : Nat) (hf : b.length < fuel) :
    (TD.DecodeDataSet v b tpl).map (fun r => r.2.map dataRecOf) = decodeDataSet (tpl.map fieldOf) fuel b := by
  unfold TD.DecodeDataSet decodeDataSet
  rw [C03Trans.getTemplateSize_eq]
  simp only [ok_bind, decide_eq_true_eq]
  by_cases hz : templateSize (tpl.map fieldOf) = 0
  · rw [if_pos hz, if_pos hz]; rfl
  · rw [if_neg hz, if_neg hz]
    refine (dataSetLoop_fin v tpl (Nat.pos_of_ne_zero hz) _ fuel b [] (by simp [Go.loopFuel]) hf).trans ?_
    cases decodeDataSetLoop (tpl.map fieldOf) fuel b <;> simp [Except.map]

theorem decodeOptionsDataSetLoop_succ (sc op : List Netflow.Field) (m : Nat) (b : Bytes) :
    decodeOptionsDataSetLoop sc op (m + 1) b =
      if templateSize sc + templateSize op ≤ b.length then
        thenR (decodeDataSetUsingFields sc b) fun sv b1 => thenR (decodeDataSetUsingFields op b1) fun ov b2 =>
          (decodeOptionsDataSetLoop sc op m b2).map (⟨sv, ov⟩ :: ·)
      else .ok [] := by
  rw [decodeOptionsDataSetLoop]
  split
  · cases decodeDataSetUsingFields sc b with
    | error e => rfl
    | ok r =>
      simp only [thenR]
      cases decodeDataSetUsingFields op r.2 with
      | error e => rfl
      | ok r' => simp only; cases decodeOptionsDataSetLoop sc op m r'.2 <;> rfl
  · rfl

def finO (r : Res (Go.Ctl (Bytes × List TD.OptionsDataRecord) (Bytes × List TD.OptionsDataRecord))) :
    Res (List Netflow.OptionsDataRecord) :=
  (r >>= fun t_5 => Go.Ctl.elim t_5 (fun x => .ok x) fun t_6 => .ok (t_6.1, t_6.2)).map (fun r => r.2.map optRecOf)

theorem optionsLoop_fin (v : UInt16) (sc op : List TD.Field)
    (hpos : 0 < templateSize (sc.map fieldOf) + templateSize (op.map fieldOf)) :
    ∀ (fuel mfuel : Nat) (b : Bytes) (recs : List TD.OptionsDataRecord), b.length < fuel → b.length < mfuel →
    finO (TD.DecodeOptionsDataSet_loop1 v sc op (templateSize (sc.map fieldOf)) (templateSize (op.map fieldOf)) fuel b recs) =
      (decodeOptionsDataSetLoop (sc.map fieldOf) (op.map fieldOf) mfuel b).map (fun ms => recs.map optRecOf ++ ms) := by
  intro fuel
  induction fuel with
  | zero => intro mfuel b recs h; omega
  | succ fuel ih =>
    intro mfuel b recs hf hm
    obtain ⟨m, rfl⟩ : ∃ m, mfuel = m + 1 := ⟨mfuel - 1, by omega⟩
    rw [TD.DecodeOptionsDataSet_loop1, decodeOptionsDataSetLoop_succ, TD.DecodeOptionsDataSet_loop1_body]
    by_cases hsz : templateSize (sc.map fieldOf) + templateSize (op.map fieldOf) ≤ b.length
    · rw [if_pos (decide_eq_true hsz), if_pos hsz]
      simp only [thenR_map]
      apply usingFields_simP (fun r => finO (r >>= _)) (fun _ => rfl); intro sv b1 h1 h1'
      dsimp only
      apply usingFields_simP (fun r => finO (r >>= _)) (fun _ => rfl); intro ov b2 h2 h2'
      have hlt : b2.length < b.length := by
        have := h1' (by omega)
        by_cases hs2 : templateSize (op.map fieldOf) ≤ b1.length
        · have := h2' hs2; omega
        · omega
      simp only [ok_bind]
      rw [ih m b2 _ (by omega) (by omega)]
      cases decodeOptionsDataSetLoop (sc.map fieldOf) (op.map fieldOf) m b2 with
      | error e => rfl
      | ok rs => simp [Except.map, optRecOf]
    · rw [if_neg (by simpa using hsz), if_neg hsz]
      simp [finO, Go.Ctl.elim, Except.map]

/-- netflow.DecodeOptionsDataSet for every pair of templates and byte string: `bad` when scope and option records together
    occupy no bytes (the zero-size guard), otherwise the model's options data records or the model's error class -/
theorem decodeOptionsDataSet_trans_eq (v : UInt16) (b : Bytes) (sc op : List TD.Field) (fuel : Nat) (hf : b.length < fuel) :
    (TD.DecodeOptionsDataSet v b sc op).map (fun r => r.2.map optRecOf) =
      decodeOptionsDataSet (sc.map fieldOf) (op.map fieldOf) fuel b := by
  unfold TD.DecodeOptionsDataSet decodeOptionsDataSet
  rw [C03Trans.getTemplateSize_eq]
  simp only [ok_bind]
  rw [C03Trans.getTemplateSize_eq]
  simp only [ok_bind, decide_eq_true_eq]
  by_cases hz : templateSize (sc.map fieldOf) + templateSize (op.map fieldOf) = 0
  · rw [if_pos hz, if_pos hz]; rfl
  · rw [if_neg hz, if_neg hz]
    refine (optionsLoop_fin v sc op (Nat.pos_of_ne_zero hz) _ fuel b [] (by simp [Go.loopFuel]) hf).trans ?_
    cases decodeOptionsDataSetLoop (sc.map fieldOf) (op.map fieldOf) fuel b <;> simp [Except.map]

end Goflow.C03Trans2
