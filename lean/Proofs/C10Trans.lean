import Goflow.Generated.ParsersT
import Proofs.Lemmas.GoPrims
/-!
  C10 (translation tie) — the layer parsers of producer/proto/producer_packet.go, regenerated into Lean on
  every run by extract/translate.go (Goflow/Generated/ParsersT.lean), are equal to the hand-written model
  of Goflow/Producer/Packet.lean: for every message, byte string and parse configuration the translated
  Go body does not panic (no index / slice out of range under its own guards), returns no error, leaves
  its loops within their fuel, and computes exactly the model's result (`parseX_eq`).
  Also the entries of the parser table (`parserX_eq`: name, keys) and the two dispatchers that choose the next
  parser (`nextParserProto_eq`, `nextParserEtype_eq`).
  An edit of a parser body in Go changes the definition on the left-hand side; the kernel re-checks the equation.
-/
set_option linter.unusedSimpArgs false
namespace Goflow.C10Trans
open Goflow Goflow.Producer Goflow.Generated Goflow.Go

/-- simp resolves the head of a `>>=` chain before it looks at the continuation: the continuation is visited once,
    with the value read put in -/
theorem bind_head_congr {α β : Type} {x x' : Res α} (f : α → Res β) (h : x = x') : x >>= f = x' >>= f :=
  h ▸ rfl

section parsers
attribute [local congr] bind_head_congr

/-- a layer shorter than its header: the zero result -/
theorem guard_eq {n : Nat} {m : FlowMsg} {d : Bytes} {B : Res PRes} {r : PRes} (h : ¬ d.length < n → B = .ok r) :
    (if decide (d.length < n) then Go.ret m {} none else B) = .ok (if d.length < n then tooShort m else r) := by
  by_cases hd : d.length < n
  · rw [if_pos hd, if_pos (decide_eq_true hd)]; rfl
  · rw [if_neg hd, if_neg (by simpa using hd)]; exact h hd

/-- the columns of the base layer are written under a test; the model tests inside the message -/
theorem ok_ite (c : Prop) [Decidable c] (a b : FlowMsg) (n : Next) (s : Nat) :
    (if c then (.ok ⟨a, n, s⟩ : Res PRes) else .ok ⟨b, n, s⟩) = .ok ⟨if c then a else b, n, s⟩ := by
  split <;> rfl

/-- `uint32(uint8(tostmp & 0x0ff0 >> 4))` -/
theorem tos_toNat (x : UInt32) :
    (UInt32.ofNat (UInt8.ofNat (Go.shr32 (x &&& 4080) 4).toNat).toNat).toNat = x.toNat % 4096 / 16 := by
  rw [UInt32.ofNat_uInt8ToNat, UInt8.toNat_toUInt32, UInt8.toNat_ofNat', shr32_toNat, UInt32.toNat_and]
  show (x.toNat &&& 4080) / 16 % 256 = x.toNat % (16 * 256) / 16
  rw [and_4080_shr_4, Nat.mod_mod, Nat.mod_mul_right_div_self]

/-- the rewriting that turns a translated loop-free body into the model's, in one pass from the top: every index / slice /
    BigEndian read is resolved under the length guard (side conditions are literal, or follow from the guard by `omega`)
    and its value put into the continuation; `pc.Environment` is never nil; widening conversions
    `uint32(x)` of a byte or a 16-bit word disappear; masks and shifts become `%` and `/` -/
macro "go_simp" " [" ls:Lean.Parser.Tactic.simpLemma,* "]" : tactic =>
  `(tactic| simp (disch := first | decide | omega) only [idx_ok, slice_ok, beU16_sl, beU32_sl, beU64_pad2, beU32_pad1, ok_bind,
      List.cons_append, List.nil_append, envIsNil_eq, Bool.false_eq_true, ↓reduceIte, nextParserEtype_sl, Go.NextParserProto,
      Go.NextParserPort, Go.ret, Go.BaseLayer, Go.AddLayer, ok_ite, Nat.reduceAdd,
      ↓UInt32.ofNat_uInt8ToNat, UInt8.toNat_toUInt32, toNat_ofNat_u8, ↓UInt32.ofNat_uInt16ToNat, UInt16.toNat_toUInt32,
      toNat_ofNat_be16, toNat_ofNat_be32, toNat_ofNat_be64, UInt32.toNat_and, UInt8.toNat_and, UInt32.reduceToNat,
      UInt8.reduceToNat, Nat.reducePow, shr8_toNat, shr32_toNat, ↓tos_toNat, and_7, and_63, and_8191, and_1048575, $ls,*])

theorem parseEthernet_eq (m : FlowMsg) (d : Bytes) (pc : PC) : T.ParseEthernet m d pc = .ok (parseEthernet m d pc) := by
  unfold T.ParseEthernet parseEthernet
  refine guard_eq fun h => ?_
  go_simp []

theorem parse8021Q_eq (m : FlowMsg) (d : Bytes) (pc : PC) : T.Parse8021Q m d pc = .ok (parse8021Q m d pc) := by
  unfold T.Parse8021Q parse8021Q
  refine guard_eq fun h => ?_
  go_simp []

theorem parseIPv4_eq (m : FlowMsg) (d : Bytes) (pc : PC) : T.ParseIPv4 m d pc = .ok (parseIPv4 m d pc) := by
  unfold T.ParseIPv4 parseIPv4
  refine guard_eq fun h => ?_
  go_simp []

theorem parseIPv6_eq (m : FlowMsg) (d : Bytes) (pc : PC) : T.ParseIPv6 m d pc = .ok (parseIPv6 m d pc) := by
  unfold T.ParseIPv6 parseIPv6
  refine guard_eq fun h => ?_
  go_simp []

theorem parseIPv6HeaderFragment_eq (m : FlowMsg) (d : Bytes) (pc : PC) :
    T.ParseIPv6HeaderFragment m d pc = .ok (parseIPv6HeaderFragment m d pc) := by
  unfold T.ParseIPv6HeaderFragment parseIPv6HeaderFragment
  refine guard_eq fun h => ?_
  go_simp []

/-- `if res.Size < 20 { res.Size = 20 }` -/
theorem ok_max (a : FlowMsg) (n : Next) (k s : Nat) :
    (if s < k then (.ok ⟨a, n, k⟩ : Res PRes) else .ok ⟨a, n, s⟩) = .ok ⟨a, n, max k s⟩ := by
  rw [Nat.max_def]
  by_cases h : s < k
  · rw [if_pos h, if_neg (by omega)]
  · rw [if_neg h, if_pos (by omega)]

theorem parseTCP_eq (m : FlowMsg) (d : Bytes) (pc : PC) : T.ParseTCP m d pc = .ok (parseTCP m d pc) := by
  unfold T.ParseTCP parseTCP
  refine guard_eq fun h => ?_
  go_simp [decide_eq_true_eq, ok_max]

theorem parseUDP_eq (m : FlowMsg) (d : Bytes) (pc : PC) : T.ParseUDP m d pc = .ok (parseUDP m d pc) := by
  unfold T.ParseUDP parseUDP
  refine guard_eq fun h => ?_
  go_simp []

theorem parseGRE_eq (m : FlowMsg) (d : Bytes) (pc : PC) : T.ParseGRE m d pc = .ok (parseGRE m d pc) := by
  unfold T.ParseGRE parseGRE
  refine guard_eq fun h => ?_
  go_simp []

theorem parserInfo_eq {name : String} {keys : List String} {p : Parser}
    (hn : parserByName name = some p) (hk : keys = p.keys) : Go.parserInfo name keys = ⟨p, p.keys, false⟩ := by
  simp [Go.parserInfo, hn, hk]

theorem parserIPv6_eq : T.parserIPv6 = ⟨.ipv6, Parser.ipv6.keys, false⟩ :=
  parserInfo_eq (by decide +kernel) (by decide +kernel)

theorem parseTeredoDst_eq (m : FlowMsg) (d : Bytes) (pc : PC) : T.ParseTeredoDst m d pc = .ok (parseTeredoDst m d pc) := by
  unfold T.ParseTeredoDst parseTeredoDst
  rw [parserIPv6_eq]
  rfl

theorem parseGeneve_eq (m : FlowMsg) (d : Bytes) (pc : PC) : T.ParseGeneve m d pc = .ok (parseGeneve m d pc) := by
  unfold T.ParseGeneve parseGeneve
  refine guard_eq fun h => ?_
  go_simp []

theorem parseICMP_eq (m : FlowMsg) (d : Bytes) (pc : PC) : T.ParseICMP m d pc = .ok (parseICMP m d pc) := by
  unfold T.ParseICMP parseICMP
  refine guard_eq fun h => ?_
  go_simp [decide_eq_true_eq]

theorem parseICMPv6_eq (m : FlowMsg) (d : Bytes) (pc : PC) : T.ParseICMPv6 m d pc = .ok (parseICMPv6 m d pc) := by
  unfold T.ParseICMPv6 parseICMPv6
  refine guard_eq fun h => ?_
  go_simp [decide_eq_true_eq]

/-- the loop-carried `offset`, `entry` when the segment loop of ParseIPv6HeaderRouting ends (dead after the loop) -/
def srv6End (d : Bytes) (size lastEntry : Nat) : Nat → Nat → Nat → Nat × Nat
  | 0, off, entry => (off, entry)
  | fuel + 1, off, entry =>
    if 8 + off < size ∧ 8 + off + 16 ≤ d.length ∧ entry ≤ lastEntry then srv6End d size lastEntry fuel (off + 16) (entry + 1)
    else (off, entry)

/-- the segment loop of ParseIPv6HeaderRouting: `f + 1` is the fuel of the translated loop, `f'` that of the model's
    `srv6Loop`; either is enough once it exceeds the 16-byte segments left in `d` -/
theorem srv6_loop (d : Bytes) (res : Go.ParseResult) (le : UInt8) :
    ∀ (f f' : Nat) (m : FlowMsg) (off entry : Nat),
      d.length < 8 + off + 16 + 16 * f → d.length < 8 + off + 16 * f' →
      T.ParseIPv6HeaderRouting_loop1 d res le (f + 1) m off entry =
        .ok ({ m with ipv6RoutingHeaderAddresses :=
                srv6Loop d res.Size le.toNat f' off entry m.ipv6RoutingHeaderAddresses },
             srv6End d res.Size le.toNat f' off entry) := by
  intro f
  induction f with
  | zero =>
    intro f' m off entry h1 h2
    have hc : ¬ (8 + off + 16 ≤ d.length) := by omega
    rw [T.ParseIPv6HeaderRouting_loop1]
    cases f' <;> simp [srv6Loop, srv6End, hc]
  | succ f ih =>
    intro f' m off entry h1 h2
    by_cases hc : (8 + off < res.Size ∧ 8 + off + 16 ≤ d.length) ∧ entry ≤ le.toNat
    · cases f' with
      | zero => omega
      | succ f' =>
        have h := ih f' { m with ipv6RoutingHeaderAddresses := m.ipv6RoutingHeaderAddresses ++ [sl d (8 + off) (8 + off + 16)] }
          (off + 16) (entry + 1) (by omega) (by omega)
        rw [T.ParseIPv6HeaderRouting_loop1]
        have hc' : 8 + off < res.Size ∧ 8 + off + 16 ≤ d.length ∧ entry ≤ le.toNat := ⟨hc.1.1, hc.1.2, hc.2⟩
        simp (disch := omega) [hc, hc', slice_ok, srv6Loop, srv6End, h]
    · rw [T.ParseIPv6HeaderRouting_loop1]
      have hc' : ¬ (8 + off < res.Size ∧ 8 + off + 16 ≤ d.length ∧ entry ≤ le.toNat) := fun h => hc ⟨⟨h.1, h.2.1⟩, h.2.2⟩
      cases f' <;> simp [srv6Loop, srv6End, hc, hc']

theorem parseIPv6HeaderRouting_eq (m : FlowMsg) (d : Bytes) (pc : PC) :
    T.ParseIPv6HeaderRouting m d pc = .ok (parseIPv6HeaderRouting m d pc) := by
  unfold T.ParseIPv6HeaderRouting parseIPv6HeaderRouting
  refine guard_eq fun h => ?_
  have key := fun res le m => srv6_loop d res le d.length (d.length / 16 + 1) m 0 0 (by omega) (by omega)
  go_simp [Go.loopFuel, key, decide_eq_true_eq, ofNat_u8_eq]

/-- the label that the translated MPLS loop appends for the entry at `off` -/
def mLabel (d : Bytes) (off : Nat) : UInt32 := Go.shr32 (UInt32.ofNat (be d off 3)) 4
/-- the TTL that the translated MPLS loop appends for the entry at `off` -/
def mTtl (d : Bytes) (off : Nat) : UInt32 := (UInt8.ofNat (u8 d (off + 3))).toUInt32
/-- the two-byte `etherType` slice of the translated code for the model's optional pair -/
def etBytes : Option (Nat × Nat) → Bytes
  | none => []
  | some (a, b) => [UInt8.ofNat a, UInt8.ofNat b]
/-- the ethertype guessed from the version nibble of the byte at `o` (the one after the bottom of the stack) -/
def mPeekO (d : Bytes) (o : Nat) : Option (Nat × Nat) :=
  if d.length > o then (if u8 d o / 16 = 4 then some (0x08, 0x00) else if u8 d o / 16 = 6 then some (0x86, 0xdd) else none) else none
/-- `mPeekO` as the translated code holds it -/
def mPeek (d : Bytes) (o : Nat) : Bytes := etBytes (mPeekO d o)

theorem mpls_step (d : Bytes) (n off : Nat) (ls ts : List UInt32) (h : off + 4 ≤ d.length) :
    T.ParseMPLS_loop1 d (n + 1) [] ls ts true off =
      if (u8 d (off + 2) % 2 = 1 ∨ be d off 3 / 16 ≤ 15 ∨ off + 4 > d.length) then
        T.ParseMPLS_loop1 d n (mPeek d (off + 4)) (ls ++ [mLabel d off]) (ts ++ [mTtl d off]) false (off + 4)
      else T.ParseMPLS_loop1 d n [] (ls ++ [mLabel d off]) (ts ++ [mTtl d off]) true (off + 4) := by
  rw [T.ParseMPLS_loop1]
  have hA : ¬ d.length < off + 4 := by omega
  -- the reads of the label word, once; what is left is the choice of the peeked ethertype
  simp (disch := omega) only [hA, ↓reduceIte, decide_false, Bool.false_eq_true, idx_ok, slice_ok, beU32_pad1, List.cons_append,
    List.nil_append, ok_bind, u8_and1_eq, shr8_and240_eq, shr32_be3_le, Bool.or_eq_true, decide_eq_true_eq, gt_iff_lt,
    toNat_ofNat_u8, UInt8.reduceToNat]
  have ht : mTtl d off = UInt32.ofNat (u8 d (off + 3)) := by rw [mTtl, ← UInt32.ofNat_uInt8ToNat, toNat_ofNat_u8]
  by_cases hP : off + 4 < d.length
  · by_cases h4 : u8 d (off + 4) / 16 = 4
    · simp [hP, h4, mLabel, ht, mPeek, mPeekO, etBytes]
    · by_cases h6 : u8 d (off + 4) / 16 = 6
      · simp [hP, h4, h6, mLabel, ht, mPeek, mPeekO, etBytes]
      · simp [hP, h4, h6, mLabel, ht, mPeek, mPeekO, etBytes]
  · simp [hP, mLabel, ht, mPeek, mPeekO, etBytes]

theorem mpls_stop (d : Bytes) (n off : Nat) (e : Bytes) (ls ts : List UInt32) :
    T.ParseMPLS_loop1 d (n + 1) e ls ts false off = .ok (e, ls, ts, false, off) := by
  rw [T.ParseMPLS_loop1]; simp

theorem mpls_short (d : Bytes) (n off : Nat) (e : Bytes) (ls ts : List UInt32) (h : d.length < off + 4) :
    T.ParseMPLS_loop1 d (n + 1) e ls ts true off = .ok (e, ls, ts, true, off) := by
  rw [T.ParseMPLS_loop1]; simp [h]

theorem mLabel_toNat (d : Bytes) (off : Nat) : (mLabel d off).toNat = be d off 3 / 16 := by
  rw [mLabel, shr32_toNat, toNat_ofNat_be32 d off (by omega)]
theorem mTtl_toNat (d : Bytes) (off : Nat) : (mTtl d off).toNat = u8 d (off + 3) := by
  simp [mTtl]

theorem mPeekO_cases (d : Bytes) (o : Nat) : mPeekO d o = none ∨ mPeekO d o = some (8, 0) ∨ mPeekO d o = some (134, 221) := by
  unfold mPeekO
  by_cases h : d.length > o <;> by_cases h4 : u8 d o / 16 = 4 <;> by_cases h6 : u8 d o / 16 = 6 <;> simp [h, h4, h6]

theorem mplsLoop_step (d : Bytes) (f' off : Nat) (ls ts : List Nat) (h : off + 4 ≤ d.length) :
    mplsLoop d (f' + 1) off ls ts =
      if (u8 d (off + 2) % 2 = 1 ∨ be d off 3 / 16 ≤ 15 ∨ off + 4 > d.length) then
        (ls ++ [be d off 3 / 16], ts ++ [u8 d (off + 3)], off + 4, mPeekO d (off + 4))
      else mplsLoop d f' (off + 4) (ls ++ [be d off 3 / 16]) (ts ++ [u8 d (off + 3)]) := by
  rw [mplsLoop, if_neg (by omega)]
  rfl

theorem mplsLoop_short (d : Bytes) (f' off : Nat) (ls ts : List Nat) (h : d.length < off + 4) :
    mplsLoop d f' off ls ts = (ls, ts, off, none) := by
  cases f' <;> simp [mplsLoop, h]

/-- the label loop of ParseMPLS against the model's `mplsLoop` (result `r`): the translated loop ends well with the same
    offset and the ethertype of `r` as bytes; its labels and its TTLs are those of `r` as `uint32`; and the ethertype of `r` is
    absent, IPv4 or IPv6 -/
theorem mpls_loop (d : Bytes) : ∀ (n f' off : Nat) (ls ts : List UInt32) (r : List Nat × List Nat × Nat × Option (Nat × Nat)),
    d.length < off + 4 * n + 4 → d.length < off + 4 * f' + 4 → mplsLoop d f' off (ls.map UInt32.toNat) (ts.map UInt32.toNat) = r →
    ∃ (L Tt : List UInt32) (it : Bool),
      T.ParseMPLS_loop1 d (n + 1) [] ls ts true off = .ok (etBytes r.2.2.2, L, Tt, it, r.2.2.1) ∧
      L.map UInt32.toNat = r.1 ∧ Tt.map UInt32.toNat = r.2.1 ∧ (r.2.2.2 = none ∨ r.2.2.2 = some (8, 0) ∨ r.2.2.2 = some (134, 221)) := by
  intro n
  induction n with
  | zero =>
    intro f' off ls ts r h1 h2 hr
    subst hr
    have hA : d.length < off + 4 := by omega
    exact ⟨ls, ts, true, by simp [mpls_short, mplsLoop_short, hA, etBytes]⟩
  | succ n ih =>
    intro f' off ls ts r h1 h2 hr
    subst hr
    by_cases hA : d.length < off + 4
    · exact ⟨ls, ts, true, by simp [mpls_short, mplsLoop_short, hA, etBytes]⟩
    · cases f' with
      | zero => omega
      | succ f' =>
        by_cases hB : (u8 d (off + 2) % 2 = 1 ∨ be d off 3 / 16 ≤ 15 ∨ off + 4 > d.length)
        · refine ⟨ls ++ [mLabel d off], ts ++ [mTtl d off], false, ?_⟩
          rw [mpls_step d (n + 1) off ls ts (by omega), if_pos hB, mpls_stop, mplsLoop_step d f' off _ _ (by omega), if_pos hB]
          simp [mPeek, mLabel_toNat, mTtl_toNat, mPeekO_cases]
        · obtain ⟨L, Tt, it, e1, e2, e3, e4⟩ := ih f' (off + 4) (ls ++ [mLabel d off]) (ts ++ [mTtl d off]) _ (by omega) (by omega) rfl
          refine ⟨L, Tt, it, ?_⟩
          rw [mpls_step d (n + 1) off ls ts (by omega), if_neg hB, mplsLoop_step d f' off _ _ (by omega), if_neg hB]
          simp only [List.map_append, List.map_cons, List.map_nil, mLabel_toNat, mTtl_toNat] at e1 e2 e3 e4
          exact ⟨e1, e2, e3, e4⟩

theorem parseMPLS_eq (m : FlowMsg) (d : Bytes) (pc : PC) : T.ParseMPLS m d pc = .ok (parseMPLS m d pc) := by
  unfold T.ParseMPLS parseMPLS
  refine guard_eq fun h => ?_
  generalize hr : mplsLoop d (d.length / 4 + 1) 0 [] [] = r
  obtain ⟨L, Tt, it, e1, e2, e3, e4⟩ := mpls_loop d d.length (d.length / 4 + 1) 0 [] [] r (by omega) (by omega) hr
  rcases r with ⟨ls, ts, off, et⟩
  simp only at e1 e2 e3 e4
  -- the loop once; what is left is the peeked ethertype (three values) and the two kinds of layer
  simp only [Go.loopFuel, e1, ok_bind, e2, e3, Go.AddLayer, envIsNil_eq, Go.BaseLayer]
  rcases pc with ⟨enc, calls, ports⟩
  rcases e4 with rfl | rfl | rfl <;> cases enc <;>
    simp [etBytes, Go.beU16, Go.NextParserEtype, beNat, Go.ret]

end parsers

theorem parserNone_eq : T.parserNone = ⟨.none, [], false⟩ := by
  have : parserByName "none" = none := by decide +kernel
  simp [T.parserNone, Go.parserInfo, this]
theorem parserEthernet_eq : T.parserEthernet = ⟨.ethernet, Parser.ethernet.keys, false⟩ := parserInfo_eq (by decide +kernel) (by decide +kernel)
theorem parser8021Q_eq : T.parser8021Q = ⟨.dot1q, Parser.dot1q.keys, false⟩ := parserInfo_eq (by decide +kernel) (by decide +kernel)
theorem parserMPLS_eq : T.parserMPLS = ⟨.mpls, Parser.mpls.keys, false⟩ := parserInfo_eq (by decide +kernel) (by decide +kernel)
theorem parserIPv4_eq : T.parserIPv4 = ⟨.ipv4, Parser.ipv4.keys, false⟩ := parserInfo_eq (by decide +kernel) (by decide +kernel)
theorem parserIPv6HeaderRouting_eq : T.parserIPv6HeaderRouting = ⟨.ipv6route, Parser.ipv6route.keys, false⟩ := parserInfo_eq (by decide +kernel) (by decide +kernel)
theorem parserIPv6HeaderFragment_eq : T.parserIPv6HeaderFragment = ⟨.ipv6frag, Parser.ipv6frag.keys, false⟩ := parserInfo_eq (by decide +kernel) (by decide +kernel)
theorem parserTCP_eq : T.parserTCP = ⟨.tcp, Parser.tcp.keys, false⟩ := parserInfo_eq (by decide +kernel) (by decide +kernel)
theorem parserUDP_eq : T.parserUDP = ⟨.udp, Parser.udp.keys, false⟩ := parserInfo_eq (by decide +kernel) (by decide +kernel)
theorem parserICMP_eq : T.parserICMP = ⟨.icmp, Parser.icmp.keys, false⟩ := parserInfo_eq (by decide +kernel) (by decide +kernel)
theorem parserICMPv6_eq : T.parserICMPv6 = ⟨.icmpv6, Parser.icmpv6.keys, false⟩ := parserInfo_eq (by decide +kernel) (by decide +kernel)
theorem parserGRE_eq : T.parserGRE = ⟨.gre, Parser.gre.keys, false⟩ := parserInfo_eq (by decide +kernel) (by decide +kernel)
theorem parserTeredoDst_eq : T.parserTeredoDst = ⟨.teredo, Parser.teredo.keys, false⟩ := parserInfo_eq (by decide +kernel) (by decide +kernel)
theorem parserGeneve_eq : T.parserGeneve = ⟨.geneve, Parser.geneve.keys, false⟩ := parserInfo_eq (by decide +kernel) (by decide +kernel)

theorem nextParserProto_eq (pc : PC) (b : UInt8) : T.NextParserProto b = Go.NextParserProto pc b := by
  unfold T.NextParserProto T.innerNextParserProto Go.NextParserProto nextParserProto
  simp only [Go.customProtoLoad, u8_eq_iff b]
  generalize b.toNat = n
  simp [parserNone_eq, parserIPv4_eq, parserIPv6_eq, parserIPv6HeaderRouting_eq, parserIPv6HeaderFragment_eq, parserTCP_eq, parserUDP_eq,
    parserICMP_eq, parserICMPv6_eq, parserGRE_eq, Go.fmtD]
  have hk : Parser.none.keys = [] := rfl
  by_cases h1 : n = 1; · simp [h1]
  by_cases h4 : n = 4; · simp [h4]
  by_cases h6 : n = 6; · simp [h6]
  by_cases h17 : n = 17; · simp [h17]
  by_cases h41 : n = 41; · simp [h41]
  by_cases h43 : n = 43; · simp [h43]
  by_cases h44 : n = 44; · simp [h44]
  by_cases h47 : n = 47; · simp [h47]
  by_cases h58 : n = 58; · simp [h58]
  simp [h1, h4, h6, h17, h41, h43, h44, h47, h58, hk]

theorem nextParserEtype_eq (pc : PC) (e : Bytes) : T.NextParserEtype e = Go.NextParserEtype pc e := by
  unfold T.NextParserEtype T.innerNextParserEtype
  match e with
  | [] => simp [Go.NextParserEtype, Go.idx]
  | [_] => simp [Go.NextParserEtype, Go.idx]
  | a :: b :: c :: r => simp [Go.NextParserEtype, Go.idx, parserNone_eq, etype_or, Go.fmtD, Go.fmtX4]
  | [a, b] =>
    simp only [u16_eq_iff (Go.shl16 _ 8 ||| _)]
    simp [Go.NextParserEtype, Go.idx, parserNone_eq, etype_or, etype_toNat, Go.fmtD, Go.fmtX4, Go.customEtypeLoad, nextParserEtype,
      parserEthernet_eq, parser8021Q_eq, parserMPLS_eq, parserIPv4_eq, parserIPv6_eq]
    generalize a.toNat * 256 + b.toNat = n
    have hk : Parser.none.keys = [] := rfl
    by_cases h1 : n = 6558; · simp [h1]
    by_cases h2 : n = 25944; · simp [h2]
    by_cases h3 : n = 34887; · simp [h3]
    by_cases h4 : n = 33024; · simp [h4]
    by_cases h5 : n = 2048; · simp [h5]
    by_cases h6 : n = 34525; · simp [h6]
    simp [h1, h2, h3, h4, h5, h6, hk]

/-- every parser of the table: the regenerated Go body is the model's `runParser` -/
theorem translated_parsers_eq (m : FlowMsg) (d : Bytes) (pc : PC) :
    T.ParseEthernet m d pc = .ok (runParser .ethernet m d pc) ∧
    T.Parse8021Q m d pc = .ok (runParser .dot1q m d pc) ∧
    T.ParseMPLS m d pc = .ok (runParser .mpls m d pc) ∧
    T.ParseIPv4 m d pc = .ok (runParser .ipv4 m d pc) ∧
    T.ParseIPv6 m d pc = .ok (runParser .ipv6 m d pc) ∧
    T.ParseIPv6HeaderRouting m d pc = .ok (runParser .ipv6route m d pc) ∧
    T.ParseIPv6HeaderFragment m d pc = .ok (runParser .ipv6frag m d pc) ∧
    T.ParseTCP m d pc = .ok (runParser .tcp m d pc) ∧
    T.ParseUDP m d pc = .ok (runParser .udp m d pc) ∧
    T.ParseICMP m d pc = .ok (runParser .icmp m d pc) ∧
    T.ParseICMPv6 m d pc = .ok (runParser .icmpv6 m d pc) ∧
    T.ParseGRE m d pc = .ok (runParser .gre m d pc) ∧
    T.ParseTeredoDst m d pc = .ok (runParser .teredo m d pc) ∧
    T.ParseGeneve m d pc = .ok (runParser .geneve m d pc) :=
  ⟨parseEthernet_eq m d pc, parse8021Q_eq m d pc, parseMPLS_eq m d pc, parseIPv4_eq m d pc, parseIPv6_eq m d pc,
   parseIPv6HeaderRouting_eq m d pc, parseIPv6HeaderFragment_eq m d pc, parseTCP_eq m d pc, parseUDP_eq m d pc,
   parseICMP_eq m d pc, parseICMPv6_eq m d pc, parseGRE_eq m d pc, parseTeredoDst_eq m d pc, parseGeneve_eq m d pc⟩

end Goflow.C10Trans
