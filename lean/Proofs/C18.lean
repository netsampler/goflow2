import Goflow.Conc.Receiver
import Goflow.Generated.Sync
import Proofs.C17
/-!
  C18 — Receiver start/stop never deadlocks and stopping loses nothing accepted.

  Call level: every Start / Stop sequence returns the results of the specification, and the quit channel is open
  after every call. Goroutine level (the transition system of Proofs/C17.lean): under `DrainInv`, Stop returns only
  after every datagram accepted into the queue has been decoded (`stop_drains`), and a Stop that has not returned
  yet can always take a step (`stop_not_stuck`). Ties to utils/udp.go and cmd/goflow2/main.go: `skeleton_matches`,
  `shutdown_order`, `startup_order`.
-/
namespace Goflow.C18
open Goflow Goflow.Conc.Receiver

/-- the `ready`-channel protocol of the code returns an error exactly on Start of a started receiver and Stop of a
    stopped one, for every sequence of calls; a stopped receiver can be started again -/
theorem start_stop_results (calls : List Call) : callResults true calls = specResults false calls := by
  have key : ∀ (rc : Bool) (calls : List Call), callResults rc calls = specResults (!rc) calls := by
    intro rc calls
    induction calls generalizing rc with
    | nil => rfl
    | cons c rest ih =>
      cases c <;> cases rc <;> simp [callResults, callStep, specResults, ih]
  simpa using key true calls

/-- the order of the shutdown calls in main(): receivers are stopped before the producer and the
    transport are closed (regenerated from cmd/goflow2/main.go) -/
theorem shutdown_order :
    Goflow.Generated.shutdownOrder =
      ["recv.Stop", "pipe.Close", "flowProducer.Close", "transporter.Close", "srv.Shutdown", "close(q)", "wg.Wait"] :=
  rfl

/-- main() installs the SIGTERM / SIGINT handler before it starts the first receiver and waits for the signal after the
    last one: a signal that arrives while the collector is still starting is parked, not fatal, and the datagrams taken
    in by the receivers already running go through the orderly shutdown (regenerated from cmd/goflow2/main.go) -/
theorem startup_order :
    Goflow.Generated.startupOrder = ["signal.Notify", "start receivers", "<-c"] :=
  rfl

/-- the synchronisation skeleton of Stop / Start / init / the readers and the workers is the one the
    transition system was written for (regenerated from utils/udp.go) -/
theorem skeleton_matches :
    Goflow.Generated.skStop = ["select{<-r.q | default}", "close(r.q)", "r.dispatch <- nil", "r.wg.Wait()", "r.init()"] ∧
    Goflow.Generated.skStart = ["select{<-r.ready | default}", "r.ready = make(chan bool)"] ∧
    Goflow.Generated.skInit = ["r.q = make(chan bool)", "select{<-r.ready | default}", "close(r.ready)"] ∧
    Goflow.Generated.skDecoders = ["r.wg.Add(1)", "go", "defer r.wg.Done()", "range r.dispatch", "decodeFunc(&msg)", "packetPool.Put(pkt)"] :=
  ⟨rfl, rfl, rfl, rfl⟩

/-- `init()` recreates `r.q` before it looks at `ready` (`skInit`), so also a Stop on a stopped receiver, which closes
    `q` and then fails in `init`, leaves a fresh, open `q` behind: the readers of the next successful Start are not
    told to quit by a leftover closed channel -/

theorem quit_open_after_every_call (calls : List Call) : (callRun2 callInit calls).1.qClosed = false := by
  have key : ∀ (s : CallSt), s.qClosed = false → ∀ calls, (callRun2 s calls).1.qClosed = false := by
    intro s hs calls
    induction calls generalizing s with
    | nil => simpa [callRun2] using hs
    | cons c rest ih =>
      simp only [callRun2]
      apply ih
      cases c
      · simp only [callStep2]; split <;> simpa using hs
      · simp only [callStep2, initStep]; split <;> rfl
  exact key callInit rfl calls

/-- the two-flag model returns the same results as the one-flag model (and hence as the specification) -/
theorem callRun2_results (calls : List Call) : (callRun2 callInit calls).2 = callResults true calls := by
  have key : ∀ (s : CallSt) calls, (callRun2 s calls).2 = callResults s.readyClosed calls := by
    intro s calls
    induction calls generalizing s with
    | nil => rfl
    | cons c rest ih =>
      cases c <;> cases hr : s.readyClosed <;> simp [callRun2, callStep2, initStep, callResults, callStep, hr, ih]
  exact key callInit calls

def sentinels (q : List QItem) : Nat := q.count .sentinel
def alive (ws : List WPc) : Nat := (ws.filter (· != .exited)).length

def prefixIds : List QItem → List Nat
  | [] => []
  | .sentinel :: _ => []
  | .pkt _ d :: rest => d :: prefixIds rest

/-- relates Stop's sentinels to the live workers, and the datagrams queued before Stop to where they are now -/
def DrainInv (st : St) : Prop :=
  (st.qClosed = false → sentinels st.queue = 0 ∧ st.toSend = 0 ∧ st.sentinelTaken = false ∧ st.preStop = []) ∧
  (st.qClosed = true → st.toSend + sentinels st.queue = alive st.workers) ∧
  (∀ d ∈ st.preStop, d ∈ prefixIds st.queue ∨ d ∈ workerIds st.workers ∨ d ∈ st.decoded) ∧
  (st.sentinelTaken = true → ∀ d ∈ st.preStop, d ∈ workerIds st.workers ∨ d ∈ st.decoded) ∧
  ((∃ w : Nat, st.workers[w]? = some WPc.exited) → st.sentinelTaken = true)

def aliveBit : WPc → Nat
  | .exited => 0
  | _ => 1

private theorem alive_eq_sum (ws : List WPc) : alive ws = (ws.map aliveBit).sum := by
  induction ws with
  | nil => rfl
  | cons x xs ih =>
    rw [List.map_cons, List.sum_cons, ← ih]
    cases x <;> simp [alive, aliveBit, Nat.add_comm]

private theorem alive_set (ws : List WPc) (w : Nat) (new old : WPc) (h : ws[w]? = some old) :
    alive (ws.set w new) + aliveBit old = alive ws + aliveBit new := by
  rw [alive_eq_sum, alive_eq_sum]
  exact sum_map_set aliveBit ws w old new h

private theorem mem_workerIds_set {ws : List WPc} {w : Nat} {old : WPc} (new : WPc) (h : ws[w]? = some old) {d : Nat}
    (hd : d ∈ workerIds ws) (hold : C17.widOf old ≠ some d) : d ∈ workerIds (ws.set w new) := by
  obtain ⟨p, hp, hpd⟩ := List.mem_filterMap.mp hd
  obtain ⟨j, hj⟩ := List.getElem?_of_mem hp
  have hwj : w ≠ j := fun e => hold (by subst e; rw [h] at hj; cases hj; exact hpd)
  refine List.mem_filterMap.mpr ⟨p, List.mem_of_getElem? (i := j) ?_, hpd⟩
  rw [getElem?_set_of_some new h, if_neg hwj]
  exact hj

private theorem mem_workerIds_set_new {ws : List WPc} {w : Nat} {old : WPc} (b d : Nat) (h : ws[w]? = some old) :
    d ∈ workerIds (ws.set w (.decoding b d)) :=
  List.mem_filterMap.mpr ⟨.decoding b d, List.mem_of_getElem? (i := w) (by rw [getElem?_set_of_some _ h, if_pos rfl]), rfl⟩

private theorem exited_set {ws : List WPc} {w : Nat} {new : WPc} (hne : new ≠ .exited) :
    (∃ w' : Nat, (ws.set w new)[w']? = some WPc.exited) → ∃ w' : Nat, ws[w']? = some WPc.exited := by
  rintro ⟨w', hw'⟩
  rcases getElem?_set_cases hw' with ⟨_, he⟩ | ⟨_, hw''⟩
  · exact absurd he hne
  · exact ⟨w', hw''⟩

private theorem sentinels_append (q : List QItem) (x : QItem) :
    sentinels (q ++ [x]) = sentinels q + (if x = .sentinel then 1 else 0) := by
  simp only [sentinels, List.count_append, List.count_cons, List.count_nil]
  cases x <;> simp

private theorem prefix_mono (q : List QItem) (x : QItem) (d : Nat) (h : d ∈ prefixIds q) : d ∈ prefixIds (q ++ [x]) := by
  induction q with
  | nil => simp [prefixIds] at h
  | cons y ys ih =>
    cases y with
    | sentinel => simp [prefixIds] at h
    | pkt b d0 =>
      simp only [prefixIds, List.cons_append, List.mem_cons] at h ⊢
      exact h.imp_right ih

private theorem prefix_all (q : List QItem) (h : sentinels q = 0) : prefixIds q = queueIds q := by
  induction q with
  | nil => rfl
  | cons y ys ih =>
    cases y with
    | sentinel => simp [sentinels] at h
    | pkt b d0 =>
      have : sentinels ys = 0 := by simpa [sentinels, List.count_cons] using h
      simp [prefixIds, queueIds, List.filterMap_cons] at ih ⊢
      exact ih this

theorem drainInv_init (cfg : Cfg) (r w : Nat) : DrainInv (init cfg r w) :=
  ⟨fun _ => ⟨rfl, rfl, rfl, rfl⟩, fun h => Bool.noConfusion h, fun d hd => (List.not_mem_nil hd).elim,
    fun h => Bool.noConfusion h, fun ⟨_, hw⟩ => WPc.noConfusion (getElem?_replicate_eq hw)⟩

theorem Step.drainInv {st st' : St} {e : Ev} (hinv : DrainInv st) (h : C17.Step st e st') : DrainInv st' := by
  obtain ⟨hA, hB, hC, hD, hE⟩ := hinv
  -- Stop has closed `q` as soon as there is a sentinel to send or in the queue
  have closed_of : 0 < st.toSend + sentinels st.queue → st.qClosed = true := fun hpos => by
    cases hc : st.qClosed with
    | true => rfl
    | false => have := hA hc; omega
  cases h with
  | readPool | readFresh | drop | quitIdle | quitHolding => exact ⟨hA, hB, hC, hD, hE⟩
  | dispatch =>
    refine ⟨fun hq => ?_, fun hq => ?_, fun d hd => ?_, hD, hE⟩
    · have := hA hq; simp only [sentinels_append]; simpa using this
    · have := hB hq; simp only [sentinels_append]; simpa using this
    · exact (hC d hd).imp_left (prefix_mono _ _ _)
  | @handoff r w b d0 _ hw =>
    have hal := alive_set st.workers w (.decoding b d0) .idle hw
    simp only [aliveBit] at hal
    have keep : ∀ {d}, d ∈ workerIds st.workers → d ∈ workerIds (st.workers.set w (.decoding b d0)) :=
      fun h1 => mem_workerIds_set _ hw h1 (fun h => by cases h)
    refine ⟨hA, fun hq => (by have := hB hq; dsimp only; omega), fun d hd => ?_, fun ht d hd => ?_,
      fun he => hE (exited_set WPc.noConfusion he)⟩
    · exact (hC d hd).imp_right (Or.imp_left keep)
    · exact (hD ht d hd).imp_left keep
  | @takePkt w b d0 rest hw hq =>
    have hal := alive_set st.workers w (.decoding b d0) .idle hw
    simp only [aliveBit] at hal
    have hs : sentinels st.queue = sentinels rest := by simp [hq, sentinels]
    have keep : ∀ {d}, d ∈ workerIds st.workers → d ∈ workerIds (st.workers.set w (.decoding b d0)) :=
      fun h1 => mem_workerIds_set _ hw h1 (fun h => by cases h)
    refine ⟨fun hc => ?_, fun hc => (by have := hB hc; dsimp only; omega), fun d hd => ?_, fun ht d hd => ?_,
      fun he => hE (exited_set WPc.noConfusion he)⟩
    · obtain ⟨a1, a2, a3, a4⟩ := hA hc; exact ⟨hs ▸ a1, a2, a3, a4⟩
    · rcases hC d hd with h1 | h1 | h1
      · -- it was in front of the first sentinel: it is the datagram taken, or still in front
        rw [hq] at h1
        rcases List.mem_cons.mp h1 with rfl | h1
        · exact .inr (.inl (mem_workerIds_set_new _ _ hw))
        · exact .inl h1
      · exact .inr (.inl (keep h1))
      · exact .inr (.inr h1)
    · exact (hD ht d hd).imp_left keep
  | @takeSentinel w rest hw hq =>
    have hal := alive_set st.workers w .exited .idle hw
    simp only [aliveBit] at hal
    have hs : sentinels st.queue = sentinels rest + 1 := by simp [hq, sentinels]
    have hclosed := closed_of (by omega)
    -- the sentinel was at the head: nothing queued before Stop is in the queue any more
    have hpre : ∀ d ∈ st.preStop, d ∈ workerIds (st.workers.set w .exited) ∨ d ∈ st.decoded := by
      intro d hd
      rcases hC d hd with h1 | h1 | h1
      · rw [hq] at h1; cases h1
      · exact .inl (mem_workerIds_set _ hw h1 (fun h => by cases h))
      · exact .inr h1
    exact ⟨fun hc => (by rw [hclosed] at hc; cases hc), fun _ => (by have := hB hclosed; dsimp only; omega),
      fun d hd => .inr (hpre d hd), fun _ => hpre, fun _ => rfl⟩
  | @finish w b d0 hw =>
    have hal := alive_set st.workers w .idle (.decoding b d0) hw
    simp only [aliveBit] at hal
    have move : ∀ d : Nat, d ∈ workerIds st.workers → d ∈ workerIds (st.workers.set w .idle) ∨ d ∈ d0 :: st.decoded := by
      intro d hd
      by_cases hdd : d0 = d
      · exact .inr (hdd ▸ List.mem_cons_self)
      · exact .inl (mem_workerIds_set _ hw hd (fun h => hdd (Option.some.inj h)))
    refine ⟨hA, fun hc => (by have := hB hc; dsimp only; omega), fun d hd => ?_, fun ht d hd => ?_,
      fun he => hE (exited_set WPc.noConfusion he)⟩
    · rcases hC d hd with h1 | h1 | h1
      · exact .inl h1
      · exact .inr (move d h1)
      · exact .inr (.inr (List.mem_cons_of_mem _ h1))
    · exact (hD ht d hd).elim (move d) fun h1 => .inr (List.mem_cons_of_mem _ h1)
  | stop hc =>
    obtain ⟨a1, a2, a3, a4⟩ := hA hc
    refine ⟨fun h => (by cases h), fun _ => (by rw [a1]; rfl), fun d hd => .inl ?_,
      fun ht => (by rw [a3] at ht; cases ht), hE⟩
    rw [prefix_all _ a1]; exact hd
  | sendSentinel hg =>
    have hclosed := closed_of (by omega)
    refine ⟨fun hc => (by rw [hclosed] at hc; cases hc), fun _ => ?_, fun d hd => ?_, hD, hE⟩
    · have := hB hclosed
      simp only [sentinels_append, if_true]
      omega
    · exact (hC d hd).imp_left (prefix_mono _ _ _)
  | @sentinelTo w hw hg =>
    have hal := alive_set st.workers w .exited .idle hw
    simp only [aliveBit] at hal
    have hclosed := closed_of (by omega)
    -- the hand-off needs an empty queue: nothing queued before Stop is in the queue any more
    have hpre : ∀ d ∈ st.preStop, d ∈ workerIds (st.workers.set w .exited) ∨ d ∈ st.decoded := by
      intro d hd
      rcases hC d hd with h1 | h1 | h1
      · rw [hg.2.2] at h1; cases h1
      · exact .inl (mem_workerIds_set _ hw h1 (fun h => by cases h))
      · exact .inr h1
    exact ⟨fun hc => (by rw [hclosed] at hc; cases hc), fun _ => (by have := hB hclosed; dsimp only; omega),
      fun d hd => .inr (hpre d hd), fun _ => hpre, fun _ => rfl⟩

theorem drainInv_step (st st' : St) (e : Ev) (hinv : DrainInv st) (h : step st e = some st') : DrainInv st' :=
  Step.drainInv hinv (.of_step h)

theorem drainInv_run (st : St) (sched : List Ev) (h : DrainInv st) : DrainInv (run st sched) :=
  C17.run_inv (fun _ _ _ hP hs => Step.drainInv hP hs) sched st h

/-- when Stop has returned (sentinels sent, every reader and worker gone), every datagram that was queued when Stop was
    called has been decoded, for any number of sockets and workers (at least one worker), any queue size and every
    schedule -/
theorem stop_drains (cfg : Cfg) (r w : Nat) (hw : 0 < w) (sched : List Ev) (d : Nat)
    (hstopped : stopped (run (init cfg r w) sched) = true)
    (hd : d ∈ (run (init cfg r w) sched).preStop) : d ∈ (run (init cfg r w) sched).decoded := by
  obtain ⟨_, _, hC, hD, hE⟩ := drainInv_run _ sched (drainInv_init cfg r w)
  generalize hst : run (init cfg r w) sched = st at *
  simp only [stopped, Bool.and_eq_true, List.all_eq_true, beq_iff_eq] at hstopped
  obtain ⟨⟨⟨_, _⟩, _⟩, hall⟩ := hstopped
  -- the number of workers never changes, so there is a worker, and it has exited
  have hlen : st.workers.length = w := by
    rw [← hst]
    exact C17.run_inv (P := fun s => s.workers.length = w)
      (fun _ _ _ hP hs => by cases hs <;> simpa using hP) sched _ (by simp [init])
  have h0 : st.workers[0]? = some WPc.exited := by
    have hlt : 0 < st.workers.length := by omega
    rw [List.getElem?_eq_getElem hlt]
    exact congrArg some (hall _ (List.getElem_mem hlt))
  have htaken := hE ⟨0, h0⟩
  rcases hD htaken d hd with h1 | h1
  · -- no worker is decoding any more
    exfalso
    have : workerIds st.workers = [] := by
      apply List.filterMap_eq_nil_iff.mpr
      intro p hp
      rw [hall p hp]
    rw [this] at h1; cases h1
  · exact h1

private theorem all_or_exists {α} [DecidableEq α] (l : List α) (a : α) :
    l.all (· == a) = true ∨ ∃ (i : Nat) (p : α), l[i]? = some p ∧ p ≠ a := by
  by_cases h : ∃ (i : Nat) (p : α), l[i]? = some p ∧ p ≠ a
  · exact .inr h
  · refine .inl (List.all_eq_true.mpr fun p hp => beq_iff_eq.mpr ?_)
    obtain ⟨i, hi⟩ := List.getElem?_of_mem hp
    exact Decidable.byContradiction fun hne => h ⟨i, p, hi, hne⟩

/-- the sentinel count matches the live workers, hence no deadlock: while Stop is in progress some
    step is always enabled (given that decoder calls return, i.e. `finish` is a step) -/
theorem stop_not_stuck (cfg : Cfg) (r w : Nat) (sched : List Ev)
    (hclosed : (run (init cfg r w) sched).qClosed = true)
    (hnot : stopped (run (init cfg r w) sched) = false) :
    ∃ e, (step (run (init cfg r w) sched) e).isSome = true := by
  obtain ⟨_, hB, _, _, _⟩ := drainInv_run _ sched (drainInv_init cfg r w)
  generalize run (init cfg r w) sched = st at *
  have hB := hB hclosed
  rcases all_or_exists st.readers .exited with hallr | ⟨r', p, hp, hne⟩
  · rcases all_or_exists st.workers .exited with hallw | ⟨w', p, hp, hne⟩
    · -- everybody has exited: then Stop has nothing left to send, i.e. it has returned
      exfalso
      have hal0 : alive st.workers = 0 := by
        simp only [alive, List.length_eq_zero_iff, List.filter_eq_nil_iff]
        intro p hp
        simp only [List.all_eq_true, beq_iff_eq] at hallw
        simp [hallw p hp]
      have : st.toSend = 0 := by omega
      simp [stopped, hclosed, this, hallr, hallw] at hnot
    · cases p with
      | exited => exact absurd rfl hne
      | decoding b d => exact ⟨.finish w', by simp [step, hp]⟩
      | idle =>
        cases hq : st.queue with
        | cons x rest =>
          refine ⟨.take w', ?_⟩
          cases x <;> simp [step, hp, hq]
        | nil =>
          -- an idle worker and an empty queue: Stop still owes it a sentinel
          have hal : 0 < alive st.workers :=
            List.length_pos_of_mem (List.mem_filter.mpr ⟨List.mem_of_getElem? hp, by decide⟩)
          have hsend : 0 < st.toSend := by
            simp only [hq, sentinels, List.count_nil] at hB; omega
          by_cases hcap : st.cfg.qcap = 0
          · exact ⟨.sentinelTo w', by simp [step, hp, hsend, hcap, hq]⟩
          · exact ⟨.sendSentinel, by simp [step, hsend, hq]; omega⟩
  · -- a reader that has not exited can quit
    refine ⟨.quit r', ?_⟩
    simp only [step, hclosed, Bool.not_true, Bool.false_eq_true, if_false]
    cases p with
    | idle => simp [hp]
    | holding b d => simp [hp]
    | exited => exact absurd rfl hne

/-- `stopped` is reachable, with a datagram queued before Stop -/
example :
    let st := run (init ⟨true, 4⟩ 1 1) [.read 0, .dispatch 0, .read 0, .stop, .quit 0, .sendSentinel, .take 0, .finish 0, .take 0]
    stopped st = true ∧ st.preStop = [0] ∧ st.decoded = [0] ∧ st.lostAtStop = [1] := by decide

end Goflow.C18
