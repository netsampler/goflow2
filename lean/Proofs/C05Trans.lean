import Goflow.Generated.LegacyT
import Goflow.Decoders.NetflowLegacy
import Proofs.Lemmas.GoPrims
import Proofs.Lemmas.Fields
/-!
  C05 (translation tie) — the NetFlow v5 decoder. `DecodeMessageVersion` / `DecodeMessage` of
  decoders/netflowlegacy/netflow.go are regenerated into Lean on every run (Goflow/Generated/LegacyT.lean: the
  *bytes.Buffer is the remaining byte list, threaded through; `utils.BinaryDecoder` is one big-endian read per destination).
  `decodeMessageVersion_trans_eq`: for EVERY byte string (and whatever the packet behind the pointer held before) the
  translated body yields the model's packet — same header, same records — or stops with the same error class;
  it never panics (no `Records[i]` out of range, no bad `Records[:i]`) and the record loop ends within its fuel.
-/
set_option linter.unusedSimpArgs false
namespace Goflow.C05Trans
open Goflow Goflow.Producer Goflow.Generated Goflow.Go Goflow.V5

def recOf (r : TL.RecordsNetFlowV5) : V5.Record :=
  { srcAddr := r.SrcAddr.toNat, dstAddr := r.DstAddr.toNat, nextHop := r.NextHop.toNat, input := r.Input.toNat, output := r.Output.toNat, dPkts := r.DPkts.toNat, dOctets := r.DOctets.toNat, first := r.First.toNat, last := r.Last.toNat, srcPort := r.SrcPort.toNat, dstPort := r.DstPort.toNat, pad1 := r.Pad1.toNat, tcpFlags := r.TCPFlags.toNat, proto := r.Proto.toNat, tos := r.Tos.toNat, srcAS := r.SrcAS.toNat, dstAS := r.DstAS.toNat, srcMask := r.SrcMask.toNat, dstMask := r.DstMask.toNat, pad2 := r.Pad2.toNat }

def packetOf (p : TL.PacketNetFlowV5) : V5.Packet :=
  ⟨p.Version.toNat, ⟨p.Count.toNat, p.SysUptime.toNat, p.UnixSecs.toNat, p.UnixNSecs.toNat, p.FlowSequence.toNat,
    p.EngineType.toNat, p.EngineId.toNat, p.SamplingInterval.toNat⟩, p.Records.map recOf⟩

theorem readRecords_succ (n : Nat) (b : Bytes) :
    readRecords (n + 1) b =
      if 48 ≤ b.length then
        thenR (readFields Record.widths b) fun vs b' =>
          match Record.ofList vs with
          | some r => (readRecords n b').map (r :: ·)
          | none => .error .panic
      else .ok [] := by
  rw [readRecords]
  split
  · fun_cases readRecord b
    all_goals simp only [thenR, *]
    all_goals cases readRecords n _ <;> rfl
  · rfl

/-- what DecodeMessage makes of the outcome of its record loop: `Records[:i]`, then the model's packet -/
def fin (r : Res (Bytes × TL.PacketNetFlowV5 × Nat)) : Res V5.Packet :=
  (r >>= fun t_31 => Go.sliceToL t_31.2.1.Records t_31.2.2 >>= fun t_32 =>
    .ok (t_31.1, { t_31.2.1 with Records := t_32 })).map (fun r => packetOf r.2)

theorem fin_err (e : Err) : fin (.error e) = .error e := rfl

/-- the record loop of DecodeMessage: the slots it fills hold the records the model reads -/
theorem loop_fin : ∀ (fuel : Nat) (b : Bytes) (pk : TL.PacketNetFlowV5) (i : Nat),
    pk.Records.length = pk.Count.toNat → i ≤ pk.Count.toNat → b.length < fuel →
    fin (TL.DecodeMessage_loop1 fuel b pk i) =
      (readRecords (pk.Count.toNat - i) b).map fun rs =>
        ⟨(packetOf pk).version, (packetOf pk).header, (pk.Records.take i).map recOf ++ rs⟩ := by
  intro fuel
  induction fuel with
  | zero => intro b pk i _ _ h; omega
  | succ fuel ih =>
    intro b pk i hlen hi hf
    by_cases hc : i < pk.Count.toNat ∧ 48 ≤ b.length
    · obtain ⟨hc1, hc2⟩ := hc
      have hcb : (decide (i < pk.Count.toNat) && decide (b.length ≥ 48)) = true := by simp [hc1, hc2]
      obtain ⟨k, hk⟩ : ∃ k, pk.Count.toNat - i = k + 1 := ⟨pk.Count.toNat - i - 1, by omega⟩
      have hk' : pk.Count.toNat - (i + 1) = k := by omega
      rw [hk, readRecords_succ, if_pos hc2, thenR_map]
      simp only [Record.widths, thenR_readFields_cons, thenR_readFields_nil]
      simp only [Record.ofList]  -- apart from the unrolling: tried against every partial list it is slow
      rw [TL.DecodeMessage_loop1, if_pos hcb]
      iterate 3 (apply readU32_simP _ fin_err; intro _ _ _)
      iterate 2 (apply readU16_simP _ fin_err; intro _ _ _)
      iterate 4 (apply readU32_simP _ fin_err; intro _ _ _)
      iterate 2 (apply readU16_simP _ fin_err; intro _ _ _)
      iterate 4 (apply readU8_simP _ fin_err; intro _ _ _)
      iterate 2 (apply readU16_simP _ fin_err; intro _ _ _)
      iterate 2 (apply readU8_simP _ fin_err; intro _ _ _)
      apply readU16_simP _ fin_err; intro _ b' _
      have hb' : b'.length < fuel := by dsimp only at *; omega
      simp only [Go.setIdxL, hlen, hc1, if_true, ok_bind]
      rw [ih _ _ (i + 1) (by simp [hlen]) (by show i + 1 ≤ pk.Count.toNat; omega) hb']
      simp only [hk']
      cases readRecords k b' with
      | error e => rfl
      | ok rs =>
        simp only [Except.map, take_set_succ _ _ _ (by omega : i < pk.Records.length), List.map_append, List.append_assoc]
        simp [packetOf, recOf]
    · have hcb : (decide (i < pk.Count.toNat) && decide (b.length ≥ 48)) = false := by
        simp only [Bool.and_eq_false_iff, decide_eq_false_iff_not]; omega
      have hm : readRecords (pk.Count.toNat - i) b = .ok [] := by
        cases hk : pk.Count.toNat - i with
        | zero => rfl
        | succ k => rw [readRecords_succ, if_neg (by omega)]
      have hi' : i ≤ pk.Records.length := by omega
      rw [TL.DecodeMessage_loop1]
      simp [hcb, hm, fin, Go.sliceToL, hi', Except.map, packetOf]

theorem decodeMessage_eq (b : Bytes) :
    decodeMessage b = thenR (readFields Header.widths b) fun vs b' =>
      match Header.ofList vs with
      | none => .error .panic
      | some h => (readRecords h.count b').map fun rs => ⟨5, h, rs⟩ := by
  fun_cases decodeMessage b
  all_goals simp only [thenR, Except.map, *]

theorem decodeMessage_trans_eq (b : Bytes) (pk : TL.PacketNetFlowV5) (hv : pk.Version = 5) :
    (TL.DecodeMessage b pk).map (fun r => packetOf r.2) = decodeMessage b := by
  rw [decodeMessage_eq]
  unfold TL.DecodeMessage
  simp only [Header.widths, thenR_readFields_cons, thenR_readFields_nil, Header.ofList]
  apply readU16_sim; intro _ _
  iterate 4 (apply readU32_sim; intro _ _)
  iterate 2 (apply readU8_sim; intro _ _)
  apply readU16_sim; intro _ b'
  simp only [Go.makeL, ok_bind]
  refine (loop_fin _ _ _ 0 (by simp) (Nat.zero_le _) (by simp [Go.loopFuel])).trans ?_
  simp only [Nat.sub_zero, List.take_zero, List.map_nil, List.nil_append, packetOf, hv]
  rfl

/-- netflowlegacy.DecodeMessageVersion, for every byte string and whatever the packet held before: the same header,
    the same records, the same error class as the model -/
theorem decodeMessageVersion_trans_eq (b : Bytes) (pk : TL.PacketNetFlowV5) :
    (TL.DecodeMessageVersion b pk).map (fun r => packetOf r.2) = decodeMessageVersion b := by
  have hm : decodeMessageVersion b = thenR (readU 2 b) fun v b' => if v ≠ 5 then .error .bad else decodeMessage b' := by
    fun_cases decodeMessageVersion b
    all_goals simp only [thenR, *, ne_eq, not_false_eq_true, not_true_eq_false, if_true, if_false]
  rw [hm]
  unfold TL.DecodeMessageVersion
  apply readU16_sim; intro v b'
  apply cond_sim _ (decide_eq_true_iff.trans (not_congr (UInt16.toNat_inj (b := 5)).symm))
  · intro _; rfl
  · intro h; exact decodeMessage_trans_eq _ _ (UInt16.toNat_inj.1 (Decidable.not_not.1 h))

end Goflow.C05Trans
