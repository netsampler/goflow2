import Goflow.Generated.NetflowDecT
import Goflow.Decoders.Netflow
import Proofs.Lemmas.GoPrims
import Proofs.Lemmas.Netflow
/-!
  C03 (translation tie, first part) — `GetTemplateSize` of decoders/netflow/netflow.go, as regenerated in
  Goflow/Generated/NetflowDecT.lean, equals the model's `templateSize`: a variable-length field (length 0xffff)
  counts one byte, every other field its length.
-/
set_option linter.unusedSimpArgs false
namespace Goflow.C03Trans
open Goflow Goflow.Producer Goflow.Generated Goflow.Go Goflow.Netflow

def fieldOf (f : TD.Field) : Netflow.Field := ⟨f.PenProvided, f.Type.toNat, f.Length.toNat, f.Pen.toNat⟩

theorem idxL_getElem {α : Type} {l : List α} {i : Nat} (h : i < l.length) : Go.idxL l i = .ok l[i] := by
  simp [Go.idxL, List.getElem?_eq_getElem h]

theorem getTemplateSize_loop (tpl : List TD.Field) : ∀ (fuel sum rng : Nat), rng ≤ tpl.length → tpl.length - rng < fuel →
    TD.GetTemplateSize_loop1 tpl tpl.length fuel sum rng =
      .ok (sum + templateSize ((tpl.drop rng).map fieldOf), tpl.length) := by
  intro fuel
  induction fuel with
  | zero => intro sum rng _ h; omega
  | succ fuel ih =>
    intro sum rng h1 h2
    rw [TD.GetTemplateSize_loop1]
    by_cases hr : rng < tpl.length
    · have hd : tpl.drop rng = tpl[rng] :: tpl.drop (rng + 1) := List.drop_eq_getElem_cons hr
      rw [hd, List.map_cons, templateSize_cons]
      simp only [hr, decide_true, if_true, idxL_getElem hr, ok_bind]
      by_cases hv : tpl[rng].Length = 65535
      · have hv' : (fieldOf tpl[rng]).length = 0xffff := by simp [fieldOf, hv]
        simp [hv, hv', ih _ _ (Nat.succ_le_of_lt hr) (by omega : tpl.length - (rng + 1) < fuel), Nat.add_assoc]
      · have hv' : ¬ (fieldOf tpl[rng]).length = 0xffff := by
          intro h
          apply hv
          rw [← UInt16.toNat_inj]
          simpa [fieldOf] using h
        simp [hv, hv', ih _ _ (Nat.succ_le_of_lt hr) (by omega : tpl.length - (rng + 1) < fuel), Nat.add_assoc]
        simp [fieldOf]
    · have : rng = tpl.length := by omega
      subst this
      simp [templateSize]

/-- netflow.GetTemplateSize: never panics, ends within its fuel, and is the model's `templateSize` -/
theorem getTemplateSize_eq (version : UInt16) (tpl : List TD.Field) :
    TD.GetTemplateSize version tpl = .ok (templateSize (tpl.map fieldOf)) := by
  unfold TD.GetTemplateSize
  simp [getTemplateSize_loop tpl (tpl.length + 1) 0 0 (by omega) (by omega)]

end Goflow.C03Trans
