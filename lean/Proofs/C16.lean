import Goflow.Conc.GetOrCreate
import Goflow.Generated.Sync
import Proofs.Lemmas.Run
/-!
  C16 — First contact with an exporter is atomic: no template or rate is lost.
  For the re-check-then-adopt publish (the code after the `fix:` commit), any number of threads and any schedule; for
  the unconditional store of the pinned tree, a concrete losing schedule (Proofs/Findings/C16.lean).
-/
namespace Goflow.C16
open Goflow.Conc.GetOrCreate

def Inv (st : St) : Prop :=
  (∀ (i s : Nat), st.threads[i]? = some (Pc.holding s) → st.map = some s) ∧
  (∀ (i s : Nat), st.threads[i]? = some (Pc.finished s) → st.map = some s ∧ (s, i) ∈ st.items)

def Ok (map : Option Nat) (items : List (Nat × Nat)) (j : Nat) : Pc → Prop
  | .holding s => map = some s
  | .finished s => map = some s ∧ (s, j) ∈ items
  | _ => True

theorem inv_iff (st : St) : Inv st ↔ ∀ j pc, st.threads[j]? = some pc → Ok st.map st.items j pc := by
  constructor
  · intro ⟨h1, h2⟩ j pc hj
    cases pc with
    | holding s => exact h1 j s hj
    | finished s => exact h2 j s hj
    | _ => trivial
  · intro h
    exact ⟨fun i s hi => h i _ hi, fun i s hi => h i _ hi⟩

theorem Ok.mono {map map' items items' j pc} (hm : ∀ s, map = some s → map' = some s)
    (hi : ∀ x ∈ items, x ∈ items') (h : Ok map items j pc) : Ok map' items' j pc := by
  cases pc with
  | holding s => exact hm s h
  | finished s => exact ⟨hm s h.1, hi _ h.2⟩
  | _ => trivial

theorem inv_init (n : Nat) : Inv (init n) := by
  rw [inv_iff]
  intro j pc h
  cases getElem?_replicate_eq h
  trivial

theorem inv_step (st st' : St) (i : Nat) (hinv : Inv st) (h : step true st i = some st') :
    Inv st' ∧ (∀ s, st.map = some s → st'.map = some s) := by
  rw [inv_iff] at hinv ⊢
  unfold step at h
  split at h
  · cases h
  · -- lookup
    split at h <;> cases h
    · exact ⟨forall_getElem?_set hinv ‹st.map = some _›, fun _ h => h⟩
    · exact ⟨forall_getElem?_set hinv trivial, fun _ h => h⟩
  · -- create
    cases h
    exact ⟨forall_getElem?_set hinv trivial, fun _ h => h⟩
  · -- publish: re-check under the write lock
    split at h <;> cases h
    · exact ⟨forall_getElem?_set hinv ‹st.map = some _›, fun _ h => h⟩
    · rename_i hnot
      have hnone : st.map = none := by
        cases hm : st.map with
        | none => rfl
        | some s => exact (hnot s rfl hm).elim
      have hmono : ∀ {m : Option Nat} s, st.map = some s → m = some s := fun s hs => by rw [hnone] at hs; cases hs
      exact ⟨forall_getElem?_set (fun j pc hj => (hinv j pc hj).mono hmono fun _ h => h) rfl, hmono⟩
  · -- use
    rename_i s hth
    cases h
    exact ⟨forall_getElem?_set (fun j pc hj => (hinv j pc hj).mono (fun _ h => h) fun _ h => List.mem_cons_of_mem _ h)
      ⟨hinv i _ hth, List.mem_cons_self⟩, fun _ h => h⟩
  · cases h

theorem run_cons (recheck : Bool) (st : St) (i : Nat) (sched : List Nat) :
    run recheck st (i :: sched) = run recheck ((step recheck st i).getD st) sched := by
  rw [run]
  cases step recheck st i <;> rfl

theorem inv_run (st : St) (sched : List Nat) (hinv : Inv st) : Inv (run true st sched) :=
  Goflow.inv_run (fun _ => rfl) (run_cons true) (fun s i s' hs h => (inv_step s s' i hs h).1) sched st hinv

/-- once a system is published for the exporter it stays the exporter's system -/
theorem publish_once (st : St) (sched : List Nat) (hinv : Inv st) (s : Nat) (h : st.map = some s) :
    (run true st sched).map = some s :=
  (Goflow.inv_run (P := fun st => Inv st ∧ st.map = some s) (fun _ => rfl) (run_cons true)
    (fun st i st' hs h => ⟨(inv_step st st' i hs.1 h).1, (inv_step st st' i hs.1 h).2 s hs.2⟩) sched st ⟨hinv, h⟩).2

/-- all threads that returned worked on the one published system -/
theorem single_system (n : Nat) (sched : List Nat) (i j s t : Nat)
    (hi : (run true (init n) sched).threads[i]? = some (Pc.finished s))
    (hj : (run true (init n) sched).threads[j]? = some (Pc.finished t)) : s = t := by
  have hinv := inv_run (init n) sched (inv_init n)
  have a := (hinv.2 i s hi).1
  have b := (hinv.2 j t hj).1
  rw [a] at b; cases b; rfl

/-- C16 for the re-checking protocol: for every number of workers and every interleaving of their lookup / create /
    publish / use steps, the announcement of every worker that returned is visible to later datagrams of the
    exporter -/
theorem nothing_lost (n : Nat) (sched : List Nat) : NothingLost (run true (init n) sched) := by
  intro i s hi
  have hinv := inv_run (init n) sched (inv_init n)
  obtain ⟨hm, hmem⟩ := hinv.2 i s hi
  simp only [visible, hm, List.mem_map, List.mem_filter]
  exact ⟨(s, i), ⟨hmem, by simp⟩, rfl⟩

/-- both get-or-create sites have the shape the protocol with `recheck = true` models: lookup under the read lock, then,
    under the write lock, a second lookup before the store (regenerated from utils/pipe.go and
    producer/proto/proto.go on every run) -/
theorem skeleton_matches :
    Goflow.Generated.skPipeNetflow =
      ["p.templateslock.RLock()", "load p.templates[key]", "p.templateslock.RUnlock()", "p.templateslock.Lock()",
       "load p.templates[key]", "store p.templates[key]", "p.templateslock.Unlock()", "defer p.producer.Commit(flowMessageSet)"] ∧
    Goflow.Generated.skSamplingSystem =
      ["p.samplinglock.RLock()", "load p.sampling[key]", "p.samplinglock.RUnlock()", "p.samplinglock.Lock()",
       "load p.sampling[key]", "store p.sampling[key]", "p.samplinglock.Unlock()"] :=
  ⟨rfl, rfl⟩

/-- three racing workers, all of which finish -/
example : (run true (init 3) [0, 1, 2, 0, 1, 2, 2, 1, 0, 0, 1, 2]).threads =
    [.finished 2, .finished 2, .finished 2] := by decide

/-- The instrumented template system that cmd/goflow2 wires into the auto pipe passes every operation to the wrapped
    store in one call (regenerated from metrics/templates.go): an announcement is one atomic `AddTemplate` of the store,
    never a remove followed by an add, so between any two steps of a worker another worker finds the old or the new
    template (what the `tplatomic` probe of the harness checks on the real code). -/
theorem instrumented_store_atomic :
    Goflow.Generated.skPromAdd = ["s.wrapped.AddTemplate(version, obsDomainId, templateId, template)"] ∧
    Goflow.Generated.skPromGet = ["s.wrapped.GetTemplate(version, obsDomainId, templateId)"] ∧
    Goflow.Generated.skPromRemove = ["s.wrapped.RemoveTemplate(version, obsDomainId, templateId)"] :=
  ⟨rfl, rfl, rfl⟩

end Goflow.C16
