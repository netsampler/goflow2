import Proofs.C13Object
import Proofs.Lemmas.Bytes
/-!
  C13 — `formatJSON` is valid JSON.

  For every compiled formatter whose printed names need no escaping (`namesOK`) and every message whose values have the
  shape the formatter expects (`shapeOK`: a field printed as an array carries scalars, a field printed as a scalar is
  not a list), the JSON form is accepted by the recogniser. Both side conditions are decidable; the default
  configuration meets them for every message, so `default_valid` is unconditional.
-/
namespace Goflow.C13
open Goflow Goflow.Format Goflow.Spec.Json

def scalar : FV → Bool
  | .num _ _ => true | .bytes _ => true | .flowType _ => true | .layer _ => true | _ => false

def isListV : FV → Bool | .list _ => true | _ => false

def plainB (b : UInt8) : Bool := b != 0x22 && b != 0x5c && !(b < 0x20)

theorem plain_of_plainB (b : UInt8) (h : plainB b = true) : plain b := by
  simp [plainB] at h
  exact ⟨h.1.1, h.1.2, by simpa using h.2⟩

def namesOK (f : Fmt) : Bool := f.fields.all fun s => (finalNameOf f s).all plainB

def isSliceOf (f : Fmt) (s : String) : Bool := (f.isSlice.lookup (fieldNameOf f s)).getD false

def shapeOKAt (f : Fmt) (m : FlowMsg) (s : String) : Bool :=
  match valueOf f m (mapUnknown f m.unk) s with
  | none => true
  | some v => if isSliceOf f s then (elemsOf v).all scalar else !(isListV v)

def shapeOK (f : Fmt) (m : FlowMsg) : Bool := f.fields.all (shapeOKAt f m)

def okR (r : Rendered) : Prop := (∃ b, r = .text b) ∨ (∃ n, r = .bare (decimal n))

theorem okR_text (b : Bytes) : okR (.text b) := Or.inl ⟨b, rfl⟩
theorem okR_num (n bits : Nat) : okR (.bare (percentV (.num n bits))) := Or.inr ⟨n, rfl⟩

theorem applyKind_text_or_nil (m : FlowMsg) (fn : String) (k : RKind) (e : FV) :
    (∃ b, applyKind m fn k e = .text b) ∨ applyKind m fn k e = nilRenderer e := by
  fun_cases applyKind m fn k e <;> first | exact Or.inr rfl | exact Or.inl ⟨_, rfl⟩

theorem okR_nil (e : FV) (he : scalar e = true) : okR (nilRenderer e) := by
  cases e <;> first | exact okR_text _ | exact okR_num _ _ | cases he

theorem render_scalar (m : FlowMsg) (fn r : String) (e : FV) (he : scalar e = true) : okR (applyRenderer m fn r e) := by
  unfold applyRenderer
  rcases applyKind_text_or_nil m fn (rkindOf r) e with ⟨b, h⟩ | h <;> rw [h]
  · exact okR_text b
  · exact okR_nil e he

theorem head_jsonQuote (b : Bytes) : Head (jsonQuote b) := ⟨0x22, _, rfl, by decide⟩

theorem head_decimal (n : Nat) : Head (decimal n) := by
  obtain ⟨d, ds, e, hd, _⟩ := digitsOf_spec (n + 1) n (by omega)
  obtain ⟨w, _⟩ := digit_head_facts d hd
  have h1 : 48 ≤ d.toNat ∧ d.toNat ≤ 57 := by
    have : 0x30 ≤ d ∧ d ≤ 0x39 := by simpa [isDigit] using hd
    exact ⟨by simpa [UInt8.le_iff_toNat_le] using this.1, by simpa [UInt8.le_iff_toNat_le] using this.2⟩
  refine ⟨d, ds, e, w, ?_, ?_⟩ <;> (intro h; subst h; simp at h1)

/-- a rendered scalar: a JSON value that needs one unit of fuel and starts with a value byte -/
def GoodVal (b : Bytes) : Prop := ValOK 1 b ∧ Head b

theorem goodVal_of_okR (q : Bytes) (r : Rendered) (h : okR r) : ∃ b, quoteIf true q r = some b ∧ GoodVal b := by
  rcases h with ⟨b, e⟩ | ⟨n, e⟩
  · subst e; exact ⟨_, rfl, valOK_string b, head_jsonQuote b⟩
  · subst e; exact ⟨_, rfl, valOK_decimal n, head_decimal n⟩

theorem elem_ok (f : Fmt) (m : FlowMsg) (q : Bytes) (s : String) (e : FV) (he : scalar e = true) :
    ∃ b, renderElem f m true q s e = some b ∧ GoodVal b :=
  goodVal_of_okR q _ (render_scalar m _ _ e he)

theorem sliceBody_join (f : Fmt) (m : FlowMsg) (q : Bytes) (s : String) (es : List FV) (h : ∀ e ∈ es, scalar e = true) :
    ∃ vs, sliceBody f m true q s es = joinC vs ∧ vs.length = es.length ∧ ∀ v ∈ vs, GoodVal v := by
  induction es with
  | nil => exact ⟨[], rfl, rfl, by simp⟩
  | cons e rest ih =>
    obtain ⟨b, hb, gb⟩ := elem_ok f m q s e (h e (by simp))
    cases rest with
    | nil => exact ⟨[b], by simp [sliceBody, hb, joinC], rfl, by simpa using gb⟩
    | cons e' rest' =>
      obtain ⟨vs, e1, e2, e3⟩ := ih (fun x hx => h x (by simp [hx]))
      refine ⟨b :: vs, ?_, by simp [e2], ?_⟩
      · simp only [sliceBody, hb, e1]
        cases vs with
        | nil => simp at e2
        | cons w ws => simp [joinC]
      · intro v hv
        rcases List.mem_cons.mp hv with e | e
        · subst e; exact gb
        · exact e3 v e

theorem head_nonempty {v : Bytes} (h : Head v) : 1 ≤ v.length := by
  obtain ⟨c, r, e, _⟩ := h; subst e; simp

theorem joinC_length (vs : List Bytes) (h : ∀ v ∈ vs, 1 ≤ v.length) : vs.length ≤ (joinC vs).length + 1 := by
  induction vs with
  | nil => simp [joinC]
  | cons v rest ih =>
    have hv := h v (by simp)
    have ih' := ih (fun x hx => h x (by simp [hx]))
    cases rest with
    | nil => simp [joinC]
    | cons w ws =>
      simp only [joinC, List.length_append, List.length_cons] at ih' ⊢
      omega

theorem array_ok (vs : List Bytes) (h : ∀ v ∈ vs, GoodVal v) :
    ValOK ((0x5b :: joinC vs ++ [0x5d]).length + 1) (0x5b :: joinC vs ++ [0x5d]) ∧ Head (0x5b :: joinC vs ++ [0x5d]) := by
  refine ⟨?_, ⟨0x5b, _, rfl, by decide⟩⟩
  have := valOK_array vs 1 (fun v hv => (h v hv).1) (fun v hv => (h v hv).2)
  apply valOK_mono this
  have := joinC_length vs (fun v hv => head_nonempty (h v hv).2)
  simp only [List.length_cons, List.length_append, List.length_nil]
  omega

def okRN (r : Rendered) : Prop := okR r ∨ r = .nil

theorem okRN_nil (e : FV) (h : isListV e = false) : okRN (nilRenderer e) := by
  cases e <;> first | exact Or.inl (okR_text _) | exact Or.inl (okR_num _ _) | exact Or.inr rfl | cases h

theorem render_nonlist (m : FlowMsg) (fn r : String) (e : FV) (h : isListV e = false) : okRN (applyRenderer m fn r e) := by
  unfold applyRenderer
  rcases applyKind_text_or_nil m fn (rkindOf r) e with ⟨b, hb⟩ | hn
  · rw [hb]; exact Or.inl (okR_text b)
  · rw [hn]; exact okRN_nil e h

def GoodItemVal (v : Bytes) : Prop := ValOK (v.length + 1) v

theorem goodItem_of_goodVal {v : Bytes} (h : GoodVal v) : GoodItemVal v :=
  valOK_mono h.1 (by have := head_nonempty h.2; omega)

theorem item_shape (f : Fmt) (m : FlowMsg) (s : String) (item : Bytes)
    (hi : itemOf f m (mapUnknown f m.unk) true [0x22] [0x3a] s = some item) (hs : shapeOKAt f m s = true) :
    ∃ val, item = member (finalNameOf f s, val) ∧ GoodItemVal val := by
  unfold itemOf at hi
  unfold shapeOKAt isSliceOf at hs
  cases hv : valueOf f m (mapUnknown f m.unk) s with
  | none => rw [hv] at hi; cases hi
  | some v =>
    simp only [hv] at hi hs
    cases hsl : (f.isSlice.lookup (fieldNameOf f s)).getD false
    · simp only [hsl, Bool.false_eq_true, if_false] at hi hs
      have hnl : isListV v = false := by simpa using hs
      rcases render_nonlist m (fieldNameOf f s) (rendererOf f s).1 v hnl with hok | hnil
      · obtain ⟨b, hb, gb⟩ := goodVal_of_okR [0x22] _ hok
        simp only [hb, Option.some.injEq] at hi
        exact ⟨b, by rw [← hi]; simp [member], goodItem_of_goodVal gb⟩
      · simp [hnil, quoteIf] at hi
    · simp only [hsl, if_true, Option.some.injEq] at hi hs
      obtain ⟨vs, e1, _, e3⟩ := sliceBody_join f m [0x22] s _ (List.all_eq_true.1 hs)
      refine ⟨0x5b :: joinC vs ++ [0x5d], ?_, (array_ok vs e3).1⟩
      rw [← hi, e1]
      simp [member]

theorem intersperse_flatten (l : List Bytes) : (l.intersperse [0x2c]).flatten = joinC l := by
  induction l with
  | nil => rfl
  | cons v rest ih =>
    cases rest with
    | nil => simp [joinC]
    | cons w ws =>
      simp only [List.intersperse_cons₂, List.flatten_cons, joinC] at ih ⊢
      rw [ih]; simp

theorem items_are_members (f : Fmt) (m : FlowMsg) (fields : List String)
    (hn : ∀ s ∈ fields, ∀ x ∈ finalNameOf f s, plain x) (hs : ∀ s ∈ fields, shapeOKAt f m s = true) :
    ∃ ms : List (Bytes × Bytes),
      fields.filterMap (itemOf f m (mapUnknown f m.unk) true [0x22] [0x3a]) = ms.map member ∧
      ∀ nv ∈ ms, (∀ x ∈ nv.1, plain x) ∧ GoodItemVal nv.2 := by
  induction fields with
  | nil => exact ⟨[], rfl, by simp⟩
  | cons s rest ih =>
    obtain ⟨ms, e, h⟩ := ih (fun x hx => hn x (by simp [hx])) (fun x hx => hs x (by simp [hx]))
    cases hi : itemOf f m (mapUnknown f m.unk) true [0x22] [0x3a] s with
    | none => exact ⟨ms, by simp [List.filterMap_cons, hi, e], h⟩
    | some item =>
      obtain ⟨val, e1, g⟩ := item_shape f m s item hi (hs s (by simp))
      refine ⟨(finalNameOf f s, val) :: ms, by simp [List.filterMap_cons, hi, e, e1], ?_⟩
      intro nv hnv
      rcases List.mem_cons.mp hnv with e2 | e2
      · subst e2; exact ⟨hn s (by simp), g⟩
      · exact h nv e2

theorem members_length (ms : List (Bytes × Bytes)) :
    ms.length + total (ms.map (·.2)) ≤ (joinC (ms.map member)).length := by
  induction ms with
  | nil => simp [joinC, total]
  | cons nv rest ih =>
    cases rest with
    | nil => simp [joinC, total, member]; omega
    | cons nv' rest' =>
      simp only [List.map_cons, joinC, List.length_append, List.length_cons, total, List.sum_cons, member] at ih ⊢
      omega

/-- C13: the JSON form of a message is one well-formed JSON object, for every formatter whose printed names need no
    escaping and every message whose values have the shape the formatter prints them in -/
theorem formatJSON_valid (f : Fmt) (m : FlowMsg) (hn : namesOK f = true) (hs : shapeOK f m = true) :
    valid (formatJSON f m) = true := by
  have hn' : ∀ s ∈ f.fields, ∀ x ∈ finalNameOf f s, plain x := by
    intro s hs' x hx
    have := (List.all_eq_true.mp hn) s hs'
    exact plain_of_plainB x ((List.all_eq_true.mp this) x hx)
  have hs' : ∀ s ∈ f.fields, shapeOKAt f m s = true := fun s h => (List.all_eq_true.mp hs) s h
  obtain ⟨ms, e, h⟩ := items_are_members f m f.fields hn' hs'
  have hform : formatJSON f m = 0x7b :: joinC (ms.map member) ++ 0x7d :: [] := by
    unfold formatJSON formatItems
    rw [e, intersperse_flatten]; simp
  rw [hform]
  unfold valid
  have hk : ∀ nv ∈ ms, (∀ x ∈ nv.1, plain x) ∧ ValOK (total (ms.map (·.2)) + 1) nv.2 := by
    intro nv hnv
    refine ⟨(h nv hnv).1, valOK_mono (h nv hnv).2 ?_⟩
    have : nv.2 ∈ ms.map (·.2) := List.mem_map.mpr ⟨nv, hnv, rfl⟩
    have := le_total this
    omega
  have hlen := members_length ms
  rw [object_ok ms (total (ms.map (·.2)) + 1) hk _ (by simp only [List.length_cons, List.length_append]; omega) []]
  rfl

/-- mirrors the case analysis of `fieldValue`, without the message -/
def isListCol (g : String) : Bool :=
  match FlowMsg.kindOf g with
  | none => false
  | some kind =>
    if g = "Type" then false else if g = "LayerStack" then true
    else if kind = "u32" then false else if kind = "u64" then false else if kind = "bytes" then false else true

theorem fieldValue_isList (m : FlowMsg) (g : String) : isListV (fieldValue m g) = isListCol g := by
  unfold fieldValue isListCol
  cases FlowMsg.kindOf g with
  | none => rfl
  | some kind =>
    simp only [apply_ite isListV]
    simp only [isListV, ite_self]

theorem fieldValue_scalars (m : FlowMsg) (g : String) : (elemsOf (fieldValue m g)).all scalar = true := by
  fun_cases fieldValue m g <;> simp [elemsOf, List.all_map, Function.comp_def, scalar]

theorem fieldValue_valid_of_col (m : FlowMsg) (g : String) (h : (FlowMsg.kindOf g).isSome = true) : fieldValue m g ≠ .invalid := by
  fun_cases fieldValue m g <;> simp_all

theorem valueOf_of_valid (f : Fmt) (m : FlowMsg) (unk : List (String × FV)) (s : String)
    (h : fieldValue m (fieldNameOf f s) ≠ .invalid) : valueOf f m unk s = some (fieldValue m (fieldNameOf f s)) := by
  unfold valueOf
  split
  · contradiction
  · rfl

/-! whatever a field's value is, its elements are scalars: only "printed as a scalar but carries a list" can go wrong -/

theorem parseUnknown_scalar (fuel : Nat) (b : Bytes) : ∀ x ∈ parseUnknown fuel b, scalar x.2.2 = true := by
  fun_induction parseUnknown fuel b <;> intro x hx <;> cases hx
  all_goals first | rfl | (rename_i ih h; exact ih _ h)

theorem elemsOf_scalar {v : FV} (h : scalar v = true) : elemsOf v = [] := by
  cases v <;> first | rfl | cases h

def unkInv (acc : List (String × FV)) : Prop := ∀ kv ∈ acc, (elemsOf kv.2).all scalar = true

theorem assocSet_inv (acc : List (String × FV)) (k : String) (v : FV) (h : unkInv acc) (hv : (elemsOf v).all scalar = true) :
    unkInv (assocSet acc k v) := by
  intro kv hkv
  simp only [assocSet, List.mem_cons, List.mem_filter] at hkv
  rcases hkv with e | e
  · subst e; exact hv
  · exact h kv e.1

theorem lookup_mem {β} {l : List (String × β)} {k : String} {v : β} (h : l.lookup k = some v) : (k, v) ∈ l := by
  obtain ⟨l₁, l₂, rfl, _⟩ := List.lookup_eq_some_iff.1 h
  simp

theorem mapUnknown_inv (f : Fmt) (unk : Bytes) : unkInv (mapUnknown f unk) := by
  refine List.foldlRecOn _ _ (fun _ h => nomatch h) fun acc hacc x hx => ?_
  obtain ⟨num, wt, v⟩ := x
  have hv : scalar v = true := parseUnknown_scalar _ _ _ hx
  dsimp only
  split
  · exact hacc
  · split
    · apply assocSet_inv _ _ _ hacc
      simp only [elemsOf, List.all_append, List.all_cons, List.all_nil, hv, Bool.and_true]
      split
      · next l hl => exact hacc _ (lookup_mem hl)
      · rfl
    · exact assocSet_inv _ _ _ hacc (by rw [elemsOf_scalar hv]; rfl)

theorem valueOf_scalars (f : Fmt) (m : FlowMsg) (s : String) (v : FV)
    (h : valueOf f m (mapUnknown f m.unk) s = some v) : (elemsOf v).all scalar = true := by
  by_cases hfv : fieldValue m (fieldNameOf f s) = .invalid
  · unfold valueOf at h
    rw [hfv] at h
    dsimp only at h
    split at h
    · next u hu => cases h; exact mapUnknown_inv f m.unk _ (lookup_mem hu)
    · split at h <;> cases h
      rfl
  · rw [valueOf_of_valid f m _ s hfv] at h
    cases h
    exact fieldValue_scalars m _

/-- the only shape condition that matters: a field that carries a list is printed as an array -/
def listsAreSlices (f : Fmt) (m : FlowMsg) : Bool :=
  f.fields.all fun s =>
    match valueOf f m (mapUnknown f m.unk) s with
    | some v => !(isListV v) || isSliceOf f s
    | none => true

theorem shapeOK_of_listsAreSlices (f : Fmt) (m : FlowMsg) (h : listsAreSlices f m = true) : shapeOK f m = true := by
  unfold shapeOK
  unfold listsAreSlices at h
  rw [List.all_eq_true] at h ⊢
  intro s hs
  have hs' := h s hs
  unfold shapeOKAt
  cases hv : valueOf f m (mapUnknown f m.unk) s with
  | none => rfl
  | some v =>
    simp only [hv] at hs'
    simp only
    by_cases hsl : isSliceOf f s = true
    · simp only [hsl, if_true]; exact valueOf_scalars f m s v hv
    · have : isSliceOf f s = false := by simpa using hsl
      simp only [this, Bool.false_eq_true, if_false]
      simpa [this] using hs'

/-- C13, JSON validity in its sharpest form: names that need no escaping, and every field that carries a list is
    declared (or known) as an array -/
theorem formatJSON_valid_sharp (f : Fmt) (m : FlowMsg) (hn : namesOK f = true) (hl : listsAreSlices f m = true) :
    valid (formatJSON f m) = true :=
  formatJSON_valid f m hn (shapeOK_of_listsAreSlices f m hl)

def defaultFmt : Fmt := (compileNil initialIsSlice).fmt

/-- closed facts about the column table, no message involved: every Go name is a non-empty struct field name, and every
    list column is printed as an array -/
theorem default_columns : defaultFmt.reMap.all (fun p =>
    p.2 != "" && (FlowMsg.kindOf p.2).isSome && (!(isListCol p.2) || (defaultFmt.isSlice.lookup p.2).getD false)) = true := by
  decide +kernel

theorem default_fieldNameOf (s : String) (hs : s ∈ defaultFmt.fields) : (s, fieldNameOf defaultFmt s) ∈ defaultFmt.reMap := by
  obtain ⟨c, hc, rfl⟩ := List.mem_map.1 (show s ∈ defaultFields from hs)
  have hp : (c.protoName, c.goName) ∈ defaultFmt.reMap := List.mem_map.2 ⟨c, hc, rfl⟩
  obtain ⟨go, hgo⟩ := Option.isSome_iff_exists.1 (List.lookup_isSome_iff.2 ⟨_, hp, beq_self_eq_true _⟩)
  have hm := lookup_mem hgo
  have hc := List.all_eq_true.1 default_columns _ hm
  simp only [Bool.and_eq_true, bne_iff_ne] at hc
  unfold fieldNameOf
  rw [hgo]
  simpa [hc.1.1] using hm

theorem shapeOK_default (m : FlowMsg) : shapeOK defaultFmt m = true := by
  apply shapeOK_of_listsAreSlices
  unfold listsAreSlices
  rw [List.all_eq_true]
  intro s hs
  have hc := List.all_eq_true.1 default_columns _ (default_fieldNameOf s hs)
  simp only [Bool.and_eq_true, Bool.or_eq_true, Bool.not_eq_true'] at hc
  rw [valueOf_of_valid _ _ _ _ (fieldValue_valid_of_col m _ hc.1.2)]
  show (!isListV (fieldValue m _) || isSliceOf defaultFmt s) = true
  rw [fieldValue_isList]
  exact Bool.or_eq_true_iff.2 (hc.2.imp (fun h => by rw [h]; rfl) id)

theorem str_eq (s : String) : str s = s.toByteArray.data.toList := toList_eq_data _

theorem namesOK_default : namesOK defaultFmt = true := by
  have h : defaultFmt.fields.all (fun s => s.toByteArray.data.toList.all plainB) = true := by decide +kernel
  unfold namesOK
  rw [List.all_eq_true] at h ⊢
  intro s hs
  have : finalNameOf defaultFmt s = str s := rfl
  rw [this, str_eq]
  exact h s hs

/-- C13 for the default configuration, unconditionally: every message has a valid JSON form -/
theorem default_valid (m : FlowMsg) : valid (formatJSON defaultFmt m) = true :=
  formatJSON_valid defaultFmt m namesOK_default (shapeOK_default m)

end Goflow.C13
