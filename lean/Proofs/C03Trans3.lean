import Proofs.C03Trans2
import Proofs.Lemmas.Safety
/-!
  C03 (translation tie, third part) — `DecodeMessageCommonFlowSet` and `DecodeMessageCommon` of
  decoders/netflow/netflow.go, regenerated into Goflow/Generated/NetflowDecT.lean with
  * the template system as a prelude external (`Go.TemplateSystem`, `Go.tsAdd`, `Go.tsGet`: the model's `Store`),
  * `interface{}` / `[]interface{}` as the generated sum type `TD.Iface` (a template in the store, a flow set in a packet),
  * the error as a value in the result (the caller tests `errors.Is(lerr, ErrorTemplateNotFound)` and joins).

  `decodeFlowSet_trans_eq` and `decodeMessageCommon_trans_eq`: for every byte string, every store related to a model store
  (`StoreRel`) and every version / domain / size, the translated functions return (never panic, never run out of fuel)
  the model's flow sets, the model's store afterwards and the model's error class.
  `decodeMessageNetFlow_trans_eq`, `decodeMessageIPFIX_trans_eq`, `decodeMessageVersion_trans_eq`: the same for the
  roots of the decoder (packet headers behind the pointers, the model's `DecodeOut.outcome` as the error class).
-/
set_option linter.unusedSimpArgs false
set_option linter.unusedVariables false
namespace Goflow.C03Trans3
open Goflow Goflow.Producer Goflow.Generated Goflow.Go Goflow.Netflow Goflow.C03Trans2
open Goflow.C03Trans (fieldOf)

def templateOf : TD.Iface → Option Netflow.Template
  | .TemplateRecord r => some (.data (tplOf r))
  | .NFv9OptionsTemplateRecord r => some (.v9opts (v9optOf r))
  | .IPFIXOptionsTemplateRecord r => some (.ipfixopts (ipfixoptOf r))
  | _ => none

def flowSetOf : TD.Iface → Option Netflow.FlowSet
  | .TemplateFlowSet f => some (.template f.FlowSetHeader.Id.toNat f.FlowSetHeader.Length.toNat (f.Records.map tplOf))
  | .NFv9OptionsTemplateFlowSet f => some (.v9opts f.FlowSetHeader.Id.toNat f.FlowSetHeader.Length.toNat (f.Records.map v9optOf))
  | .IPFIXOptionsTemplateFlowSet f => some (.ipfixopts f.FlowSetHeader.Id.toNat f.FlowSetHeader.Length.toNat (f.Records.map ipfixoptOf))
  | .DataFlowSet f => some (.data f.FlowSetHeader.Id.toNat f.FlowSetHeader.Length.toNat (f.Records.map dataRecOf))
  | .OptionsDataFlowSet f => some (.optsData f.FlowSetHeader.Id.toNat f.FlowSetHeader.Length.toNat (f.Records.map optRecOf))
  | .RawFlowSet f => some (.raw f.FlowSetHeader.Id.toNat f.FlowSetHeader.Length.toNat f.Records)
  | _ => none

/-- the generated store holds the model's store: same keys in the same order, every entry a template -/
def StoreRel (st : List (Nat × TD.Iface)) (s : Netflow.Store) : Prop :=
  st.map (fun e => (e.1, templateOf e.2)) = s.map (fun e => (e.1, some e.2))

theorem StoreRel.nil : StoreRel [] [] := rfl

theorem lookup_map_snd {α β γ : Type} [BEq α] (f : β → γ) (l : List (α × β)) (k : α) :
    (l.map fun e => (e.1, f e.2)).lookup k = (l.lookup k).map f := by
  induction l with
  | nil => rfl
  | cons a l ih =>
    obtain ⟨ak, av⟩ := a
    simp only [List.map_cons, List.lookup_cons]
    cases k == ak
    · exact ih
    · rfl

theorem StoreRel.lookup {st : List (Nat × TD.Iface)} {s : Netflow.Store} (h : StoreRel st s) (k : Nat) :
    (st.lookup k).map templateOf = (s.lookup k).map some := by
  rw [← lookup_map_snd, ← lookup_map_snd]
  exact congrArg (List.lookup k) h

theorem StoreRel.lookup_none {st : List (Nat × TD.Iface)} {s : Netflow.Store} (h : StoreRel st s) (k : Nat)
    (hl : s.lookup k = none) : st.lookup k = none := by
  have := h.lookup k
  rw [hl] at this
  cases hst : st.lookup k with
  | none => rfl
  | some t => rw [hst] at this; cases this

theorem StoreRel.lookup_some {st : List (Nat × TD.Iface)} {s : Netflow.Store} (h : StoreRel st s) (k : Nat) (m : Netflow.Template)
    (hl : s.lookup k = some m) : ∃ t, st.lookup k = some t ∧ templateOf t = some m := by
  have := h.lookup k
  rw [hl] at this
  cases hst : st.lookup k with
  | none => rw [hst] at this; cases this
  | some t => rw [hst] at this; exact ⟨t, rfl, Option.some.inj this⟩

/-- `AddTemplate` on both sides: filtering out the old entry commutes with the maps of `StoreRel` -/
theorem StoreRel.add {st : List (Nat × TD.Iface)} {s : Netflow.Store} (h : StoreRel st s) (k : Nat) (t : TD.Iface) (m : Netflow.Template)
    (ht : templateOf t = some m) :
    StoreRel ((k, t) :: st.filter (fun e => e.1 != k)) (s.add k m) := by
  unfold StoreRel Store.add at *
  have e1 := List.filter_map (f := fun e : Nat × TD.Iface => (e.1, templateOf e.2)) (p := fun e => e.1 != k) (l := st)
  have e2 := List.filter_map (f := fun e : Nat × Netflow.Template => (e.1, some e.2)) (p := fun e => e.1 != k) (l := s)
  rw [List.map_cons, List.map_cons, ht]
  exact congrArg _ (e1.symm.trans ((congrArg _ h).trans e2))

theorem tsKey_eq (v : UInt16) (d : UInt32) (id : UInt16) : Go.tsKey v d id = templateKey v.toNat d.toNat id.toNat := rfl

abbrev AddLoopTy := Nat → Go.TemplateSystem TD.Iface → Go.Error → Int →
  Res (Go.Ctl (Go.TemplateSystem TD.Iface × Go.Error × Int) (Bytes × Go.TemplateSystem TD.Iface × TD.Iface × Go.Error))

/-- how a generated loop goes on after one run of its body -/
def ctlStep {α ρ : Type} (r : Go.Ctl α ρ) (next : α → Res (Go.Ctl α ρ)) : Res (Go.Ctl α ρ) :=
  match r with
  | .next c => next c
  | .brk c => .ok (.brk c)
  | .ret x => .ok (.ret x)

/-- the shape of the four generated loops that add the records of a template set to the template system: they end
    within their fuel, never index out of range, never return, and leave the model's `addTemplates` -/
theorem addLoop_eq {R : Type} (records : List R) (inj : R → TD.Iface) (tid : R → UInt16) (mk : R → Netflow.Template)
    (hmk : ∀ r, templateOf (inj r) = some (mk r)) (v : UInt16) (dom : UInt32) (payload : Bytes) (flowSet : TD.Iface)
    (L : AddLoopTy)
    (hs : ∀ fuel ts e (i : Int), L (fuel + 1) ts e i =
      (if decide (i < (records.length : Int)) = true then
        Go.idxLI records i >>= fun r => Go.tsAdd ts v dom (tid r) (inj r) >>= fun t =>
          Go.ifErr t.2 (fun x => .ok (.ret (payload, t.1, flowSet, some x))) fun _ => .ok (.next (t.1, e, i + 1))
      else .ok (.brk (ts, e, i))) >>= fun r => ctlStep r fun c => L fuel c.1 c.2.1 c.2.2) :
    ∀ (fuel : Nat) (st : List (Nat × TD.Iface)) (s : Netflow.Store) (e : Go.Error) (k : Nat),
      k ≤ records.length → records.length - k < fuel → StoreRel st s →
      ∃ st', L fuel (some st) e (k : Int) = .ok (.brk (some st', e, (records.length : Int))) ∧
        StoreRel st' (addTemplates v.toNat dom.toNat s ((records.drop k).map fun r => ((tid r).toNat, mk r))) := by
  intro fuel
  induction fuel with
  | zero => intro st s e k _ h; omega
  | succ fuel ih =>
    intro st s e k hk hf hrel
    rw [hs]
    by_cases hlt : k < records.length
    · have hlt' : (k : Int) < (records.length : Int) := by omega
      have hd : records.drop k = records[k] :: records.drop (k + 1) := List.drop_eq_getElem_cons hlt
      have hsucc : ((k : Int) + 1) = ((k + 1 : Nat) : Int) := by omega
      simp only [hlt', decide_true, if_true, idxLI_nat hlt, ok_bind, Go.tsAdd, Go.ifErr, hsucc, ctlStep]
      obtain ⟨st', h1, h2⟩ := ih _ (s.add (templateKey v.toNat dom.toNat (tid records[k]).toNat) (mk records[k])) e (k + 1)
        (Nat.succ_le_of_lt hlt) (by omega) (hrel.add (Go.tsKey v dom (tid records[k])) (inj records[k]) (mk records[k]) (hmk _))
      refine ⟨st', h1, ?_⟩
      rw [hd, List.map_cons, addTemplates]
      exact h2
    · have : k = records.length := by omega
      subst this
      have hc : ¬ ((records.length : Int) < (records.length : Int)) := by omega
      simp only [hc, decide_false, if_false, Bool.false_eq_true, List.drop_length, List.map_nil, addTemplates, ok_bind, ctlStep]
      exact ⟨st, rfl, hrel⟩

theorem tryCatch_ok {α β : Type} (a : α) (h : Err → Res β) (k : α → Res β) : Go.tryCatch (.ok a) h k = k a := rfl
theorem tryCatch_eof {α β : Type} (h : Err → Res β) (k : α → Res β) : Go.tryCatch (.error .eof) h k = h .eof := rfl
theorem tryCatch_bad {α β : Type} (h : Err → Res β) (k : α → Res β) : Go.tryCatch (.error .bad) h k = h .bad := rfl

/-- what DecodeMessageCommonFlowSet returns against what the model's `decodeFlowSet` gives -/
def FlowSetAgree (st : List (Nat × TD.Iface)) (r : Bytes × Go.TemplateSystem TD.Iface × TD.Iface × Go.Error) : Res SetOut → Prop
  | .error e => r.2.2.2 = some e ∧ r.2.1 = some st
  | .ok o => r.1 = o.rest ∧ r.2.2.2 = (if o.tnf then some .tnf else none) ∧ flowSetOf r.2.2.1 = some o.flowSet ∧
      ∃ st', r.2.1 = some st' ∧ StoreRel st' o.store

/-- the translated code returns (no panic, no loop out of fuel), and what it returns agrees with the model's result -/
def Agree (st : List (Nat × TD.Iface)) (g : Res (Bytes × Go.TemplateSystem TD.Iface × TD.Iface × Go.Error)) (m : Res SetOut) :
    Prop :=
  ∃ r, g = .ok r ∧ FlowSetAgree st r m

theorem nextI_sub (b1 : Bytes) (len : UInt16) (h : ¬ len.toNat < 4) :
    Go.nextI b1 ((len.toNat : Int) - 4) = .ok (b1.take (len.toNat - 4), b1.drop (len.toNat - 4)) := by
  have h1 : ¬ ((len.toNat : Int) - 4 < 0) := by omega
  have h2 : ((len.toNat : Int) - 4).toNat = len.toNat - 4 := by omega
  simp [Go.nextI, Go.next, h1, h2]

theorem u16_eq_9 (x : UInt16) : x.toNat = 9 ↔ x = 9 := by rw [← UInt16.toNat_inj]; rfl

/-- the tests `fsheader.Id == a && version == c` -/
theorem idv_iff (id v a c : UInt16) :
    (decide (id = a) && decide (v = c)) = true ↔ id.toNat = a.toNat ∧ v.toNat = c.toNat := by
  simp only [Bool.and_eq_true, decide_eq_true_eq, UInt16.toNat_inj]

/-- the model tests for a template set once, the code once for each version -/
theorem ite_or_split {α : Type} {p1 p2 p3 : Prop} [Decidable p1] [Decidable p2] [Decidable p3] (h : p2 → ¬ p3) (T V Z : α) :
    (if p1 ∨ p3 then T else if p2 then V else Z) = if p1 then T else if p2 then V else if p3 then T else Z := by
  by_cases h1 : p1
  · simp [h1]
  · by_cases h2 : p2
    · simp [h1, h2, h h2]
    · simp [h1, h2]

/-- a set decoder under `tryCatch`: its errors are values the caller sees, its records go on to `kG` -/
theorem branch_agree {R R' : Type} (φ : R → R') {D : Res (Bytes × List R)} {M : Res (List R')}
    (hd : D.map (fun r => r.2.map φ) = M) (hsafe : ∀ e, M = .error e → e = .eof ∨ e = .bad)
    (st : List (Nat × TD.Iface)) (rest : Bytes) (raw : TD.Iface)
    (kG : Bytes × List R → Res (Bytes × Go.TemplateSystem TD.Iface × TD.Iface × Go.Error))
    (m : Res SetOut) (hmE : ∀ e, M = .error e → m = .error e) (hk : ∀ t, M = .ok (t.2.map φ) → Agree st (kG t) m) :
    Agree st (Go.tryCatch D (fun e => .ok (rest, some st, raw, some e)) kG) m := by
  cases hg : D with
  | error er =>
    have hm := map_err hd hg
    rw [hmE _ hm]
    rcases hsafe _ hm with rfl | rfl <;> exact ⟨_, rfl, rfl, rfl⟩
  | ok t => exact hk t (map_ok hd hg)

/-- after a template set: its records are added to the template system -/
theorem addTail_agree {R R' : Type} {recs : List R} {φ : R → R'} {inj : R → TD.Iface} {tid : R → UInt16}
    {mk : R' → Netflow.Template} {tid' : R' → Nat}
    (hmk : ∀ r, templateOf (inj r) = some (mk (φ r))) (htid : ∀ r, (tid r).toNat = tid' (φ r))
    (v : UInt16) (dom : UInt32) {rest : Bytes} {fs : TD.Iface}
    {fsM : Netflow.FlowSet} (hfs : flowSetOf fs = some fsM)
    {L : AddLoopTy}
    (hs : ∀ fuel ts e (i : Int), L (fuel + 1) ts e i =
      (if decide (i < (recs.length : Int)) = true then
        Go.idxLI recs i >>= fun r => Go.tsAdd ts v dom (tid r) (inj r) >>= fun t =>
          Go.ifErr t.2 (fun x => .ok (.ret (rest, t.1, fs, some x))) fun _ => .ok (.next (t.1, e, i + 1))
      else .ok (.brk (ts, e, i))) >>= fun r => ctlStep r fun c => L fuel c.1 c.2.1 c.2.2)
    {st : List (Nat × TD.Iface)} {s : Netflow.Store} (hrel : StoreRel st s) :
    Agree st
      (if (!(some st : Go.TemplateSystem TD.Iface).isNone) = true then
        L ((recs.length : Int).toNat + 1) (some st) none 0 >>= fun t =>
          Go.Ctl.elim t (fun x => Except.ok x) fun c => Except.ok (rest, c.1, fs, c.2.1)
      else .ok (rest, some st, fs, none))
      (.ok ⟨fsM, false, addTemplates v.toNat dom.toNat s ((recs.map φ).map fun r => (tid' r, mk r)), rest⟩) := by
  obtain ⟨st', h1, h2⟩ := addLoop_eq recs inj tid (fun r => mk (φ r)) hmk v dom rest fs L hs (recs.length + 1) st s none 0
    (Nat.zero_le _) (by omega) hrel
  have e1 : (recs.length : Int).toNat = recs.length := Int.toNat_natCast _
  have e2 : ((0 : Nat) : Int) = 0 := rfl
  simp only [Option.isNone_some, Bool.not_false, if_true]
  rw [e1, ← e2, h1]
  refine ⟨_, rfl, rfl, rfl, hfs, st', rfl, ?_⟩
  simpa only [List.drop_zero, List.map_map, Function.comp_def, htid] using h2

theorem readFields_22' {b : Bytes} (h : 2 ≤ b.length) (h' : 2 ≤ (b.drop 2).length) :
    readFields [2, 2] b = .ok ([beNat (b.take 2), beNat ((b.drop 2).take 2)], (b.drop 2).drop 2) := by
  simp only [readFields, readU_ok h, readU_ok h']

/-- DecodeMessageCommonFlowSet against the model's `decodeFlowSet`. The proof follows the Go body: the two header words by
    the `tryCatch` case lemmas, one `cond_simR` for every `if` (the length test, then the set id against the version), one
    `branch_agree` for every kind of set with the tie of its decoder, and `addTail_agree` for the loop that registers the
    templates of a template set -/
theorem decodeFlowSet_trans_eq (b : Bytes) (st : List (Nat × TD.Iface)) (s : Netflow.Store) (dom : UInt32) (v : UInt16) (fuel : Nat)
    (hf : b.length < fuel) (hrel : StoreRel st s) :
    ∃ r, TD.DecodeMessageCommonFlowSet b (some st) dom v = .ok r ∧ FlowSetAgree st r (decodeFlowSet fuel v.toNat dom.toNat s b) := by
  unfold TD.DecodeMessageCommonFlowSet decodeFlowSet
  show Agree st _ _
  apply readU16_tryCatch_cases (Agree st · _)
  · intro h; rw [readFields_22_short (by omega)]; exact ⟨_, rfl, rfl, rfl⟩
  intro id hid h2
  apply readU16_tryCatch_cases (Agree st · _)
  · intro h; rw [readFields_22_short (by simp only [List.length_drop] at h; omega)]; exact ⟨_, rfl, rfl, rfl⟩
  intro len hlen h2'
  have hb1 : ((b.drop 2).drop 2).length < fuel := by simp only [List.length_drop]; omega
  rw [readFields_22' h2 h2', ← hid, ← hlen]
  generalize (b.drop 2).drop 2 = b1 at hb1 ⊢
  apply cond_simR (Agree st) (by simp only [decide_eq_true_eq]; omega)
  · intro _; exact ⟨_, rfl, rfl, rfl⟩
  intro hlen
  have hn := nextI_sub b1 len hlen
  have hbody : (b1.take (len.toNat - 4)).length < fuel := by simp only [List.length_take]; omega
  show Agree st _ (if _ ∨ _ then _ else _)
  rw [hn, ite_or_split (fun h h' => by omega)]
  apply cond_simR (Agree st) (idv_iff id v 0 9)
  · intro _
    exact branch_agree tplOf (decodeTemplateSet_trans_eq v _ fuel hbody) (fun e h => .inl (decodeTemplateSet_safe _ _ _ hbody e h)) _ _ _ _ _ (fun e h => by simp only [h]) fun t h => by
      simp only [h]
      exact addTail_agree (inj := .TemplateRecord) (fun _ => by rfl) (fun _ => by rfl) v dom (by rfl)
        (fun _ _ _ _ => bind_congr fun r => by cases r <;> rfl) hrel
  intro _
  apply cond_simR (Agree st) (idv_iff id v 1 9)
  · intro _
    exact branch_agree v9optOf (decodeNFv9OptionsTemplateSet_trans_eq _ fuel hbody) (fun e h => .inl (decodeNFv9OptionsTemplateSet_safe _ _ hbody e h)) _ _ _ _ _ (fun e h => by simp only [h]) fun t h => by
      simp only [h]
      exact addTail_agree (inj := .NFv9OptionsTemplateRecord) (fun _ => by rfl) (fun _ => by rfl) v dom (by rfl)
        (fun _ _ _ _ => bind_congr fun r => by cases r <;> rfl) hrel
  intro _
  apply cond_simR (Agree st) (idv_iff id v 2 10)
  · intro _
    exact branch_agree tplOf (decodeTemplateSet_trans_eq v _ fuel hbody) (fun e h => .inl (decodeTemplateSet_safe _ _ _ hbody e h)) _ _ _ _ _ (fun e h => by simp only [h]) fun t h => by
      simp only [h]
      exact addTail_agree (inj := .TemplateRecord) (fun _ => by rfl) (fun _ => by rfl) v dom (by rfl)
        (fun _ _ _ _ => bind_congr fun r => by cases r <;> rfl) hrel
  intro _
  apply cond_simR (Agree st) (idv_iff id v 3 10)
  · intro _
    exact branch_agree ipfixoptOf (decodeIPFIXOptionsTemplateSet_trans_eq _ fuel hbody) (decodeIPFIXOptionsTemplateSet_safe _ _ hbody) _ _ _ _ _ (fun e h => by simp only [h]) fun t h => by
      simp only [h]
      exact addTail_agree (inj := .IPFIXOptionsTemplateRecord) (fun _ => by rfl) (fun _ => by rfl) v dom (by rfl)
        (fun _ _ _ _ => bind_congr fun r => by cases r <;> rfl) hrel
  intro _
  apply cond_simR (Agree st) (decide_eq_true_iff.trans UInt16.le_iff_toNat_le)
  · intro _
    simp only [ok_bind, Option.isNone_some, Bool.false_eq_true, if_false, Go.tsGet, tsKey_eq, Store.get]
    cases hl : s.lookup (templateKey v.toNat dom.toNat id.toNat) with
    | none =>
      rw [hrel.lookup_none _ hl]
      exact ⟨_, rfl, rfl, rfl, rfl, st, rfl, hrel⟩
    | some m =>
      obtain ⟨t, ht1, ht2⟩ := hrel.lookup_some _ m hl
      rw [ht1]
      simp only [ok_bind, Go.ifErr]
      cases t with
      | TemplateRecord r =>
        cases ht2
        simp only [tplOf]
        exact branch_agree dataRecOf (decodeDataSet_trans_eq v _ r.Fields fuel hbody) (decodeDataSet_safe _ _ _ hbody) _ _ _ _ _
          (fun e h => by simp only [h]) fun t h => by simp only [h]; exact ⟨_, rfl, rfl, rfl, rfl, st, rfl, hrel⟩
      | NFv9OptionsTemplateRecord r =>
        cases ht2
        simp only [v9optOf]
        exact branch_agree optRecOf (decodeOptionsDataSet_trans_eq v _ r.Scopes r.Options fuel hbody)
          (decodeOptionsDataSet_safe _ _ _ _ hbody) _ _ _ _ _
          (fun e h => by simp only [h]) fun t h => by simp only [h]; exact ⟨_, rfl, rfl, rfl, rfl, st, rfl, hrel⟩
      | IPFIXOptionsTemplateRecord r =>
        cases ht2
        simp only [ipfixoptOf]
        exact branch_agree optRecOf (decodeOptionsDataSet_trans_eq v _ r.Scopes r.Options fuel hbody)
          (decodeOptionsDataSet_safe _ _ _ _ hbody) _ _ _ _ _
          (fun e h => by simp only [h]) fun t h => by simp only [h]; exact ⟨_, rfl, rfl, rfl, rfl, st, rfl, hrel⟩
      | nil => simp [templateOf] at ht2
      | TemplateFlowSet r => simp [templateOf] at ht2
      | NFv9OptionsTemplateFlowSet r => simp [templateOf] at ht2
      | IPFIXOptionsTemplateFlowSet r => simp [templateOf] at ht2
      | DataFlowSet r => simp [templateOf] at ht2
      | OptionsDataFlowSet r => simp [templateOf] at ht2
      | RawFlowSet r => simp [templateOf] at ht2
  · intro _; exact ⟨_, rfl, rfl, rfl⟩

theorem u16OfInt_lt (n : Nat) (size : UInt16) : (Go.u16OfInt (n : Int) < size) ↔ n % 65536 < size.toNat := by
  have h : ((n : Int) % 65536).toNat = n % 65536 := by omega
  rw [UInt16.lt_iff_toNat_lt, Go.u16OfInt, h, UInt16.toNat_ofNat']
  have : n % 65536 % 2 ^ 16 = n % 65536 := Nat.mod_eq_of_lt (Nat.mod_lt _ (by decide))
  rw [this]

/-- the condition of the set loop -/
theorem commonCond_iff (size v : UInt16) (startLen k : Nat) (p : Bytes) (hle : p.length ≤ startLen) :
    ((((decide ((k : Int) < (size.toNat : Int)) && decide (v = 9)) ||
        (decide (Go.u16OfInt ((startLen : Int) - (p.length : Int)) < size) && decide (v = 10))) &&
        decide ((p.length : Int) > 0)) = true) ↔
      (((k < size.toNat ∧ v.toNat = 9) ∨ ((startLen - p.length) % 65536 < size.toNat ∧ v.toNat = 10)) ∧ 0 < p.length) := by
  have hsub : (startLen : Int) - (p.length : Int) = ((startLen - p.length : Nat) : Int) := by omega
  rw [hsub]
  simp only [Bool.and_eq_true, Bool.or_eq_true, decide_eq_true_eq, u16OfInt_lt, u16_eq_9, u16_eq_10]
  constructor
  · rintro ⟨h1, h2⟩
    refine ⟨?_, by omega⟩
    rcases h1 with ⟨a, b⟩ | ⟨a, b⟩
    · exact Or.inl ⟨by omega, b⟩
    · exact Or.inr ⟨a, b⟩
  · rintro ⟨h1, h2⟩
    refine ⟨?_, by omega⟩
    rcases h1 with ⟨a, b⟩ | ⟨a, b⟩
    · exact Or.inl ⟨by omega, b⟩
    · exact Or.inr ⟨a, b⟩

/-- the error DecodeMessageCommon returns for the model's message outcome: a fatal error, else the joined
    template-not-found -/
def outcomeOf (m : MsgOut) : Go.Error :=
  match m.err with
  | some e => some e
  | none => if m.tnf then some .tnf else none

theorem errJoin_acc (e : Go.Error) (he : e = none ∨ e = some .tnf) (a b : Bool) :
    Go.errJoin (if a then Go.errJoin e (some .tnf) else e) (if b then some .tnf else none) =
      Go.errJoin e (if (a || b) then some .tnf else none) := by
  rcases he with rfl | rfl <;> cases a <;> cases b <;> rfl

/-- the set loop of DecodeMessageCommon against `decodeSets`. First disjunct: the model stops on an error and the loop
    returns with it; second: the model reaches the end and the loop breaks, the template-not-found error joined to `e`.
    `rd`, `i'` are the loop's `read` and `i` at the break, which nothing uses afterwards -/
theorem commonLoop_eq (dom : UInt32) (size v : UInt16) (startLen : Nat) :
    ∀ (fuel mfuel : Nat) (p : Bytes) (st : List (Nat × TD.Iface)) (s : Netflow.Store) (fsets : List TD.Iface) (e : Go.Error) (k : Nat),
      p.length < fuel → p.length < mfuel → p.length ≤ startLen → StoreRel st s → (e = none ∨ e = some .tnf) →
      ∃ p' st' gs, gs.map flowSetOf = (decodeSets v.toNat dom.toNat size.toNat startLen mfuel k s p).flowSets.map some ∧
        StoreRel st' (decodeSets v.toNat dom.toNat size.toNat startLen mfuel k s p).store ∧
        ((∃ ef, (decodeSets v.toNat dom.toNat size.toNat startLen mfuel k s p).err = some ef ∧
            TD.DecodeMessageCommon_loop1 dom size v (startLen : Int) fuel p (some st) fsets e ((startLen : Int) - (p.length : Int)) (k : Int) =
              .ok (.ret (p', some st', fsets ++ gs, some ef))) ∨
         ((decodeSets v.toNat dom.toNat size.toNat startLen mfuel k s p).err = none ∧ ∃ rd i',
            TD.DecodeMessageCommon_loop1 dom size v (startLen : Int) fuel p (some st) fsets e ((startLen : Int) - (p.length : Int)) (k : Int) =
              .ok (.brk (p', some st', fsets ++ gs,
                Go.errJoin e (if (decodeSets v.toNat dom.toNat size.toNat startLen mfuel k s p).tnf then some .tnf else none), rd, i')))) := by
  intro fuel
  induction fuel with
  | zero => intro mfuel p st s fsets e k h; omega
  | succ fuel ih =>
    intro mfuel p st s fsets e k hf hm hle hrel he
    obtain ⟨m, rfl⟩ : ∃ m, mfuel = m + 1 := ⟨mfuel - 1, by omega⟩
    rw [TD.DecodeMessageCommon_loop1, TD.DecodeMessageCommon_loop1_body, decodeSets]
    have hci := commonCond_iff size v startLen k p hle
    by_cases hc : ((k < size.toNat ∧ v.toNat = 9) ∨ ((startLen - p.length) % 65536 < size.toNat ∧ v.toNat = 10)) ∧ 0 < p.length
    · rw [if_pos (hci.2 hc)]
      simp only [hc, and_self, if_true]
      obtain ⟨r, hr, hag⟩ := decodeFlowSet_trans_eq p st s dom v (p.length + 2) (by omega) hrel
      obtain ⟨f1, f2⟩ := decodeFlowSet_safe (p.length + 2) v.toNat dom.toNat s p (by omega)
      obtain ⟨p1, ts1, fs1, le1⟩ := r
      rw [hr]
      simp only [ok_bind]
      cases hd : decodeFlowSet (p.length + 2) v.toNat dom.toNat s p with
      | error ef =>
        rw [hd] at hag
        obtain ⟨h1, h2⟩ := hag
        simp only at h1 h2
        subst h1 h2
        refine ⟨p1, st, [], rfl, hrel, Or.inl ⟨ef, rfl, ?_⟩⟩
        rcases f1 ef hd with rfl | rfl <;> simp [Go.errIs]
      | ok o =>
        rw [hd] at hag
        obtain ⟨h1, h2, h3, st1, h4, h5⟩ := hag
        simp only at h1 h2 h3 h4
        subst h1 h2 h4
        have hprog := f2 o hd
        obtain ⟨p', st', gs, g1, g2, g3⟩ := ih m o.rest st1 o.store (fsets ++ [fs1])
          (if o.tnf then Go.errJoin e (some .tnf) else e) (k + 1) (by omega) (by omega) (by omega) h5
          (by rcases he with rfl | rfl <;> cases o.tnf <;> simp [Go.errJoin])
        have hsucc : ((k : Int) + 1) = ((k + 1 : Nat) : Int) := by omega
        refine ⟨p', st', fs1 :: gs, by simp [g1, h3], g2, ?_⟩
        rcases g3 with ⟨ef, e1, e2⟩ | ⟨e1, rd, i', e2⟩
        · refine Or.inl ⟨ef, e1, ?_⟩
          rw [← hsucc] at e2
          cases htnf : o.tnf <;> simp [Go.errIs, htnf] at e2 ⊢ <;> exact e2
        · refine Or.inr ⟨e1, rd, i', ?_⟩
          rw [← errJoin_acc e he o.tnf]
          rw [← hsucc] at e2
          cases htnf : o.tnf <;> simp [Go.errIs, htnf] at e2 ⊢ <;> exact e2
    · rw [if_neg (fun h => hc (hci.1 h))]
      simp only [hc, if_false, ok_bind]
      refine ⟨p, st, [], rfl, hrel, Or.inr ⟨?_, (startLen : Int) - (p.length : Int), (k : Int), ?_⟩⟩
      · trivial
      · rcases he with rfl | rfl <;> simp [Go.errJoin]

/-- netflow.DecodeMessageCommon for every byte string, every template store (related to a model store), domain, size and
    version: it returns (no panic, no loop out of fuel) the model's flow sets, the model's store afterwards, and as its
    error the model's outcome — the fatal error of the set that stopped the loop, else template-not-found if some set had
    no template, else nil -/
theorem decodeMessageCommon_trans_eq (b : Bytes) (st : List (Nat × TD.Iface)) (s : Netflow.Store) (dom : UInt32)
    (size v : UInt16) (fuel : Nat) (hf : b.length < fuel) (hrel : StoreRel st s) :
    ∃ p' st' gs, TD.DecodeMessageCommon b (some st) dom size v =
        .ok (p', some st', gs, outcomeOf (decodeSets v.toNat dom.toNat size.toNat b.length fuel 0 s b)) ∧
      gs.map flowSetOf = (decodeSets v.toNat dom.toNat size.toNat b.length fuel 0 s b).flowSets.map some ∧
      StoreRel st' (decodeSets v.toNat dom.toNat size.toNat b.length fuel 0 s b).store := by
  unfold TD.DecodeMessageCommon
  obtain ⟨p', st', gs, g1, g2, g3⟩ := commonLoop_eq dom size v b.length (Go.loopFuel b) fuel b st s [] none 0
    (by simp [Go.loopFuel]) hf (Nat.le_refl _) hrel (Or.inl rfl)
  have e0 : ((b.length : Int) - (b.length : Int)) = 0 := by omega
  have e1 : ((0 : Nat) : Int) = 0 := rfl
  rw [e0, e1] at g3
  simp only []
  rcases g3 with ⟨ef, h1, h2⟩ | ⟨h1, rd, i', h2⟩
  · refine ⟨p', st', gs, ?_, g1, g2⟩
    rw [h2]
    simp [Go.Ctl.elim, outcomeOf, h1]
  · refine ⟨p', st', gs, ?_, g1, g2⟩
    rw [h2]
    simp [Go.Ctl.elim, outcomeOf, h1, Go.errJoin]

theorem readFields_v9hdr {b : Bytes} (h : 18 ≤ b.length) :
    readFields [2, 4, 4, 4, 4] b = .ok ([beNat (b.take 2), beNat ((b.drop 2).take 4), beNat ((b.drop 6).take 4),
      beNat ((b.drop 10).take 4), beNat ((b.drop 14).take 4)], b.drop 18) := by
  simp (disch := (first | omega | (simp only [List.length_drop]; omega))) only [readFields, readU_ok, List.drop_drop]

theorem readFields_v9hdr_short {b : Bytes} (h : b.length < 18) : readFields [2, 4, 4, 4, 4] b = .error .eof :=
  readFields_err_of_lt _ _ (by simpa [sumW] using h)

theorem readFields_ipfixhdr {b : Bytes} (h : 14 ≤ b.length) :
    readFields [2, 4, 4, 4] b = .ok ([beNat (b.take 2), beNat ((b.drop 2).take 4), beNat ((b.drop 6).take 4),
      beNat ((b.drop 10).take 4)], b.drop 14) := by
  simp (disch := (first | omega | (simp only [List.length_drop]; omega))) only [readFields, readU_ok, List.drop_drop]

theorem readFields_ipfixhdr_short {b : Bytes} (h : b.length < 14) : readFields [2, 4, 4, 4] b = .error .eof :=
  readFields_err_of_lt _ _ (by simpa [sumW] using h)

/-- the generated NFv9Packet holds the model's packet -/
def v9PacketOk (pk : TD.NFv9Packet) (m : Netflow.Packet) : Prop :=
  m.version = pk.Version.toNat ∧
  m.hdr = [pk.Count.toNat, pk.SystemUptime.toNat, pk.UnixSeconds.toNat, pk.SequenceNumber.toNat, pk.SourceId.toNat] ∧
  pk.FlowSets.map flowSetOf = m.flowSets.map some

def ipfixPacketOk (pk : TD.IPFIXPacket) (m : Netflow.Packet) : Prop :=
  m.version = pk.Version.toNat ∧
  m.hdr = [pk.Length.toNat, pk.ExportTime.toNat, pk.SequenceNumber.toNat, pk.ObservationDomainId.toNat] ∧
  pk.FlowSets.map flowSetOf = m.flowSets.map some

theorem outcome_eq (o : DecodeOut) : o.outcome = outcomeOf ⟨o.packet.flowSets, o.tnf, o.store, o.err⟩ := rfl

theorem ifErr_same {α : Type} (e : Go.Error) (f : Go.Error → α) :
    (if (!e.isNone) = true then f e else f none) = f e := by
  cases e <;> rfl

/-- what a root of the decoder returns against the model's result `o`: it returns, with the model's error class and a
    store related to the model's, a packet that is `ok` -/
def RootAgree {Pk : Type} (o : DecodeOut) (ok : Pk → Prop) (g : Res (Bytes × Go.TemplateSystem TD.Iface × Pk × Go.Error)) :
    Prop :=
  ∃ p' st' pk', g = .ok (p', some st', pk', o.outcome) ∧ StoreRel st' o.store ∧ ok pk'

theorem decodeMessageNetFlow_trans_eq (b : Bytes) (st : List (Nat × TD.Iface)) (s : Netflow.Store) (pk : TD.NFv9Packet)
    (hrel : StoreRel st s) :
    ∃ p' st' pk', TD.DecodeMessageNetFlow b (some st) pk = .ok (p', some st', pk', (decodeMessageNetFlow s b).outcome) ∧
      StoreRel st' (decodeMessageNetFlow s b).store ∧ (18 ≤ b.length → v9PacketOk pk' (decodeMessageNetFlow s b).packet) := by
  have hshort : b.length < 18 → ∀ p' pk', RootAgree (decodeMessageNetFlow s b)
      (fun pk' : TD.NFv9Packet => 18 ≤ b.length → v9PacketOk pk' (decodeMessageNetFlow s b).packet)
      (.ok (p', some st, pk', some .eof)) := fun h p' pk' => by
    rw [decodeMessageNetFlow_err (readFields_v9hdr_short h)]
    exact ⟨p', st, pk', rfl, hrel, fun h' => absurd h' (by omega)⟩
  unfold TD.DecodeMessageNetFlow
  show RootAgree _ (fun pk' => 18 ≤ b.length → v9PacketOk pk' _) _
  apply readU16_tryCatch_cases (RootAgree _ _) _ _ _ (fun h => hshort (by omega) _ _)
  intro cnt hcnt h2
  apply readU32_tryCatch_cases (RootAgree _ _) _ _ _ (fun h => hshort (by simp only [List.length_drop] at h; omega) _ _)
  intro up hup h6
  simp only [List.length_drop] at h6
  apply readU32_tryCatch_cases (RootAgree _ _) _ _ _ (fun h => hshort (by simp only [List.length_drop] at h; omega) _ _)
  intro secs hsecs h10
  simp only [List.length_drop] at h10
  apply readU32_tryCatch_cases (RootAgree _ _) _ _ _ (fun h => hshort (by simp only [List.length_drop] at h; omega) _ _)
  intro sq hseq h14
  simp only [List.length_drop] at h14
  apply readU32_tryCatch_cases (RootAgree _ _) _ _ _ (fun h => hshort (by simp only [List.length_drop] at h; omega) _ _)
  intro src hsrc h18
  simp only [List.length_drop] at h18
  have h18' : 18 ≤ b.length := by omega
  simp only [List.drop_drop, Nat.reduceAdd] at hup hsecs hseq hsrc ⊢
  obtain ⟨p', st', gs, h1, h2, h3⟩ := decodeMessageCommon_trans_eq (b.drop 18) st s src cnt 9 ((b.drop 18).length + 2)
    (by omega) hrel
  obtain ⟨_, rfl, hm⟩ := decodeMessageNetFlow_ok (s := s) (readFields_v9hdr h18')
  rw [h1, hm, ← hcnt, ← hup, ← hsecs, ← hseq, ← hsrc]
  exact ⟨p', st', ⟨9, cnt, up, secs, sq, src, gs⟩, ifErr_same _ (fun e => Except.ok (p', some st', _, e)), h3, fun _ => ⟨rfl, rfl, h2⟩⟩

theorem u16_sub16 (x : UInt16) : (x - 16).toNat = (x.toNat + 65536 - 16) % 65536 := by
  rw [UInt16.toNat_sub]
  have : (16 : UInt16).toNat = 16 := rfl
  rw [this]
  have h := x.toNat_lt
  omega

/-- the model's DecodeMessageIPFIX once the 14 header bytes are there, the set-loop bound `uint16(Length - 16)` named -/
theorem decodeMessageIPFIX_of_hdr (s : Store) (b : Bytes) (h14 : 14 ≤ b.length) (q : Nat)
    (hq : (beNat (b.take 2) + 65536 - 16) % 65536 = q) :
    decodeMessageIPFIX s b =
      ⟨⟨10, [beNat (b.take 2), beNat ((b.drop 2).take 4), beNat ((b.drop 6).take 4), beNat ((b.drop 10).take 4)],
        (decodeSets 10 (beNat ((b.drop 10).take 4)) q (b.drop 14).length ((b.drop 14).length + 2) 0 s (b.drop 14)).flowSets⟩,
       (decodeSets 10 (beNat ((b.drop 10).take 4)) q (b.drop 14).length ((b.drop 14).length + 2) 0 s (b.drop 14)).tnf,
       (decodeSets 10 (beNat ((b.drop 10).take 4)) q (b.drop 14).length ((b.drop 14).length + 2) 0 s (b.drop 14)).store,
       (decodeSets 10 (beNat ((b.drop 10).take 4)) q (b.drop 14).length ((b.drop 14).length + 2) 0 s (b.drop 14)).err⟩ := by
  obtain ⟨size, r, hs, hr, h⟩ := decodeMessageIPFIX_ok (s := s) (readFields_ipfixhdr h14)
  rw [h, hr, hs, hq]

theorem decodeMessageIPFIX_trans_eq (b : Bytes) (st : List (Nat × TD.Iface)) (s : Netflow.Store) (pk : TD.IPFIXPacket)
    (hrel : StoreRel st s) :
    ∃ p' st' pk', TD.DecodeMessageIPFIX b (some st) pk = .ok (p', some st', pk', (decodeMessageIPFIX s b).outcome) ∧
      StoreRel st' (decodeMessageIPFIX s b).store ∧ (14 ≤ b.length → ipfixPacketOk pk' (decodeMessageIPFIX s b).packet) := by
  have hshort : b.length < 14 → ∀ p' pk', RootAgree (decodeMessageIPFIX s b)
      (fun pk' : TD.IPFIXPacket => 14 ≤ b.length → ipfixPacketOk pk' (decodeMessageIPFIX s b).packet)
      (.ok (p', some st, pk', some .eof)) := fun h p' pk' => by
    rw [decodeMessageIPFIX_err (readFields_ipfixhdr_short h)]
    exact ⟨p', st, pk', rfl, hrel, fun h' => absurd h' (by omega)⟩
  unfold TD.DecodeMessageIPFIX
  show RootAgree _ (fun pk' => 14 ≤ b.length → ipfixPacketOk pk' _) _
  apply readU16_tryCatch_cases (RootAgree _ _) _ _ _ (fun h => hshort (by omega) _ _)
  intro ln hln h2
  apply readU32_tryCatch_cases (RootAgree _ _) _ _ _ (fun h => hshort (by simp only [List.length_drop] at h; omega) _ _)
  intro et het h6
  simp only [List.length_drop] at h6
  apply readU32_tryCatch_cases (RootAgree _ _) _ _ _ (fun h => hshort (by simp only [List.length_drop] at h; omega) _ _)
  intro sq hsq h10
  simp only [List.length_drop] at h10
  apply readU32_tryCatch_cases (RootAgree _ _) _ _ _ (fun h => hshort (by simp only [List.length_drop] at h; omega) _ _)
  intro od hod h14
  simp only [List.length_drop] at h14
  have h14' : 14 ≤ b.length := by omega
  simp only [List.drop_drop, Nat.reduceAdd] at het hsq hod ⊢
  obtain ⟨p', st', gs, h1, h2, h3⟩ := decodeMessageCommon_trans_eq (b.drop 14) st s od (ln - 16) 10 ((b.drop 14).length + 2)
    (by omega) hrel
  rw [decodeMessageIPFIX_of_hdr s b h14' (ln - 16).toNat (by rw [u16_sub16, hln]), h1, ← hln, ← het, ← hsq, ← hod]
  exact ⟨p', st', ⟨10, ln, et, sq, od, gs⟩, ifErr_same _ (fun e => Except.ok (p', some st', _, e)), h3, fun _ => ⟨rfl, rfl, h2⟩⟩

/-- netflow.DecodeMessageVersion — the root of the NetFlow v9 / IPFIX decoder — for every byte string, every template store
    related to a model store, and whatever the two packets behind the pointers held before: it returns (no panic, no loop
    out of fuel) with the model's outcome as its error class and the model's store; for a version-9 (version-10) message
    whose header is complete, the NFv9Packet (IPFIXPacket) holds the model's packet -/
theorem decodeMessageVersion_trans_eq (b : Bytes) (st : List (Nat × TD.Iface)) (s : Netflow.Store)
    (pk9 : TD.NFv9Packet) (pkx : TD.IPFIXPacket) (hrel : StoreRel st s) :
    ∃ p' st' pk9' pkx', TD.DecodeMessageVersion b (some st) pk9 pkx = .ok (p', some st', pk9', pkx', (decodeMessageVersion s b).outcome) ∧
      StoreRel st' (decodeMessageVersion s b).store ∧
      (2 ≤ b.length → beNat (b.take 2) = 9 → 20 ≤ b.length → v9PacketOk pk9' (decodeMessageVersion s b).packet) ∧
      (2 ≤ b.length → beNat (b.take 2) = 10 → 16 ≤ b.length → ipfixPacketOk pkx' (decodeMessageVersion s b).packet) := by
  unfold TD.DecodeMessageVersion decodeMessageVersion
  by_cases h2 : 2 ≤ b.length
  · rw [readU16_ok h2, readU_ok h2]
    simp only [tryCatch_ok]
    have hv : (UInt16.ofNat (beNat (b.take 2))).toNat = beNat (b.take 2) := u16_beNat b
    by_cases h9 : beNat (b.take 2) = 9
    · have h9' : UInt16.ofNat (beNat (b.take 2)) = 9 := by rw [h9]; rfl
      obtain ⟨p', st', pk', g1, g2, g3⟩ := decodeMessageNetFlow_trans_eq (b.drop 2) st s pk9 hrel
      rw [if_pos h9]
      refine ⟨p', st', pk', pkx, ?_, g2, fun _ _ h20 => g3 (by simp only [List.length_drop]; omega), fun _ hx _ => absurd hx (by omega)⟩
      simp only [h9', decide_true, if_true, g1, ok_bind]
      cases hout : (decodeMessageNetFlow s (b.drop 2)).outcome <;> rfl
    · have h9' : UInt16.ofNat (beNat (b.take 2)) ≠ 9 := fun h => h9 (by rw [← hv, h]; rfl)
      rw [if_neg h9]
      by_cases h10 : beNat (b.take 2) = 10
      · have h10' : UInt16.ofNat (beNat (b.take 2)) = 10 := by rw [h10]; rfl
        have h10n : ¬ ((10 : UInt16) = 9) := by decide
        obtain ⟨p', st', pk', g1, g2, g3⟩ := decodeMessageIPFIX_trans_eq (b.drop 2) st s pkx hrel
        rw [if_pos h10]
        refine ⟨p', st', pk9, pk', ?_, g2, fun _ hx _ => absurd hx h9, fun _ _ h16 => g3 (by simp only [List.length_drop]; omega)⟩
        simp only [h10', h10n, decide_true, decide_false, if_true, if_false, Bool.false_eq_true, g1, ok_bind]
        cases hout : (decodeMessageIPFIX s (b.drop 2)).outcome <;> rfl
      · have h10' : UInt16.ofNat (beNat (b.take 2)) ≠ 10 := fun h => h10 (by rw [← hv, h]; rfl)
        rw [if_neg h10]
        refine ⟨b.drop 2, st, pk9, pkx, ?_, hrel, fun _ hx _ => absurd hx h9, fun _ hx _ => absurd hx h10⟩
        simp only [h9', h10', decide_false, if_false, Bool.false_eq_true]
        rfl
  · have h2' : b.length < 2 := by omega
    rw [readU16_short h2', readU_short h2']
    exact ⟨_, st, pk9, pkx, rfl, hrel, fun h => absurd h h2, fun h => absurd h h2⟩

end Goflow.C03Trans3
