import Goflow.Spec.Sflow
import Proofs.C04
import Proofs.Lemmas.Bytes
import Proofs.Lemmas.Fields
import Proofs.Lemmas.SflowModel
/-!
  C04 — whole-datagram round trip of the sFlow v5 decoder model:
  `decodeMessageVersion (encode d) = .ok (expected d)` for every well-formed abstract datagram.
  Layers: words / fixed layouts / strings / addresses → flow and counter records → record loop →
  samples → sample loop → datagram.
-/
set_option linter.unusedSimpArgs false
namespace Goflow.C04
open Goflow Goflow.Sflow Goflow.Spec.Sflow

def AllU32 (vs : List Nat) : Prop := ∀ v ∈ vs, v < 2 ^ 32

def AddrWF (ip : Bytes) : Prop := ip.length = 4 ∨ ip.length = 16

def knownFlowFormats : List Nat := [1, 2, 3, 4, 1001, 1002, 1003, 1036, 1037, 1038]

def RecordFieldsWF : SRecord → Prop
  | .rawHeader p fl st h => p < 2 ^ 32 ∧ fl < 2 ^ 32 ∧ st < 2 ^ 32 ∧ h.length < 2 ^ 32
  | .ethernet l s d t => l < 2 ^ 32 ∧ s.length = 6 ∧ d.length = 6 ∧ t < 2 ^ 32
  | .ipv4 l p s d sp dp f t =>
    l < 2 ^ 32 ∧ p < 2 ^ 32 ∧ s.length = 4 ∧ d.length = 4 ∧ sp < 2 ^ 32 ∧ dp < 2 ^ 32 ∧ f < 2 ^ 32 ∧ t < 2 ^ 32
  | .ipv6 l p s d sp dp f t =>
    l < 2 ^ 32 ∧ p < 2 ^ 32 ∧ s.length = 16 ∧ d.length = 16 ∧ sp < 2 ^ 32 ∧ dp < 2 ^ 32 ∧ f < 2 ^ 32 ∧ t < 2 ^ 32
  | .extSwitch a b c d => a < 2 ^ 32 ∧ b < 2 ^ 32 ∧ c < 2 ^ 32 ∧ d < 2 ^ 32
  | .extRouter nh s d => AddrWF nh ∧ s < 2 ^ 32 ∧ d < 2 ^ 32
  | .extGateway nh a sa spa path comm lp =>
    AddrWF nh ∧ a < 2 ^ 32 ∧ sa < 2 ^ 32 ∧ spa < 2 ^ 32 ∧
    (match path with
     | none => True
     | some (t, asns) => t < 2 ^ 32 ∧ asns.length ≤ 1000 ∧ AllU32 asns) ∧
    comm.length ≤ 1000 ∧ AllU32 comm ∧ lp < 2 ^ 32
  | .egressQueue q => q < 2 ^ 32
  | .acl n name d => n < 2 ^ 32 ∧ name.length < 2 ^ 32 ∧ d < 2 ^ 32
  | .function s => s.length < 2 ^ 32
  | .unknown f d => f < 2 ^ 32 ∧ f ∉ knownFlowFormats ∧ d.length < 2 ^ 32

def RecordWF (r : SRecord) : Prop := RecordFieldsWF r ∧ (recBody r).length < 2 ^ 32

def CRecordFieldsWF : SCRecord → Prop
  | .ifc vs => vs.length = 19 ∧ Fits ifCountersW vs
  | .eth vs => vs.length = 13 ∧ AllU32 vs
  | .unknown f d => f < 2 ^ 32 ∧ f ≠ 1 ∧ f ≠ 2 ∧ d.length < 2 ^ 32

def CRecordWF (r : SCRecord) : Prop := CRecordFieldsWF r ∧ (crecBody r).length < 2 ^ 32

def SampleFieldsWF : SSample → Prop
  | .flow seq st sv vals recs =>
    seq < 2 ^ 32 ∧ st < 2 ^ 8 ∧ sv < 2 ^ 24 ∧ vals.length = 5 ∧ AllU32 vals ∧
    recs.length ≤ 1000 ∧ ∀ r ∈ recs, RecordWF r
  | .expFlow seq st sv vals recs =>
    seq < 2 ^ 32 ∧ st < 2 ^ 32 ∧ sv < 2 ^ 32 ∧ vals.length = 7 ∧ AllU32 vals ∧
    recs.length ≤ 1000 ∧ ∀ r ∈ recs, RecordWF r
  | .counter seq st sv recs =>
    seq < 2 ^ 32 ∧ st < 2 ^ 8 ∧ sv < 2 ^ 24 ∧ recs.length ≤ 1000 ∧ ∀ r ∈ recs, CRecordWF r
  | .expCounter seq st sv recs =>
    seq < 2 ^ 32 ∧ st < 2 ^ 32 ∧ sv < 2 ^ 32 ∧ recs.length ≤ 1000 ∧ ∀ r ∈ recs, CRecordWF r
  | .drop seq st sv vals recs =>
    seq < 2 ^ 32 ∧ st < 2 ^ 32 ∧ sv < 2 ^ 32 ∧ vals.length = 4 ∧ AllU32 vals ∧
    recs.length ≤ 1000 ∧ ∀ r ∈ recs, RecordWF r

def SampleWF (s : SSample) : Prop := SampleFieldsWF s ∧ (sampleBody s).length < 2 ^ 32

def DatagramWF (d : Datagram) : Prop :=
  AddrWF d.agent ∧ d.subAgent < 2 ^ 32 ∧ d.seq < 2 ^ 32 ∧ d.uptime < 2 ^ 32 ∧
  d.samples.length ≤ 1000 ∧ ∀ s ∈ d.samples, SampleWF s

theorem u32_length (v : Nat) : (u32 v).length = 4 := by simp [u32]

theorem readU_u32 {v : Nat} (r : Bytes) (h : v < 2 ^ 32) : readU 4 (u32 v ++ r) = .ok (v, r) := by
  unfold u32; exact readU_enc r (by simpa using h)

theorem readU_u32' {v : Nat} (h : v < 2 ^ 32) : readU 4 (u32 v) = .ok (v, []) := by
  have := readU_u32 [] h
  simpa using this

theorem words_nil : words [] = [] := rfl
theorem words_cons (v : Nat) (vs : List Nat) : words (v :: vs) = u32 v ++ words vs := by
  simp [words]
theorem words_append (xs ys : List Nat) : words (xs ++ ys) = words xs ++ words ys := by
  simp [words]
theorem words_length (vs : List Nat) : (words vs).length = 4 * vs.length := by
  induction vs with
  | nil => rfl
  | cons v vs ih => rw [words_cons, List.length_append, u32_length, ih, List.length_cons]; omega

theorem AllU32.cons {v : Nat} {vs : List Nat} (h : AllU32 (v :: vs)) : v < 2 ^ 32 ∧ AllU32 vs :=
  ⟨h v (by simp), fun w hw => h w (by simp [hw])⟩

theorem AllU32.append {xs ys : List Nat} (hx : AllU32 xs) (hy : AllU32 ys) : AllU32 (xs ++ ys) := by
  intro v hv
  rcases List.mem_append.mp hv with h | h
  · exact hx v h
  · exact hy v h

theorem AllU32.single {v : Nat} (h : v < 2 ^ 32) : AllU32 [v] := by
  intro w hw; simp at hw; omega

/-- a run of 32-bit fields read by one BinaryDecoder call -/
theorem readFields_words (vs : List Nat) (ws : List Nat) (r : Bytes)
    (hw : ws = List.replicate vs.length 4) (h : AllU32 vs) :
    readFields ws (words vs ++ r) = .ok (vs, r) := by
  induction vs generalizing ws with
  | nil => subst hw; simp [readFields, words]
  | cons v vs ih =>
    subst hw
    obtain ⟨hv, hvs⟩ := h.cons
    simp only [List.length_cons, List.replicate_succ, readFields, words_cons, List.append_assoc]
    rw [readU_u32 _ hv]
    simp only
    rw [ih _ rfl hvs]

/-- a slice of 32-bit words (AS path, communities) -/
theorem readWords_words (vs : List Nat) (r : Bytes) (h : AllU32 vs) :
    readWords 4 vs.length (words vs ++ r) = .ok (vs, r) := by
  induction vs with
  | nil => simp [readWords, words]
  | cons v vs ih =>
    obtain ⟨hv, hvs⟩ := h.cons
    simp only [List.length_cons, readWords, words_cons, List.append_assoc]
    rw [readU_u32 _ hv]
    simp only
    rw [ih hvs]

theorem readCapped_words (vs : List Nat) (r : Bytes) (hl : vs.length ≤ 1000) (h : AllU32 vs)
    (hr : 4 ≤ r.length) : readCapped vs.length (words vs ++ r) = .ok (vs, r) := by
  unfold readCapped
  have h1 : ¬ vs.length > 1000 := by omega
  have h2 : ¬ vs.length + 4 > (words vs ++ r).length := by
    rw [List.length_append, words_length]; omega
  rw [if_neg h1, if_neg h2]
  exact readWords_words vs r h

theorem takeN_exact {n : Nat} (x : Bytes) (h : x.length = n) : takeN n x = .ok (x, []) := by
  have := takeN_append x [] h
  simpa using this

theorem readString_exact (d : Bytes) (h : d.length < 2 ^ 32) :
    readString (xdrOpaque d) = .ok (d, []) := by
  have := xdrString_roundtrip d [] h
  simpa using this

theorem pad_length (n : Nat) : (pad n).length = padLen n := by simp [pad]

theorem xdrOpaque_length (d : Bytes) : (xdrOpaque d).length = 4 + d.length + padLen d.length := by
  simp [xdrOpaque, u32_length, pad_length]; omega

theorem xdrAddr_length (ip : Bytes) : (xdrAddr ip).length = 4 + ip.length := by
  simp [xdrAddr, u32_length]

theorem thenR_ok {α β γ : Type} (a : α) (b : β) (k : α → β → Res γ) : thenR (.ok (a, b)) k = k a b := rfl

theorem rawHeader_roundtrip (p fl st : Nat) (h : Bytes)
    (hw : RecordFieldsWF (.rawHeader p fl st h)) (len : Nat) :
    decodeFlowRecord 1 len (recBody (.rawHeader p fl st h)) =
      .ok ⟨1, len, expData (.rawHeader p fl st h)⟩ := by
  obtain ⟨h1, h2, h3, h4⟩ := hw
  have hb : recBody (.rawHeader p fl st h) = words [p, fl, st, h.length] ++ (h ++ pad h.length) := by
    simp [recBody, xdrOpaque, words]
  have hall : AllU32 [p, fl, st, h.length] := by
    intro v hv; simp at hv; rcases hv with rfl | rfl | rfl | rfl <;> assumption
  rw [hb]
  rw [decodeFlowRecord_raw, readFields_words _ [4, 4, 4, 4] _ rfl hall]
  rfl

theorem ethernet_roundtrip (l : Nat) (s d : Bytes) (t : Nat)
    (hw : RecordFieldsWF (.ethernet l s d t)) (len : Nat) :
    decodeFlowRecord 2 len (recBody (.ethernet l s d t)) =
      .ok ⟨2, len, expData (.ethernet l s d t)⟩ := by
  obtain ⟨h1, h2, h3, h4⟩ := hw
  rw [decodeFlowRecord_fixed (fmt := 2) (lay := [.u 4, .b 6, .b 6, .u 4]) rfl]
  simp only [recBody, List.append_assoc, readItems, thenR_ok, readU_u32 _ h1, takeN_append _ _ h2, takeN_append _ _ h3, readU_u32' h4]
  rfl

theorem ipv4_roundtrip (l p : Nat) (s d : Bytes) (sp dp f t : Nat)
    (hw : RecordFieldsWF (.ipv4 l p s d sp dp f t)) (len : Nat) :
    decodeFlowRecord 3 len (recBody (.ipv4 l p s d sp dp f t)) =
      .ok ⟨3, len, expData (.ipv4 l p s d sp dp f t)⟩ := by
  obtain ⟨h1, h2, h3, h4, h5, h6, h7, h8⟩ := hw
  rw [decodeFlowRecord_fixed (fmt := 3) (lay := [.u 4, .u 4, .b 4, .b 4, .u 4, .u 4, .u 4, .u 4]) rfl]
  simp only [recBody, List.append_assoc, readItems, thenR_ok, readU_u32 _ h1, readU_u32 _ h2,
    takeN_append _ _ h3, takeN_append _ _ h4, readU_u32 _ h5, readU_u32 _ h6, readU_u32 _ h7,
    readU_u32' h8]
  rfl

theorem ipv6_roundtrip (l p : Nat) (s d : Bytes) (sp dp f t : Nat)
    (hw : RecordFieldsWF (.ipv6 l p s d sp dp f t)) (len : Nat) :
    decodeFlowRecord 4 len (recBody (.ipv6 l p s d sp dp f t)) =
      .ok ⟨4, len, expData (.ipv6 l p s d sp dp f t)⟩ := by
  obtain ⟨h1, h2, h3, h4, h5, h6, h7, h8⟩ := hw
  rw [decodeFlowRecord_fixed (fmt := 4) (lay := [.u 4, .u 4, .b 16, .b 16, .u 4, .u 4, .u 4, .u 4]) rfl]
  simp only [recBody, List.append_assoc, readItems, thenR_ok, readU_u32 _ h1, readU_u32 _ h2,
    takeN_append _ _ h3, takeN_append _ _ h4, readU_u32 _ h5, readU_u32 _ h6, readU_u32 _ h7,
    readU_u32' h8]
  rfl

theorem extSwitch_roundtrip (a b c d : Nat)
    (hw : RecordFieldsWF (.extSwitch a b c d)) (len : Nat) :
    decodeFlowRecord 1001 len (recBody (.extSwitch a b c d)) =
      .ok ⟨1001, len, expData (.extSwitch a b c d)⟩ := by
  obtain ⟨h1, h2, h3, h4⟩ := hw
  rw [decodeFlowRecord_fixed (fmt := 1001) (lay := [.u 4, .u 4, .u 4, .u 4]) rfl]
  simp only [recBody, List.append_assoc, readItems, thenR_ok, readU_u32 _ h1, readU_u32 _ h2, readU_u32 _ h3,
    readU_u32' h4]
  rfl

theorem egressQueue_roundtrip (q : Nat) (hw : RecordFieldsWF (.egressQueue q)) (len : Nat) :
    decodeFlowRecord 1036 len (recBody (.egressQueue q)) =
      .ok ⟨1036, len, expData (.egressQueue q)⟩ := by
  have h1 : q < 2 ^ 32 := hw
  rw [decodeFlowRecord_fixed (fmt := 1036) (lay := [.u 4]) rfl]
  simp only [recBody, readItems, thenR_ok, readU_u32' h1]
  rfl

theorem readFields2_u32 {a b : Nat} (r : Bytes) (ha : a < 2 ^ 32) (hb : b < 2 ^ 32) :
    readFields [4, 4] (u32 a ++ (u32 b ++ r)) = .ok ([a, b], r) := by
  simp only [readFields, readU_u32 _ ha, readU_u32 _ hb]

theorem readFields2_u32' {a b : Nat} (ha : a < 2 ^ 32) (hb : b < 2 ^ 32) :
    readFields [4, 4] (u32 a ++ u32 b) = .ok ([a, b], []) := by
  simp only [readFields, readU_u32 _ ha, readU_u32' hb]

theorem extRouter_roundtrip (nh : Bytes) (s d : Nat)
    (hw : RecordFieldsWF (.extRouter nh s d)) (len : Nat) :
    decodeFlowRecord 1002 len (recBody (.extRouter nh s d)) =
      .ok ⟨1002, len, expData (.extRouter nh s d)⟩ := by
  obtain ⟨h1, h2, h3⟩ := hw
  rw [decodeFlowRecord_router]
  simp only [recBody, List.append_assoc]
  rw [ip_roundtrip _ _ h1, thenR_ok, readFields2_u32' h2 h3]
  rfl

theorem acl_roundtrip (n : Nat) (name : Bytes) (d : Nat)
    (hw : RecordFieldsWF (.acl n name d)) (len : Nat) :
    decodeFlowRecord 1037 len (recBody (.acl n name d)) =
      .ok ⟨1037, len, expData (.acl n name d)⟩ := by
  obtain ⟨h1, h2, h3⟩ := hw
  rw [decodeFlowRecord_acl]
  simp only [recBody, List.append_assoc]
  rw [readU_u32 _ h1, thenR_ok, xdrString_roundtrip _ _ h2, thenR_ok, readU_u32' h3]
  rfl

theorem function_roundtrip (s : Bytes) (hw : RecordFieldsWF (.function s)) (len : Nat) :
    decodeFlowRecord 1038 len (recBody (.function s)) =
      .ok ⟨1038, len, expData (.function s)⟩ := by
  have h1 : s.length < 2 ^ 32 := hw
  rw [decodeFlowRecord_function]
  simp only [recBody]
  rw [readString_exact _ h1]
  rfl

theorem unknown_roundtrip (f : Nat) (d : Bytes) (hw : RecordFieldsWF (.unknown f d)) (len : Nat) :
    decodeFlowRecord f len (recBody (.unknown f d)) = .ok ⟨f, len, expData (.unknown f d)⟩ := by
  obtain ⟨_, h2, _⟩ := hw
  exact unknown_flow_record f len d h2

theorem readFields4_u32 {a b c d : Nat} (r : Bytes) (ha : a < 2 ^ 32) (hb : b < 2 ^ 32)
    (hc : c < 2 ^ 32) (hd : d < 2 ^ 32) :
    readFields [4, 4, 4, 4] (u32 a ++ (u32 b ++ (u32 c ++ (u32 d ++ r)))) = .ok ([a, b, c, d], r) := by
  simp only [readFields, readU_u32 _ ha, readU_u32 _ hb, readU_u32 _ hc, readU_u32 _ hd]

theorem extGateway_roundtrip (nh : Bytes) (a sa spa : Nat) (path : Option (Nat × List Nat))
    (comm : List Nat) (lp : Nat)
    (hw : RecordFieldsWF (.extGateway nh a sa spa path comm lp)) (len : Nat) :
    decodeFlowRecord 1003 len (recBody (.extGateway nh a sa spa path comm lp)) =
      .ok ⟨1003, len, expData (.extGateway nh a sa spa path comm lp)⟩ := by
  obtain ⟨h1, h2, h3, h4, h5, h6, h7, h8⟩ := hw
  have tail : ∀ hd pt pl p, mTail len (ipv nh) nh hd pt pl p (u32 comm.length ++ (words comm ++ u32 lp)) =
      .ok ⟨1003, len, .gateway (ipv nh) nh hd pt pl p comm.length comm lp⟩ := by
    intro hd pt pl p
    unfold mTail
    rw [readU_u32 _ (show comm.length < 2 ^ 32 by omega), thenR_ok,
      readCapped_words _ _ h6 h7 (by rw [u32_length]; omega), thenR_ok, readU_u32' h8, thenR_ok]
  rw [decodeFlowRecord_gateway]
  cases path with
  | none =>
    simp only [recBody, List.append_assoc]
    rw [ip_roundtrip _ _ h1, thenR_ok, readFields4_u32 _ h2 h3 h4 (by decide), thenR_ok]
    simp only [List.getD_cons_succ, List.getD_cons_zero, ne_eq, not_true_eq_false, if_false]
    exact tail ..
  | some p =>
    obtain ⟨t, asns⟩ := p
    obtain ⟨h51, h52, h53⟩ := h5
    simp only [recBody, List.append_assoc]
    rw [ip_roundtrip _ _ h1, thenR_ok, readFields4_u32 _ h2 h3 h4 (by decide), thenR_ok]
    simp only [List.getD_cons_succ, List.getD_cons_zero, ne_eq]
    rw [if_pos (by decide), readFields2_u32 _ h51 (by omega), thenR_ok]
    simp only
    rw [readCapped_words _ _ h52 h53 (by rw [List.length_append, u32_length]; omega), thenR_ok]
    exact tail ..

theorem flowRecord_roundtrip (r : SRecord) (hw : RecordFieldsWF r) :
    decodeFlowRecord (recFormat r) (recBody r).length (recBody r) = .ok (expRecord r) := by
  cases r with
  | rawHeader p fl st h => exact rawHeader_roundtrip p fl st h hw _
  | ethernet l s d t => exact ethernet_roundtrip l s d t hw _
  | ipv4 l p s d sp dp f t => exact ipv4_roundtrip l p s d sp dp f t hw _
  | ipv6 l p s d sp dp f t => exact ipv6_roundtrip l p s d sp dp f t hw _
  | extSwitch a b c d => exact extSwitch_roundtrip a b c d hw _
  | extRouter nh s d => exact extRouter_roundtrip nh s d hw _
  | extGateway nh a sa spa path comm lp => exact extGateway_roundtrip nh a sa spa path comm lp hw _
  | egressQueue q => exact egressQueue_roundtrip q hw _
  | acl n name d => exact acl_roundtrip n name d hw _
  | function s => exact function_roundtrip s hw _
  | unknown f d => exact unknown_roundtrip f d hw _

theorem recFormat_lt (r : SRecord) (hw : RecordFieldsWF r) : recFormat r < 2 ^ 32 := by
  cases r <;> first | (simp only [recFormat]; decide) | exact hw.1

theorem fits_of_allU32 (vs : List Nat) (h : AllU32 vs) : Fits (List.replicate vs.length 4) vs := by
  induction vs with
  | nil => simp [Fits]
  | cons v vs ih =>
    obtain ⟨hv, hvs⟩ := h.cons
    simp only [List.length_cons, List.replicate_succ, Fits]
    exact ⟨by simpa using hv, ih hvs⟩

theorem readFields_exact (ws vs : List Nat) (h : Fits ws vs) :
    readFields ws (encFields ws vs) = .ok (vs, []) := by
  have := readFields_enc ws vs [] h
  simpa using this

theorem counterRecord_roundtrip (r : SCRecord) (hw : CRecordFieldsWF r) :
    decodeCounterRecord (crecFormat r) (crecBody r).length (crecBody r) = .ok (expCRecord r) := by
  cases r with
  | ifc vs =>
    obtain ⟨_, hf⟩ := hw
    show decodeCounterRecord 1 _ (encFields ifCountersW vs) = _
    unfold decodeCounterRecord
    rw [if_pos rfl, readFields_exact _ _ hf]
    rfl
  | eth vs =>
    obtain ⟨hl, ha⟩ := hw
    have hf : Fits ethCountersW vs := by
      have := fits_of_allU32 vs ha
      rw [hl] at this
      exact this
    show decodeCounterRecord 2 _ (encFields ethCountersW vs) = _
    unfold decodeCounterRecord
    rw [if_neg (by decide), if_pos rfl, readFields_exact _ _ hf]
    rfl
  | unknown f d =>
    obtain ⟨_, h1, h2, _⟩ := hw
    show decodeCounterRecord f _ d = _
    unfold decodeCounterRecord
    rw [if_neg h1, if_neg h2]
    rfl

theorem crecFormat_lt (r : SCRecord) (hw : CRecordFieldsWF r) : crecFormat r < 2 ^ 32 := by
  cases r <;> first | (simp only [crecFormat]; decide) | exact hw.1

theorem recordLoop_roundtrip {α β} (dec : Nat → Nat → Bytes → Res α) (fmt : β → Nat)
    (body : β → Bytes) (exp : β → α) (rs : List β)
    (h : ∀ r ∈ rs, fmt r < 2 ^ 32 ∧ (body r).length < 2 ^ 32 ∧
      dec (fmt r) (body r).length (body r) = .ok (exp r)) :
    recordLoop dec rs.length (rs.flatMap fun r => u32 (fmt r) ++ u32 (body r).length ++ body r) =
      .ok (rs.map exp) := by
  induction rs with
  | nil => simp [recordLoop]
  | cons r rs ih =>
    obtain ⟨h1, h2, h3⟩ := h r (by simp)
    have ih' := ih (fun q hq => h q (by simp [hq]))
    simp only [List.length_cons, List.flatMap_cons, List.map_cons]
    rw [unknown_record_skipped dec rs.length (fmt r) (body r) _ h1 h2 (exp r) h3, ih']

theorem flowRecords_roundtrip (rs : List SRecord) (h : ∀ r ∈ rs, RecordWF r) :
    recordLoop decodeFlowRecord rs.length (rs.flatMap encRecord) = .ok (rs.map expRecord) :=
  recordLoop_roundtrip decodeFlowRecord recFormat recBody expRecord rs fun r hr =>
    ⟨recFormat_lt r (h r hr).1, (h r hr).2, flowRecord_roundtrip r (h r hr).1⟩

theorem counterRecords_roundtrip (rs : List SCRecord) (h : ∀ r ∈ rs, CRecordWF r) :
    recordLoop decodeCounterRecord rs.length (rs.flatMap encCRecord) = .ok (rs.map expCRecord) :=
  recordLoop_roundtrip decodeCounterRecord crecFormat crecBody expCRecord rs fun r hr =>
    ⟨crecFormat_lt r (h r hr).1, (h r hr).2, counterRecord_roundtrip r (h r hr).1⟩

theorem padTo_full {α} (n : Nat) (z : α) (xs : List α) (h : xs.length = n) : padTo n z xs = xs := by
  simp [padTo, h]

theorem words_snoc (vs : List Nat) (n : Nat) : words (vs ++ [n]) = words vs ++ u32 n := by
  rw [words_append, words_cons, words_nil, List.append_nil]

theorem getD_snoc (vs : List Nat) (n d : Nat) : (vs ++ [n]).getD vs.length d = n := by
  simp [List.getD]

/-- the compact source id: type in the top byte, index in the low three -/
theorem sourceId_split {st sv : Nat} (h2 : st < 2 ^ 8) (h3 : sv < 2 ^ 24) :
    st * 2 ^ 24 + sv < 2 ^ 32 ∧ (st * 2 ^ 24 + sv) / 2 ^ 24 = st ∧ (st * 2 ^ 24 + sv) % 2 ^ 24 = sv := by
  omega

theorem flowSample_roundtrip (seq st sv : Nat) (vals : List Nat) (recs : List SRecord)
    (hw : SampleFieldsWF (.flow seq st sv vals recs)) (len : Nat) :
    decodeSample 1 len (sampleBody (.flow seq st sv vals recs)) =
      .ok (.flow ⟨1, len, seq, st, sv⟩ (vals ++ [recs.length]) (recs.map expRecord)) := by
  obtain ⟨h1, h2, h3, h4, h5, h6, h7⟩ := hw
  obtain ⟨hsid, hdiv, hmod⟩ := sourceId_split h2 h3
  have hget : (vals ++ [recs.length]).getD 5 0 = recs.length := by
    rw [← h4]; exact getD_snoc _ _ _
  rw [decodeSample_flow]
  simp only [sampleBody, List.append_assoc]
  rw [readU_u32 _ h1, thenR_ok, readU_u32 _ hsid, thenR_ok, hdiv, hmod, ← List.append_assoc (words vals), ← words_snoc,
    readFields_words (vals ++ [recs.length]) [4, 4, 4, 4, 4, 4] _ (by simp [h4]) (h5.append (AllU32.single (by omega))),
    thenR_ok, hget, if_neg (by omega), flowRecords_roundtrip recs h7]
  simp only
  rw [padTo_full _ _ _ (by simp)]

theorem expFlowSample_roundtrip (seq st sv : Nat) (vals : List Nat) (recs : List SRecord)
    (hw : SampleFieldsWF (.expFlow seq st sv vals recs)) (len : Nat) :
    decodeSample 3 len (sampleBody (.expFlow seq st sv vals recs)) =
      .ok (.expFlow ⟨3, len, seq, st, sv⟩ (vals ++ [recs.length]) (recs.map expRecord)) := by
  obtain ⟨h1, h2, h3, h4, h5, h6, h7⟩ := hw
  have hget : (vals ++ [recs.length]).getD 7 0 = recs.length := by
    rw [← h4]; exact getD_snoc _ _ _
  rw [decodeSample_expanded 3 _ _ (Or.inl rfl)]
  simp only [sampleBody, List.append_assoc]
  rw [readU_u32 _ h1, thenR_ok, readFields2_u32 _ h2 h3, thenR_ok]
  simp only [show ¬ ((3:Nat) = 4) by decide, if_false, if_true]
  rw [← List.append_assoc (words vals), ← words_snoc,
    readFields_words (vals ++ [recs.length]) [4, 4, 4, 4, 4, 4, 4, 4] _ (by simp [h4]) (h5.append (AllU32.single (by omega))),
    thenR_ok, hget, if_neg (by omega), flowRecords_roundtrip recs h7]
  simp only
  rw [padTo_full _ _ _ (by simp)]

theorem dropSample_roundtrip (seq st sv : Nat) (vals : List Nat) (recs : List SRecord)
    (hw : SampleFieldsWF (.drop seq st sv vals recs)) (len : Nat) :
    decodeSample 5 len (sampleBody (.drop seq st sv vals recs)) =
      .ok (.drop ⟨5, len, seq, st, sv⟩ (vals ++ [recs.length]) (recs.map expRecord)) := by
  obtain ⟨h1, h2, h3, h4, h5, h6, h7⟩ := hw
  have hget : (vals ++ [recs.length]).getD 4 0 = recs.length := by
    rw [← h4]; exact getD_snoc _ _ _
  rw [decodeSample_expanded 5 _ _ (Or.inr (Or.inr rfl))]
  simp only [sampleBody, List.append_assoc]
  rw [readU_u32 _ h1, thenR_ok, readFields2_u32 _ h2 h3, thenR_ok]
  simp only [show ¬ ((5:Nat) = 4) by decide, show ¬ ((5:Nat) = 3) by decide, if_false]
  rw [← List.append_assoc (words vals), ← words_snoc,
    readFields_words (vals ++ [recs.length]) [4, 4, 4, 4, 4] _ (by simp [h4]) (h5.append (AllU32.single (by omega))),
    thenR_ok, hget, if_neg (by omega), flowRecords_roundtrip recs h7]
  simp only
  rw [padTo_full _ _ _ (by simp)]

theorem counterSample_roundtrip (seq st sv : Nat) (recs : List SCRecord)
    (hw : SampleFieldsWF (.counter seq st sv recs)) (len : Nat) :
    decodeSample 2 len (sampleBody (.counter seq st sv recs)) =
      .ok (.counter ⟨2, len, seq, st, sv⟩ recs.length (recs.map expCRecord)) := by
  obtain ⟨h1, h2, h3, h6, h7⟩ := hw
  obtain ⟨hsid, hdiv, hmod⟩ := sourceId_split h2 h3
  rw [decodeSample_counter]
  simp only [sampleBody, List.append_assoc]
  rw [readU_u32 _ h1, thenR_ok, readU_u32 _ hsid, thenR_ok, hdiv, hmod, readU_u32 _ (show recs.length < 2 ^ 32 by omega),
    thenR_ok, if_neg (by omega), counterRecords_roundtrip recs h7]
  simp only
  rw [padTo_full _ _ _ (by simp)]

theorem expCounterSample_roundtrip (seq st sv : Nat) (recs : List SCRecord)
    (hw : SampleFieldsWF (.expCounter seq st sv recs)) (len : Nat) :
    decodeSample 4 len (sampleBody (.expCounter seq st sv recs)) =
      .ok (.counter ⟨4, len, seq, st, sv⟩ recs.length (recs.map expCRecord)) := by
  obtain ⟨h1, h2, h3, h6, h7⟩ := hw
  rw [decodeSample_expanded 4 _ _ (Or.inr (Or.inl rfl))]
  simp only [sampleBody, List.append_assoc]
  rw [readU_u32 _ h1, thenR_ok, readFields2_u32 _ h2 h3, thenR_ok]
  simp only [if_true]
  rw [readU_u32 _ (show recs.length < 2 ^ 32 by omega), thenR_ok, if_neg (by omega), counterRecords_roundtrip recs h7]
  simp only
  rw [padTo_full _ _ _ (by simp)]

theorem sample_roundtrip (s : SSample) (hw : SampleFieldsWF s) :
    decodeSample (sampleFormat s) (sampleBody s).length (sampleBody s) = .ok (expSample s) := by
  cases s with
  | flow seq st sv vals recs => exact flowSample_roundtrip seq st sv vals recs hw _
  | expFlow seq st sv vals recs => exact expFlowSample_roundtrip seq st sv vals recs hw _
  | counter seq st sv recs => exact counterSample_roundtrip seq st sv recs hw _
  | expCounter seq st sv recs => exact expCounterSample_roundtrip seq st sv recs hw _
  | drop seq st sv vals recs => exact dropSample_roundtrip seq st sv vals recs hw _

theorem sampleFormat_lt (s : SSample) : sampleFormat s < 2 ^ 32 := by
  cases s <;> (simp only [sampleFormat]; decide)

theorem sampleLoop_step (n : Nat) (s : SSample) (rest : Bytes) (hw : SampleWF s) :
    sampleLoop (n + 1) (encSample s ++ rest) =
      match sampleLoop n rest with
      | .error e => .error e
      | .ok ss => .ok (expSample s :: ss) := by
  obtain ⟨hf, hl⟩ := hw
  conv => lhs; unfold sampleLoop
  have hlen : 8 ≤ (encSample s ++ rest).length := by
    simp [encSample, u32_length]; omega
  rw [if_pos hlen]
  simp only [encSample, List.append_assoc]
  rw [readFields2_u32 _ (sampleFormat_lt s) hl]
  simp only
  have hle : ¬ (sampleBody s).length > (sampleBody s ++ rest).length := by simp
  rw [if_neg hle]
  simp only [List.take_left', List.drop_left', sample_roundtrip s hf]
  rfl

theorem sampleLoop_roundtrip (ss : List SSample) (h : ∀ s ∈ ss, SampleWF s) :
    sampleLoop ss.length (ss.flatMap encSample) = .ok (ss.map expSample) := by
  induction ss with
  | nil => simp [sampleLoop]
  | cons s ss ih =>
    have ih' := ih (fun q hq => h q (by simp [hq]))
    simp only [List.length_cons, List.flatMap_cons, List.map_cons]
    rw [sampleLoop_step _ _ _ (h s (by simp)), ih']

theorem decodeMessage_roundtrip (d : Datagram) (h : DatagramWF d) :
    decodeMessage (xdrAddr d.agent ++ u32 d.subAgent ++ u32 d.seq ++ u32 d.uptime ++
      u32 d.samples.length ++ d.samples.flatMap encSample) = .ok (expected d) := by
  obtain ⟨h1, h2, h3, h4, h5, h6⟩ := h
  unfold decodeMessage
  simp only [xdrAddr, List.append_assoc]
  have hn : d.samples.length < 2 ^ 32 := by omega
  have hipv : (if d.agent.length = 4 then 1 else 2) < 2 ^ 32 := by split <;> decide
  have htake : (if (if d.agent.length = 4 then 1 else 2) = 1 then 4
      else if (if d.agent.length = 4 then 1 else 2) = 2 then 16 else 0) = d.agent.length := by
    rcases h1 with h | h <;> simp [h]
  have hne : ¬ d.agent.length = 0 := by rcases h1 with h | h <;> omega
  rw [readU_u32 _ hipv]
  simp only
  rw [htake, if_neg hne, takeN_append _ _ rfl]
  simp only
  rw [readFields4_u32 _ h2 h3 h4 hn]
  simp only [List.getD_cons_succ, List.getD_cons_zero]
  rw [if_neg (by omega), sampleLoop_roundtrip _ h6]
  simp only
  rw [padTo_full _ _ _ (by simp)]
  rfl

/-- **C04 round trip**: decoding the XDR encoding of a well-formed sFlow v5 datagram yields exactly
    the packet a correct collector must produce. -/
theorem roundtrip (d : Datagram) (h : DatagramWF d) :
    decodeMessageVersion (encode d) = .ok (expected d) := by
  unfold decodeMessageVersion encode
  simp only [List.append_assoc]
  rw [readU_u32 _ (by decide)]
  simp only [ne_eq, not_true_eq_false, if_false]
  have := decodeMessage_roundtrip d h
  simp only [List.append_assoc] at this
  exact this

/-- a datagram with a flow sample (raw header, extended gateway with an AS path, a record of an
    unknown format), a counter sample (interface and ethernet counters) and a drop sample -/
def exampleDatagram : Datagram :=
  { agent := [10, 0, 0, 1], subAgent := 0, seq := 7, uptime := 123456,
    samples :=
      [ .flow 1 0 3 [1000, 50000, 0, 3, 4]
          [ .rawHeader 1 64 4 [0xde, 0xad, 0xbe, 0xef, 0x01],
            .extGateway [192, 0, 2, 1] 65000 65001 65002 (some (2, [65010, 65020])) [100, 200] 100,
            .unknown 9999 [1, 2, 3, 4] ],
        .counter 2 0 3
          [ .ifc [3, 6, 10000000000, 1, 3, 123456789012, 10, 11, 12, 13, 14, 15, 987654321098, 20, 21, 22, 23, 24, 1],
            .eth [0, 1, 2, 3, 4, 5, 6, 7, 8, 9, 10, 11, 12] ],
        .drop 3 0 5 [1, 3, 4, 256]
          [ .ipv4 60 6 [10, 0, 0, 2] [10, 0, 0, 3] 443 51234 16 0 ] ] }

theorem exampleDatagram_wf : DatagramWF exampleDatagram := by
  simp only [DatagramWF, SampleWF, SampleFieldsWF, RecordWF, RecordFieldsWF, CRecordWF, CRecordFieldsWF, AllU32, AddrWF,
    exampleDatagram, List.forall_mem_cons, List.not_mem_nil, false_imp_iff, implies_true]
  and_intros <;> decide +kernel

example : decodeMessageVersion (encode exampleDatagram) = .ok (expected exampleDatagram) :=
  roundtrip _ exampleDatagram_wf

end Goflow.C04
