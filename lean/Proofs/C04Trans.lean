import Goflow.Generated.SflowT
import Goflow.Decoders.Sflow
import Proofs.Lemmas.GoPrims
import Proofs.Lemmas.SflowModel
/-!
  C04 (translation tie, first part) — the sFlow decoder. `DecodeIP` of decoders/sflow/sflow.go is regenerated
  (Goflow/Generated/SflowT.lean) and proved equal to the model's `decodeIP` for every byte string: the address family, the
  address bytes, the buffer that remains, and the error class (EOF when the family word is cut, `bad` for an unknown family or
  a cut address). `decodeIP_sim` makes it one more reader for the record decoders of Proofs/C04Trans2.lean, beside those of
  Proofs/Lemmas/GoPrims.lean.
-/
set_option linter.unusedSimpArgs false
namespace Goflow.C04Trans
open Goflow Goflow.Producer Goflow.Generated Goflow.Go Goflow.Sflow

/-- sflow.DecodeIP for every byte string: (family, address, rest) or the model's error class -/
theorem decodeIP_trans_eq (b : Bytes) :
    (TS.DecodeIP b).map (fun r => (r.2.1.toNat, r.2.2, r.1)) = decodeIP b := by
  rw [decodeIP_thenR]
  unfold TS.DecodeIP
  apply readU32_sim; intro v b1
  apply ite_sim _ (UInt32.toNat_inj (b := 1)).symm
  case' hB => apply ite_sim _ (UInt32.toNat_inj (b := 2)).symm
  case hB.hB => rfl
  all_goals
    simp only [Go.makeBytes, ok_bind, List.length_replicate]
    apply cond_sim _ decide_eq_true_iff
    · intro h; rw [readBytes_ok (by decide) h]; rfl
    · intro _; rfl

theorem decodeIP_sim {β γ : Type} (φ : β → γ) (b : Bytes) (f : Bytes × UInt32 × Bytes → Res β) (k : Nat → Bytes × Bytes → Res γ)
    (h : ∀ p v ip, (f (p, v, ip)).map φ = k v.toNat (ip, p)) :
    (TS.DecodeIP b >>= f).map φ = thenR (decodeIP b) k := by
  rw [← decodeIP_trans_eq]
  cases TS.DecodeIP b with
  | error e => rfl
  | ok r => exact h r.1 r.2.1 r.2.2

end Goflow.C04Trans
