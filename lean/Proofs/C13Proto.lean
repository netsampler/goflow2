import Goflow.Format.Formatter
import Proofs.C13
/-!
  C13 — the binary form parses back to the same message.

  A specification-side protobuf reader (`scanFields`, `unmarshal`), written from the protobuf encoding rules and the
  column table only, and the theorem that it inverts `marshal` on every message of the documented domain (`MsgOK`);
  with `frame_split`, the whole stream.
-/
namespace Goflow.C13
open Goflow Goflow.Format Goflow.Producer

/-- (field number, wire type, payload of a length-delimited field, value of a varint field); the unused component is
    `[]` / `0` -/
abbrev Field := Nat × Nat × Bytes × Nat

def Field.num (f : Field) : Nat := f.1
def Field.wt (f : Field) : Nat := f.2.1
def Field.payload (f : Field) : Bytes := f.2.2.1
def Field.value (f : Field) : Nat := f.2.2.2

/-- protowire.ConsumeVarint: at most ten bytes, the value must fit 64 bits -/
def readVarint (b : Bytes) : Option (Nat × Bytes) :=
  match consumeVarint 10 b with
  | some (v, r) => if v < 2 ^ 64 then some (v, r) else none
  | none => none

/-- `none` on malformed input: bad varint, field number 0, a wire type other than 0 / 2, a length running past the end -/
def scanFields : Nat → Bytes → Option (List Field)
  | _, [] => some []
  | 0, _ => none
  | fuel + 1, b =>
    match readVarint b with
    | none => none
    | some (tag, r) =>
      let num := tag / 8
      let wt := tag % 8
      if num = 0 then none
      else if wt = 0 then
        match readVarint r with
        | none => none
        | some (v, r') =>
          match scanFields fuel r' with
          | none => none
          | some fs => some ((num, 0, [], v) :: fs)
      else if wt = 2 then
        match readVarint r with
        | none => none
        | some (n, r') =>
          if r'.length < n then none else
          match scanFields fuel (r'.drop n) with
          | none => none
          | some fs => some ((num, 2, r'.take n, 0) :: fs)
      else none

def encodeField (f : Field) : Bytes :=
  if f.wt = 0 then appendTag f.num 0 ++ appendVarint f.value
  else appendTag f.num 2 ++ appendVarint f.payload.length ++ f.payload

def encodeFields (fs : List Field) : Bytes := fs.flatMap encodeField

def colOf (num : Nat) : Option Column := flowMessageColumns.find? (fun c => c.num == num)

/-- the message type knows the field: number known, wire type acceptable for the column kind -/
def isKnown (f : Field) : Bool :=
  match colOf f.num with
  | none => false
  | some c =>
    if c.kind = "u32" ∨ c.kind = "u64" then f.wt == 0
    else if c.kind = "listU32" then f.wt == 0 || f.wt == 2
    else f.wt == 2

def unpack : Nat → Bytes → Option (List Nat)
  | _, [] => some []
  | 0, _ => none
  | fuel + 1, b =>
    match readVarint b with
    | none => none
    | some (v, r) =>
      match unpack fuel r with
      | none => none
      | some vs => some (v :: vs)

def fieldsOf (n : Nat) (fs : List Field) : List Field := fs.filter fun f => f.num == n

/-- scalar number column: the last varint occurrence wins, truncated to the column width -/
def numOf (bits n : Nat) (fs : List Field) : Nat :=
  (fieldsOf n fs).foldl (fun acc f => if f.wt = 0 then f.value % 2 ^ bits else acc) 0

/-- scalar bytes column: the last length-delimited occurrence wins -/
def bytesOf (n : Nat) (fs : List Field) : Bytes :=
  (fieldsOf n fs).foldl (fun acc f => if f.wt = 2 then f.payload else acc) []

/-- repeated uint32: every occurrence contributes, a varint one element, a length-delimited one its
    packed elements; malformed packed payload: error -/
def elemsOf : List Field → Option (List Nat)
  | [] => some []
  | f :: fs =>
    match (if f.wt = 0 then some [f.value] else unpack (f.payload.length + 1) f.payload), elemsOf fs with
    | some a, some b => some (a.map (· % 2 ^ 32) ++ b)
    | _, _ => none

def numsOf (n : Nat) (fs : List Field) : Option (List Nat) := elemsOf (fieldsOf n fs)

/-- repeated bytes: the length-delimited occurrences in order -/
def bytessOf (n : Nat) (fs : List Field) : List Bytes :=
  ((fieldsOf n fs).filter fun f => f.wt == 2).map Field.payload

def fillCol (fs : List Field) (acc : Option FlowMsg) (c : Column) : Option FlowMsg :=
  match acc with
  | none => none
  | some m =>
    if c.kind = "u32" then some (m.setNum c.goName (numOf 32 c.num fs))
    else if c.kind = "u64" then some (m.setNum c.goName (numOf 64 c.num fs))
    else if c.kind = "bytes" then some (m.setBytes c.goName (bytesOf c.num fs))
    else if c.kind = "listU32" then
      match numsOf c.num fs with
      | none => none
      | some vs => some (m.setNums c.goName vs)
    else some (m.setBytess c.goName (bytessOf c.num fs))

/-- proto.Unmarshal into a FlowMsg: the known field numbers by the column table (last value wins for
    scalars, packed and unpacked encodings accepted for repeated numbers, repeated bytes appended in
    order), the fields the message type does not know re-encoded in order into `unk` -/
def unmarshal (b : Bytes) : Option FlowMsg :=
  match scanFields (b.length + 1) b with
  | none => none
  | some fs =>
    flowMessageColumns.foldl (fillCol fs) (some { unk := encodeFields (fs.filter fun f => !isKnown f) })

/-- the unknown section is a well-formed sequence of fields in canonical encoding, none of them under a
    number of the message type -/
def UnkOK (unk : Bytes) : Prop :=
  match scanFields (unk.length + 1) unk with
  | none => False
  | some fs => encodeFields fs = unk ∧ ∀ f ∈ fs, colOf f.num = none

structure MsgOK (m : FlowMsg) : Prop where
  u32 : ∀ c ∈ flowMessageColumns, c.kind = "u32" → (m.getNum c.goName).getD 0 < 2 ^ 32
  u64 : ∀ c ∈ flowMessageColumns, c.kind = "u64" → (m.getNum c.goName).getD 0 < 2 ^ 64
  elems : ∀ c ∈ flowMessageColumns, c.kind = "listU32" → ∀ v ∈ (m.getNums c.goName).getD [], v < 2 ^ 32
  size : (marshal m).length < 2 ^ 64
  unk : UnkOK m.unk

theorem appendVarint_length_pos (v : Nat) : 0 < (appendVarint v).length := by
  unfold appendVarint varint; split <;> simp

theorem readVarint_append (v : Nat) (rest : Bytes) (h : v < 2 ^ 64) :
    readVarint (appendVarint v ++ rest) = some (v, rest) := by
  unfold readVarint; rw [varint_roundtrip v rest h]; simp [h]

theorem readVarint_lt {b r : Bytes} {v : Nat} (h : readVarint b = some (v, r)) : v < 2 ^ 64 := by
  unfold readVarint at h
  split at h
  · split at h
    · simp at h; omega
    · simp at h
  · simp at h

def FieldOK (f : Field) : Prop :=
  f.num ≠ 0 ∧ f.num * 8 + f.wt < 2 ^ 64 ∧
    ((f.wt = 0 ∧ f.payload = [] ∧ f.value < 2 ^ 64) ∨ (f.wt = 2 ∧ f.value = 0 ∧ f.payload.length < 2 ^ 64))

theorem scanFields_nil (fuel : Nat) : scanFields fuel [] = some [] := by cases fuel <;> rfl

theorem scan_cons (f : Field) (hf : FieldOK f) (fuel : Nat) (rest : Bytes) :
    scanFields (fuel + 1) (encodeField f ++ rest) =
      match scanFields fuel rest with
      | none => none
      | some fs => some (f :: fs) := by
  obtain ⟨num, wt, p, v⟩ := f
  obtain ⟨h0, ht, h⟩ := hf
  simp only [Field.num, Field.wt, Field.payload, Field.value] at h0 ht h
  have hwt : wt = 0 ∨ wt = 2 := h.imp (·.1) (·.1)
  have e1 : (num * 8 + wt) / 8 = num := by omega
  have e2 : (num * 8 + wt) % 8 = wt := by omega
  have tagged : encodeField (num, wt, p, v) ++ rest =
      appendVarint (num * 8 + wt) ++ ((if wt = 0 then appendVarint v else appendVarint p.length ++ p) ++ rest) := by
    rcases hwt with rfl | rfl <;> simp [encodeField, Field.num, Field.wt, Field.payload, Field.value, appendTag]
  rw [tagged, scanFields.eq_3 _ _ (appendVarint_ne _ _), readVarint_append _ _ ht]
  simp only [e1, e2, h0, if_false]
  rcases h with ⟨rfl, rfl, hv⟩ | ⟨rfl, rfl, hp⟩
  · simp only [if_true]
    rw [readVarint_append _ _ hv]
  · have hw : ¬ ((2 : Nat) = 0) := by decide
    simp only [hw, if_false, if_true, List.append_assoc]
    rw [readVarint_append _ _ hp]
    have hl : ¬ ((p ++ rest).length < p.length) := by simp
    simp only [hl, if_false, List.drop_left, List.take_left]

theorem scan_encode (fs : List Field) (h : ∀ f ∈ fs, FieldOK f) (fuel : Nat) (hfu : fs.length < fuel) :
    scanFields fuel (encodeFields fs) = some fs := by
  induction fs generalizing fuel with
  | nil => exact scanFields_nil fuel
  | cons f fs ih =>
    cases fuel with
    | zero => simp at hfu
    | succ n =>
      have : encodeFields (f :: fs) = encodeField f ++ encodeFields fs := by simp [encodeFields]
      rw [this, scan_cons f (h f (by simp)) n, ih (fun g hg => h g (by simp [hg])) n (by simp at hfu; omega)]

theorem FieldOK.varint {tag v : Nat} (ht : tag < 2 ^ 64) (hn : tag / 8 ≠ 0) (hw : tag % 8 = 0) (hv : v < 2 ^ 64) :
    FieldOK (tag / 8, 0, [], v) :=
  ⟨hn, by simp only [Field.num, Field.wt]; omega, Or.inl ⟨rfl, rfl, hv⟩⟩

theorem FieldOK.bytes {tag : Nat} {p : Bytes} (ht : tag < 2 ^ 64) (hn : tag / 8 ≠ 0) (hw : tag % 8 = 2)
    (hp : p.length < 2 ^ 64) : FieldOK (tag / 8, 2, p, 0) :=
  ⟨hn, by simp only [Field.num, Field.wt]; omega, Or.inr ⟨rfl, rfl, hp⟩⟩

theorem scan_ok (fuel : Nat) (b : Bytes) : ∀ fs, scanFields fuel b = some fs → ∀ f ∈ fs, FieldOK f := by
  fun_induction scanFields fuel b <;> intro fs h <;> cases h <;> intro f hf <;> cases hf
  · exact .varint (readVarint_lt ‹_›) ‹_› ‹_› (readVarint_lt ‹_›)
  · exact ‹∀ fs, _ → ∀ f ∈ fs, FieldOK f› _ ‹_› _ ‹_›
  · exact .bytes (readVarint_lt ‹_›) ‹_› ‹_› (Nat.lt_of_le_of_lt (List.length_take_le _ _) (readVarint_lt ‹_›))
  · exact ‹∀ fs, _ → ∀ f ∈ fs, FieldOK f› _ ‹_› _ ‹_›

theorem encodeField_length_pos (f : Field) : 0 < (encodeField f).length := by
  unfold encodeField appendTag
  have h0 := appendVarint_length_pos (f.num * 8 + 0)
  have h2 := appendVarint_length_pos (f.num * 8 + 2)
  split <;> simp only [List.length_append] <;> omega

theorem length_le_encode (fs : List Field) : fs.length ≤ (encodeFields fs).length := by
  induction fs with
  | nil => simp
  | cons f fs ih =>
    have : encodeFields (f :: fs) = encodeField f ++ encodeFields fs := by simp [encodeFields]
    rw [this, List.length_append, List.length_cons]
    have := encodeField_length_pos f
    omega

theorem payload_le_encode (fs : List Field) (f : Field) (hf : f ∈ fs) (hw : f.wt ≠ 0) :
    f.payload.length ≤ (encodeFields fs).length := by
  induction fs with
  | nil => simp at hf
  | cons g fs ih =>
    have : encodeFields (g :: fs) = encodeField g ++ encodeFields fs := by simp [encodeFields]
    rw [this, List.length_append]
    rcases List.mem_cons.1 hf with rfl | hf
    · unfold encodeField; simp only [hw, if_false, List.length_append]; omega
    · have := ih hf; omega

theorem encodeFields_append (a b : List Field) : encodeFields (a ++ b) = encodeFields a ++ encodeFields b := by
  simp [encodeFields]

/-! `marshal` writes fields: one list of fields per wire form, with the field number as a variable -/

def varintField (n v : Nat) : List Field := if v = 0 then [] else [(n, 0, [], v)]
def bytesField (n : Nat) (b : Bytes) : List Field := if b.isEmpty then [] else [(n, 2, b, 0)]
def packedField (n : Nat) (vs : List Nat) : List Field :=
  if vs.isEmpty then [] else [(n, 2, vs.flatMap appendVarint, 0)]
def repeatedField (n : Nat) (bs : List Bytes) : List Field := bs.map fun b => (n, 2, b, 0)

theorem encode_varintField (n v : Nat) : encodeFields (varintField n v) = pbVarintField n v := by
  unfold varintField pbVarintField
  split <;> simp [encodeFields, encodeField, Field.wt, Field.num, Field.value]

theorem encode_bytesField (n : Nat) (b : Bytes) : encodeFields (bytesField n b) = pbBytesField n b := by
  unfold bytesField pbBytesField
  split <;> simp [encodeFields, encodeField, Field.wt, Field.num, Field.payload]

theorem encode_packedField (n : Nat) (vs : List Nat) : encodeFields (packedField n vs) = pbPacked n vs := by
  unfold packedField pbPacked
  split <;> simp [encodeFields, encodeField, Field.wt, Field.num, Field.payload]

theorem encode_repeatedField (n : Nat) (bs : List Bytes) : encodeFields (repeatedField n bs) = pbRepeatedBytes n bs := by
  simp [repeatedField, pbRepeatedBytes, encodeFields, List.flatMap_map, encodeField, Field.wt, Field.num, Field.payload]

def colFields (m : FlowMsg) (c : Column) : List Field :=
  if c.kind = "u32" ∨ c.kind = "u64" then varintField c.num ((m.getNum c.goName).getD 0)
  else if c.kind = "bytes" then bytesField c.num ((m.getBytes c.goName).getD [])
  else if c.kind = "listU32" then packedField c.num ((m.getNums c.goName).getD [])
  else repeatedField c.num ((m.getBytess c.goName).getD [])

def sortedCols : List Column := flowMessageColumns.mergeSort (fun a b => a.num ≤ b.num)

def knownFields (m : FlowMsg) : List Field := sortedCols.flatMap (colFields m)

theorem marshal_eq (m : FlowMsg) : marshal m = encodeFields (knownFields m) ++ m.unk := by
  unfold marshal knownFields encodeFields
  rw [List.flatMap_assoc]
  show List.flatMap _ sortedCols ++ m.unk = _
  congr 2
  funext c
  show _ = encodeFields (colFields m c)
  simp only [colFields, apply_ite encodeFields, encode_varintField, encode_bytesField, encode_packedField,
    encode_repeatedField]

theorem sortedCols_mem (c : Column) : c ∈ sortedCols ↔ c ∈ flowMessageColumns :=
  (List.mergeSort_perm _ _).mem_iff

theorem cols_distinct : flowMessageColumns.Pairwise (fun a b => a.num ≠ b.num) := by
  have : (flowMessageColumns.map (·.num)).Nodup := by decide +kernel
  rwa [List.nodup_iff_pairwise_ne, List.pairwise_map] at this

theorem sortedCols_pairwise : sortedCols.Pairwise (fun a b => a.num ≠ b.num) :=
  (List.Perm.pairwise_iff (fun h => Ne.symm h) (List.mergeSort_perm _ _)).2 cols_distinct

theorem find?_key {α} (key : α → Nat) (l : List α) (hp : l.Pairwise (fun a b => key a ≠ key b)) (c : α) (hc : c ∈ l) :
    l.find? (fun x => key x == key c) = some c := by
  induction l with
  | nil => cases hc
  | cons d ds ih =>
    rw [List.pairwise_cons] at hp
    rcases List.mem_cons.1 hc with rfl | h
    · simp
    · rw [List.find?_cons_of_neg (by simpa using hp.1 c h), ih hp.2 h]

theorem colOf_mem (c : Column) (hc : c ∈ flowMessageColumns) : colOf c.num = some c :=
  find?_key Column.num _ cols_distinct c hc

theorem num_ok : ∀ c ∈ flowMessageColumns, c.num ≠ 0 ∧ c.num * 8 + 2 < 2 ^ 64 := by decide +kernel

theorem colFields_shape (m : FlowMsg) (c : Column) (f : Field) (hf : f ∈ colFields m c) :
    f.num = c.num ∧
      ((f.wt = 0 ∧ f.payload = [] ∧ f.value = (m.getNum c.goName).getD 0 ∧ (c.kind = "u32" ∨ c.kind = "u64")) ∨
       (f.wt = 2 ∧ f.value = 0 ∧ ¬ (c.kind = "u32" ∨ c.kind = "u64"))) := by
  unfold colFields at hf
  split at hf
  · next hk =>
    unfold varintField at hf
    split at hf
    · cases hf
    · cases List.mem_singleton.1 hf; exact ⟨rfl, Or.inl ⟨rfl, rfl, rfl, hk⟩⟩
  · next hk =>
    suffices f.num = c.num ∧ f.wt = 2 ∧ f.value = 0 from ⟨this.1, Or.inr ⟨this.2.1, this.2.2, hk⟩⟩
    unfold bytesField packedField repeatedField at hf
    repeat' split at hf
    · cases hf
    · cases List.mem_singleton.1 hf; exact ⟨rfl, rfl, rfl⟩
    · cases hf
    · cases List.mem_singleton.1 hf; exact ⟨rfl, rfl, rfl⟩
    · obtain ⟨b, _, rfl⟩ := List.mem_map.1 hf; exact ⟨rfl, rfl, rfl⟩

theorem mem_knownFields (m : FlowMsg) (f : Field) (hf : f ∈ knownFields m) :
    ∃ c ∈ flowMessageColumns, f ∈ colFields m c := by
  unfold knownFields at hf
  simp only [List.mem_flatMap] at hf
  obtain ⟨c, hc, hf⟩ := hf
  exact ⟨c, (sortedCols_mem c).1 hc, hf⟩

theorem fieldsOf_flatMap (m : FlowMsg) (cols : List Column) (hp : cols.Pairwise (fun a b => a.num ≠ b.num))
    (c : Column) (hc : c ∈ cols) : fieldsOf c.num (cols.flatMap (colFields m)) = colFields m c := by
  unfold fieldsOf
  induction cols with
  | nil => cases hc
  | cons d ds ih =>
    rw [List.pairwise_cons] at hp
    rw [List.flatMap_cons, List.filter_append]
    rcases List.mem_cons.1 hc with rfl | hc'
    · have rest : (ds.flatMap (colFields m)).filter (fun f => f.num == c.num) = [] := by
        rw [List.filter_eq_nil_iff]
        intro f hf
        obtain ⟨e, he, hf⟩ := List.mem_flatMap.1 hf
        simpa [(colFields_shape m e f hf).1] using (hp.1 e he).symm
      rw [rest, List.append_nil, List.filter_eq_self]
      intro f hf
      simp [(colFields_shape m c f hf).1]
    · have other : (colFields m d).filter (fun f => f.num == c.num) = [] := by
        rw [List.filter_eq_nil_iff]
        intro f hf
        simpa [(colFields_shape m d f hf).1] using hp.1 c hc'
      rw [other, List.nil_append]
      exact ih hp.2 hc'

theorem unpack_nil (fuel : Nat) : unpack fuel [] = some [] := by cases fuel <;> rfl

theorem unpack_pack (vs : List Nat) (h : ∀ v ∈ vs, v < 2 ^ 64) (fuel : Nat) (hfu : vs.length < fuel) :
    unpack fuel (vs.flatMap appendVarint) = some vs := by
  induction vs generalizing fuel with
  | nil => exact unpack_nil fuel
  | cons v vs ih =>
    cases fuel with
    | zero => simp at hfu
    | succ n =>
      simp only [List.flatMap_cons]
      have hne := appendVarint_ne v (vs.flatMap appendVarint)
      rw [unpack.eq_3 _ _ hne, readVarint_append _ _ (h v (by simp))]
      simp only
      rw [ih (fun w hw => h w (by simp [hw])) n (by simp at hfu; omega)]

theorem length_le_pack (vs : List Nat) : vs.length ≤ (vs.flatMap appendVarint).length := by
  induction vs with
  | nil => simp
  | cons v vs ih =>
    simp only [List.flatMap_cons, List.length_append, List.length_cons]
    have := appendVarint_length_pos v
    omega

theorem map_mod_id (vs : List Nat) (h : ∀ v ∈ vs, v < 2 ^ 32) : vs.map (· % 2 ^ 32) = vs := by
  exact (List.map_congr_left (g := id) fun v hv => Nat.mod_eq_of_lt (h v hv)).trans (List.map_id vs)

def copyCol (m : FlowMsg) (a : FlowMsg) (c : Column) : FlowMsg :=
  if c.kind = "u32" then a.setNum c.goName ((m.getNum c.goName).getD 0)
  else if c.kind = "u64" then a.setNum c.goName ((m.getNum c.goName).getD 0)
  else if c.kind = "bytes" then a.setBytes c.goName ((m.getBytes c.goName).getD [])
  else if c.kind = "listU32" then a.setNums c.goName ((m.getNums c.goName).getD [])
  else a.setBytess c.goName ((m.getBytess c.goName).getD [])

theorem copy_all (m : FlowMsg) : flowMessageColumns.foldl (copyCol m) { unk := m.unk } = m := by
  cases m; rfl

theorem numOf_eq {bits n v : Nat} {fs : List Field} (h : fieldsOf n fs = varintField n v) (hv : v < 2 ^ bits) :
    numOf bits n fs = v := by
  unfold numOf
  rw [h]
  unfold varintField
  split
  · next hz => exact hz.symm
  · exact Nat.mod_eq_of_lt hv

theorem bytesOf_eq {n : Nat} {b : Bytes} {fs : List Field} (h : fieldsOf n fs = bytesField n b) : bytesOf n fs = b := by
  unfold bytesOf
  rw [h]
  unfold bytesField
  split
  · next hz => exact (List.isEmpty_iff.1 hz).symm
  · rfl

theorem numsOf_eq {n : Nat} {vs : List Nat} {fs : List Field} (h : fieldsOf n fs = packedField n vs)
    (hvs : ∀ v ∈ vs, v < 2 ^ 32) : numsOf n fs = some vs := by
  unfold numsOf
  rw [h]
  unfold packedField
  split
  · next hz => rw [List.isEmpty_iff.1 hz]; rfl
  · have hu := unpack_pack vs (fun v hv => Nat.lt_trans (hvs v hv) (by decide)) _ (Nat.lt_succ_of_le (length_le_pack vs))
    simp only [elemsOf, Field.wt, Field.payload, if_neg (show ¬ (2 : Nat) = 0 by decide), hu, List.append_nil,
      map_mod_id vs hvs]

theorem bytessOf_eq {n : Nat} {bs : List Bytes} {fs : List Field} (h : fieldsOf n fs = repeatedField n bs) :
    bytessOf n fs = bs := by
  unfold bytessOf
  rw [h]
  simp [repeatedField, List.filter_map, Function.comp_def, Field.wt, Field.payload]

theorem fillCol_eq (m : FlowMsg) (h : MsgOK m) (fs : List Field) (c : Column) (hc : c ∈ flowMessageColumns)
    (hfs : fieldsOf c.num fs = colFields m c) (a : FlowMsg) :
    fillCol fs (some a) c = some (copyCol m a c) := by
  unfold colFields at hfs
  unfold fillCol copyCol
  by_cases h32 : c.kind = "u32"
  · rw [if_pos (Or.inl h32)] at hfs
    simp only [if_pos h32, numOf_eq hfs (h.u32 c hc h32)]
  by_cases h64 : c.kind = "u64"
  · rw [if_pos (Or.inr h64)] at hfs
    simp only [if_neg h32, if_pos h64, numOf_eq hfs (h.u64 c hc h64)]
  rw [if_neg (not_or.2 ⟨h32, h64⟩)] at hfs
  by_cases hb : c.kind = "bytes"
  · rw [if_pos hb] at hfs
    simp only [if_neg h32, if_neg h64, if_pos hb, bytesOf_eq hfs]
  rw [if_neg hb] at hfs
  by_cases hl : c.kind = "listU32"
  · rw [if_pos hl] at hfs
    simp only [if_neg h32, if_neg h64, if_neg hb, if_pos hl, numsOf_eq hfs (h.elems c hc hl)]
  · rw [if_neg hl] at hfs
    simp only [if_neg h32, if_neg h64, if_neg hb, if_neg hl, bytessOf_eq hfs]

theorem foldl_fill (fs : List Field) (g : FlowMsg → Column → FlowMsg) (cols : List Column)
    (h : ∀ c ∈ cols, ∀ a, fillCol fs (some a) c = some (g a c)) (a : FlowMsg) :
    cols.foldl (fillCol fs) (some a) = some (cols.foldl g a) := by
  induction cols generalizing a with
  | nil => rfl
  | cons c cs ih =>
    simp only [List.foldl_cons]
    rw [h c (by simp) a]
    exact ih (fun d hd => h d (by simp [hd])) _

theorem isKnown_known (m : FlowMsg) (f : Field) (hf : f ∈ knownFields m) : isKnown f = true := by
  obtain ⟨c, hc, hfc⟩ := mem_knownFields m f hf
  obtain ⟨hnum, hsh⟩ := colFields_shape m c f hfc
  unfold isKnown
  rw [hnum, colOf_mem c hc]
  simp only
  rcases hsh with ⟨hw, _, _, hk⟩ | ⟨hw, _, hk⟩
  · rw [if_pos hk, hw]; rfl
  · rw [if_neg hk, hw]; split <;> rfl

/-- a protobuf reader gets the message back. `marshal m` is the encoding of the known fields followed by the
    unknown ones (`hm`); scanning inverts encoding on well-formed fields (`hscanAll`); filtering out the known
    numbers leaves the unknown section (`hfilter`); the fields found for each column are those it was written
    with (`hfieldsOf`), so filling the columns one by one rebuilds `m` (`foldl_fill`, `copy_all`). -/
theorem unmarshal_marshal (m : FlowMsg) (h : MsgOK m) : unmarshal (marshal m) = some m := by
  have hu := h.unk
  unfold UnkOK at hu
  split at hu
  · exact hu.elim
  · rename_i ufs hscan
    obtain ⟨henc, hcol⟩ := hu
    have hufsOK := scan_ok _ _ _ hscan
    have hm : marshal m = encodeFields (knownFields m ++ ufs) := by
      rw [marshal_eq, encodeFields_append, henc]
    have hsize := h.size
    have hkOK : ∀ f ∈ knownFields m, FieldOK f := by
      intro f hf
      obtain ⟨c, hc, hfc⟩ := mem_knownFields m f hf
      obtain ⟨hnum, hsh⟩ := colFields_shape m c f hfc
      have hn := num_ok c hc
      rcases hsh with ⟨hw, hp, hv, hk⟩ | ⟨hw, hv, hk⟩
      · refine ⟨by rw [hnum]; exact hn.1, by rw [hnum, hw]; omega, Or.inl ⟨hw, hp, ?_⟩⟩
        rw [hv]
        rcases hk with hk | hk
        · exact Nat.lt_trans (h.u32 c hc hk) (by decide)
        · exact h.u64 c hc hk
      · refine ⟨by rw [hnum]; exact hn.1, by rw [hnum, hw]; exact hn.2, Or.inr ⟨hw, hv, ?_⟩⟩
        have := payload_le_encode (knownFields m) f hf (by rw [hw]; decide)
        rw [marshal_eq, List.length_append] at hsize
        omega
    have hscanAll : scanFields ((marshal m).length + 1) (marshal m) = some (knownFields m ++ ufs) := by
      rw [hm]
      apply scan_encode
      · intro f hf
        rcases List.mem_append.1 hf with hf | hf
        · exact hkOK f hf
        · exact hufsOK f hf
      · exact Nat.lt_succ_of_le (length_le_encode _)
    have hfilter : (knownFields m ++ ufs).filter (fun f => !isKnown f) = ufs := by
      rw [List.filter_append, List.filter_eq_nil_iff.2 fun f hf => by simp [isKnown_known m f hf],
        List.filter_eq_self.2 fun f hf => by simp [isKnown, hcol f hf]]
      rfl
    have hfieldsOf : ∀ c ∈ flowMessageColumns, fieldsOf c.num (knownFields m ++ ufs) = colFields m c := by
      intro c hc
      have h2 : fieldsOf c.num ufs = [] := List.filter_eq_nil_iff.2 fun f hf hn => by
        have := hcol f hf
        rw [show f.num = c.num by simpa using hn, colOf_mem c hc] at this
        cases this
      show List.filter _ (_ ++ _) = _
      rw [List.filter_append]
      show fieldsOf c.num (knownFields m) ++ fieldsOf c.num ufs = _
      rw [h2, List.append_nil]
      exact fieldsOf_flatMap m sortedCols sortedCols_pairwise c ((sortedCols_mem c).2 hc)
    unfold unmarshal
    rw [hscanAll]
    simp only
    rw [hfilter, henc,
      foldl_fill _ (copyCol m) _ (fun c hc a => fillCol_eq m h _ c hc (hfieldsOf c hc) a), copy_all]

/-- the reader's side of a stream (protodelim.UnmarshalFrom in a loop); `none` if the framing or any frame is malformed -/
def readStream (s : Bytes) : Option (List FlowMsg) :=
  match splitFrames (s.length + 1) s with
  | none => none
  | some frames => frames.mapM unmarshal

theorem mapM_unmarshal (ms : List FlowMsg) (h : ∀ m ∈ ms, MsgOK m) :
    (ms.map marshal).mapM unmarshal = some ms := by
  induction ms with
  | nil => rfl
  | cons m ms ih =>
    rw [List.map_cons, List.mapM_cons, unmarshal_marshal m (h m (by simp)),
      ih (fun x hx => h x (by simp [hx]))]
    rfl

theorem length_le_frames (bodies : List Bytes) : bodies.length ≤ ((bodies.map frame).flatten).length := by
  induction bodies with
  | nil => simp
  | cons b bs ih =>
    simp only [List.map_cons, List.flatten_cons, List.length_append, List.length_cons, frame]
    have := appendVarint_length_pos b.length
    omega

/-- a stream of messages of the documented domain reads back as exactly these messages -/
theorem stream_roundtrip (ms : List FlowMsg) (h : ∀ m ∈ ms, MsgOK m) :
    readStream ((ms.map marshalBinary).flatten) = some ms := by
  have e : ms.map marshalBinary = (ms.map marshal).map frame := by
    simp [List.map_map, Function.comp_def, marshalBinary_is_frame]
  unfold readStream
  rw [e, frame_split (ms.map marshal) (by
      intro b hb
      obtain ⟨m, hm, rfl⟩ := List.mem_map.1 hb
      exact (h m hm).size) _ (Nat.lt_succ_of_le (length_le_frames _))]
  exact mapM_unmarshal ms h

def exMsg : FlowMsg :=
  { type_ := 4, timeReceivedNs := 1700000000123456789, sequenceNum := 4294967295, samplingRate := 1000,
    samplerAddress := [10, 0, 0, 1], bytes := 18446744073709551615, packets := 3,
    srcAddr := [0x20, 0x01, 0x0d, 0xb8, 0, 0, 0, 0, 0, 0, 0, 0, 0, 0, 0, 1], dstAddr := [192, 0, 2, 7],
    etype := 0x86dd, proto := 6, srcPort := 443, dstPort := 51234, srcMac := 0x0000aabbccddeeff,
    asPath := [65000, 0, 4200000000], bgpCommunities := [300], mplsLabel := [16, 1048575], mplsTtl := [64, 63],
    mplsIp := [[10, 1, 1, 1], [], [10, 2, 2, 2]], layerStack := [0, 2, 5], layerSize := [14, 40, 20],
    ipv6RoutingHeaderAddresses := [[1, 2, 3]], ipv6RoutingHeaderSegLeft := 1,
    unk := appendTag 2000 0 ++ appendVarint 77 ++ appendTag 2001 2 ++ appendVarint 3 ++ [0x61, 0x62, 0x63] }

#eval marshal exMsg
#eval scanFields ((marshal exMsg).length + 1) (marshal exMsg)
#eval unmarshal (marshal exMsg) == some exMsg
#eval unmarshal (marshal {}) == some {}
-- unpacked repeated numbers, last-wins scalars, wrong wire type and unknown numbers
#eval (unmarshal (appendTag 102 0 ++ appendVarint 7 ++ appendTag 102 2 ++ [2, 8, 9] ++ appendTag 1 0 ++ [1] ++ appendTag 1 0 ++ [2]
        ++ appendTag 6 0 ++ [5] ++ appendTag 999 2 ++ [1, 0x41])).map fun m => (m.asPath, m.type_, m.srcAddr, m.unk)
#eval unmarshal [0x08]
#eval unmarshal [0x0d, 1, 2, 3, 4]

theorem flatMap_length_perm {α β} (f : α → List β) {l₁ l₂ : List α} (p : l₁.Perm l₂) :
    (l₁.flatMap f).length = (l₂.flatMap f).length := by
  rw [List.length_flatMap, List.length_flatMap]
  exact (p.map _).sum_nat

theorem marshal_length (m : FlowMsg) :
    (marshal m).length = ((flowMessageColumns.flatMap (colFields m)).flatMap encodeField).length + m.unk.length := by
  rw [marshal_eq, List.length_append]
  unfold encodeFields knownFields sortedCols
  rw [List.flatMap_assoc, List.flatMap_assoc]
  rw [flatMap_length_perm _ (List.mergeSort_perm flowMessageColumns _)]

theorem exMsg_ok : MsgOK exMsg := by
  -- one evaluation for the four closed conditions: the kernel then reads every field of `exMsg` once
  have h : (∀ c ∈ flowMessageColumns, c.kind = "u32" → (exMsg.getNum c.goName).getD 0 < 2 ^ 32) ∧
      (∀ c ∈ flowMessageColumns, c.kind = "u64" → (exMsg.getNum c.goName).getD 0 < 2 ^ 64) ∧
      (∀ c ∈ flowMessageColumns, c.kind = "listU32" → ∀ v ∈ (exMsg.getNums c.goName).getD [], v < 2 ^ 32) ∧
      ((flowMessageColumns.flatMap (colFields exMsg)).flatMap encodeField).length + exMsg.unk.length < 2 ^ 64 := by
    decide +kernel
  have hs : scanFields (exMsg.unk.length + 1) exMsg.unk = some [(2000, 0, [], 77), (2001, 2, [0x61, 0x62, 0x63], 0)] := by
    decide +kernel
  refine ⟨h.1, h.2.1, h.2.2.1, by rw [marshal_length]; exact h.2.2.2, ?_⟩
  unfold UnkOK
  rw [hs]
  decide +kernel

example : unmarshal (marshal exMsg) = some exMsg := unmarshal_marshal exMsg exMsg_ok

#eval readStream (marshalBinary exMsg ++ marshalBinary {} ++ marshalBinary exMsg) == some [exMsg, {}, exMsg]
example : readStream (marshalBinary exMsg ++ (marshalBinary exMsg ++ [])) = some [exMsg, exMsg] :=
  stream_roundtrip [exMsg, exMsg] (by simp [exMsg_ok])

end Goflow.C13
