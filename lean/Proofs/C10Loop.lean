import Proofs.C10Parsers
import Proofs.Lemmas.SafetyPacket
import Proofs.Lemmas.Assoc
/-!
  C10 — the loop of ParsePacket along a well-formed frame of the grammar, at every capture length.
  `expectedAt f n` is the message the specification expects when only the first `n` bytes of the frame `f` are
  captured: the layers whose header (the bytes the parser's guard asks for) lies inside the capture, in order;
  an MPLS label stack / an SRv6 segment list cut in the middle contributes the labels / segments completely inside.
  The proof takes one round of the loop at a time, then the layers from layer 4 outwards; tunnelled stacks need a
  mutual induction over the frame grammar.
-/
set_option linter.unusedSimpArgs false

namespace Goflow.C10
open Goflow Goflow.Producer Goflow.Spec.Frame

theorem mapLayerKeys_nil {cfg : Config} (hcfg : cfg.layers = []) (data : Bytes) (off : Nat) (enc : Bool)
    (ks : List String) (m : FlowMsg) : mapLayerKeys cfg data off enc ks m = .ok m := by
  induction ks generalizing m with
  | nil => rfl
  | cons k ks ih => simp [mapLayerKeys, lookupLayer, hcfg, mapLayerEntries, ih]

theorem length_lt_snoc {α : Type} (l : List α) (a : α) : l.length < (l ++ [a]).length := by
  rw [List.length_append]; exact Nat.lt_succ_self _

theorem loop_step {cfg : Config} (hcfg : cfg.layers = []) {data : Bytes} {fuel : Nat} {next : Next} {off : Nat}
    {encap : Bool} {idx : Nat} {calls : List (Nat × Nat)} {m : FlowMsg}
    (hc : next.callable = true) (ho : off ≤ data.length) (r : PRes)
    (hr : runParser next.parser m (data.drop off) ⟨encap, (calls.lookup next.parserIndex).getD 0, cfg.ports⟩ = r)
    (hrec : m.layerStack.length < r.msg.layerStack.length := by exact length_lt_snoc _ _) :
    parseLoop cfg data (fuel + 1) next off encap idx calls m =
      parseLoop cfg data fuel r.next (off + r.size)
        (encap || encapTrig (encapIdx idx next.encapSkip next.layerIndex) r.next.encapSkip r.next.layerIndex)
        (encapIdx idx next.encapSkip next.layerIndex) (bump calls next.parserIndex) { r.msg with layerSize := r.msg.layerSize ++ [r.size % 2 ^ 32] } := by
  subst hr
  rw [parseLoop]
  simp only [hc, ho, and_self, if_true, mapLayerKeys_nil hcfg, hrec, decide_true, ite_self]

theorem loop_stop {cfg : Config} {data : Bytes} {fuel : Nat} {next : Next} {off : Nat}
    {encap : Bool} {idx : Nat} {calls : List (Nat × Nat)} {m : FlowMsg} (hc : next.callable = false) :
    parseLoop cfg data (fuel + 1) next off encap idx calls m = .ok m := by
  rw [parseLoop]; simp [hc]

theorem drop_skip (x r : Bytes) (s : Nat) (h : x.length ≤ s) : (x ++ r).drop s = r.drop (s - x.length) := by
  simp [List.drop_append, List.drop_of_length_le h]

theorem drop_next {data full rest : Bytes} {off s : Nat} (hd : data.drop off = full) (hrest : full.drop s = rest) :
    data.drop (off + s) = rest := by
  rw [← List.drop_drop, hd, hrest]

theorem drop_next_app {data hdr rest : Bytes} {off s : Nat} (hd : data.drop off = hdr ++ rest) (hs : hdr.length = s) :
    data.drop (off + s) = rest :=
  drop_next hd (List.drop_left' hs)

theorem drop_step {data full rest : Bytes} {off s : Nat} (hd : data.drop off = full) (ho : off ≤ data.length)
    (hrest : full.drop s = rest) (hs : s ≤ full.length) :
    data.drop (off + s) = rest ∧ off + s ≤ data.length := by
  refine ⟨drop_next hd hrest, ?_⟩
  have := congrArg List.length hd
  simp at this; omega

/-- neither ICMP parser has run yet -/
def IcmpFresh (calls : List (Nat × Nat)) : Prop := calls.lookup 10 = none ∧ calls.lookup 11 = none

theorem lookup_bump_ne (cs : List (Nat × Nat)) (k k' : Nat) (h : k' ≠ k) : (bump cs k).lookup k' = cs.lookup k' := by
  have : (k' == k) = false := by simp [h]
  simp [bump, List.lookup, this, lookup_filter_ne cs k k' h]

theorem IcmpFresh.bump {cs : List (Nat × Nat)} (h : IcmpFresh cs) (k : Nat) (h10 : k ≠ 10) (h11 : k ≠ 11) :
    IcmpFresh (bump cs k) := by
  unfold IcmpFresh
  rw [lookup_bump_ne cs k 10 (Ne.symm h10), lookup_bump_ne cs k 11 (Ne.symm h11)]
  exact h

theorem IcmpFresh.nil : IcmpFresh [] := ⟨rfl, rfl⟩

/-- fields within their wire widths, the TCP data offset consistent with the options, and ports that
    select no tunnel parser among the registered `ports` -/
def L4WF (ports : List PortEntry) : L4 → Prop
  | .tcp sp dp seq ack off flags win opts =>
    sp < 2 ^ 16 ∧ dp < 2 ^ 16 ∧ seq < 2 ^ 32 ∧ ack < 2 ^ 32 ∧ 5 ≤ off ∧ off < 16 ∧ flags < 2 ^ 8 ∧ win < 2 ^ 16 ∧
      20 + opts.length = off * 4 ∧ (nextParserPort ports "tcp" sp dp).callable = false
  | .udp sp dp => sp < 2 ^ 16 ∧ dp < 2 ^ 16 ∧ (nextParserPort ports "udp" sp dp).callable = false
  | .icmp t c => t < 2 ^ 8 ∧ c < 2 ^ 8
  | .icmpv6 t c => t < 2 ^ 8 ∧ c < 2 ^ 8
  | .other p _ => p < 2 ^ 8 ∧ p ∉ [1, 4, 6, 17, 41, 43, 44, 47, 58]

def l4Msg : L4 → FlowMsg → FlowMsg
  | .tcp sp dp _ _ off flags _ _, m =>
    { m with layerStack := m.layerStack ++ [3], layerSize := m.layerSize ++ [off * 4],
             srcPort := sp, dstPort := dp, tcpFlags := flags }
  | .udp sp dp, m =>
    { m with layerStack := m.layerStack ++ [4], layerSize := m.layerSize ++ [8], srcPort := sp, dstPort := dp }
  | .icmp t c, m =>
    { m with layerStack := m.layerStack ++ [7], layerSize := m.layerSize ++ [8], icmpType := t, icmpCode := c }
  | .icmpv6 t c, m =>
    { m with layerStack := m.layerStack ++ [8], layerSize := m.layerSize ++ [8], icmpType := t, icmpCode := c }
  | .other _ _, m => m

theorem l4Proto_lt {ports : List PortEntry} {l : L4} (h : L4WF ports l) : l4Proto l < 256 := by
  cases l <;> simp [l4Proto, L4WF] at h ⊢
  exact h.1

theorem l4_noencap {ports : List PortEntry} {l : L4} (h : L4WF ports l) (li : Nat) (hli : li < 40) :
    encapTrig li (nextParserProto (l4Proto l)).encapSkip (nextParserProto (l4Proto l)).layerIndex = false := by
  cases l with
  | other p _ =>
    simp only [L4WF, List.mem_cons, List.not_mem_nil, or_false, not_or] at h
    obtain ⟨_, h1, h4, h6, h17, h41, h43, h44, h47, h58⟩ := h
    simp [encapTrig, l4Proto, nextParserProto, Next.encapSkip, Next.layerIndex, Parser.layerIndex, Parser.encapSkip, Parser.info, *]
    omega
  | _ =>
    simp [encapTrig, l4Proto, nextParserProto, Next.encapSkip, Next.layerIndex, Parser.layerIndex, Parser.encapSkip, Parser.info]
    omega

def ExtWF : V6Ext → Prop
  | .none => True
  | .fragment fo fl3 ident => fo < 2 ^ 13 ∧ fl3 < 2 ^ 3 ∧ ident < 2 ^ 32
  | .srh sleft le segs =>
    sleft < 2 ^ 8 ∧ le < 2 ^ 8 ∧ segs.length < 128 ∧ (∀ s ∈ segs, s.length = 16) ∧ segs.length ≤ le + 1

mutual
def IPWF (ports : List PortEntry) : IP → Prop
  | .v4 tos ident fl fo ttl src dst pl =>
    tos < 2 ^ 8 ∧ ident < 2 ^ 16 ∧ fl < 2 ^ 3 ∧ fo < 2 ^ 13 ∧ ttl < 2 ^ 8 ∧ src.length = 4 ∧ dst.length = 4 ∧
      PayloadWF ports pl
  | .v6 tc fl hl src dst ext pl =>
    tc < 2 ^ 8 ∧ fl < 2 ^ 20 ∧ hl < 2 ^ 8 ∧ src.length = 16 ∧ dst.length = 16 ∧ ExtWF ext ∧ PayloadWF ports pl
def PayloadWF (ports : List PortEntry) : Payload → Prop
  | .l4 l => L4WF ports l
  | .gre inner => EpWF ports inner
  | .ipip p => IPWF ports p
/-- what Ethernet or GRE carries: IP, a non-empty MPLS label stack before IP, or an ethertype without parser -/
def EpWF (ports : List PortEntry) : EtherPayload → Prop
  | .ip p => IPWF ports p
  | .mpls labels p => labels ≠ [] ∧ labels.length < 2 ^ 30 ∧ LabelsWF labels ∧ IPWF ports p
  | .raw t _ => t < 2 ^ 16 ∧ t ∉ [0x199e, 0x6558, 0x8847, 0x8100, 0x0800, 0x86dd]
end

def ipParser : IP → Parser
  | .v4 .. => .ipv4
  | .v6 .. => .ipv6

def ipEtype : IP → Nat
  | .v4 .. => 0x0800
  | .v6 .. => 0x86dd

def epParser : EtherPayload → Parser
  | .ip p => ipParser p
  | .mpls .. => .mpls
  | .raw .. => .none

theorem etherType_ip (p : IP) : etherType (.ip p) = ipEtype p := by cases p <;> rfl

theorem payloadProto_lt {ports : List PortEntry} {pl : Payload} (h : PayloadWF ports pl) : payloadProto pl < 256 := by
  match pl, h with
  | .l4 l, h => exact l4Proto_lt h
  | .gre _, _ => simp [payloadProto]
  | .ipip (.v4 ..), _ => simp [payloadProto]
  | .ipip (.v6 ..), _ => simp [payloadProto]

theorem ip_next (p : IP) : ∃ ks, nextParserEtype (ipEtype p / 256) (ipEtype p % 256) = ⟨ipParser p, ks, false⟩ := by
  cases p <;> simp only [ipEtype, ipParser] <;> exact ⟨_, rfl⟩

theorem ipip_next (p : IP) : ∃ ks, nextParserProto (payloadProto (.ipip p)) = ⟨ipParser p, ks, false⟩ := by
  cases p <;> simp only [payloadProto, ipParser] <;> exact ⟨_, rfl⟩

theorem peek_ip {ports : List PortEntry} (p : IP) (hp : IPWF ports p) :
    peekEt (ipBytes p) = some (ipEtype p / 256, ipEtype p % 256) := by
  match p, hp with
  | .v4 tos ident fl fo ttl src dst pl, _ =>
    simp only [ipBytes, Spec.Frame.u8, List.append_assoc, peekEt]
    rw [if_pos (by simp only [List.length_append, encBE_length]; omega), u8_here _ _ (by simp)]
    simp [ipEtype, beNat_encBE]
  | .v6 tc fl hlim src dst ext pl, hp =>
    simp only [IPWF, Nat.reducePow] at hp
    obtain ⟨htc, hfl, -⟩ := hp
    simp only [ipBytes, Spec.Frame.u32, List.append_assoc, peekEt]
    rw [if_pos (by simp only [List.length_append, encBE_length]; omega), u8_enc4_0]
    have : (6 * 2 ^ 28 + tc * 2 ^ 20 + fl) / 16777216 % 256 / 16 = 6 := by omega
    rw [this]
    simp [ipEtype]

theorem etherType_lt {ports : List PortEntry} (ep : EtherPayload) (h : EpWF ports ep) : etherType ep < 65536 := by
  match ep, h with
  | .ip (.v4 ..), _ => simp [etherType]
  | .ip (.v6 ..), _ => simp [etherType]
  | .mpls .., _ => simp [etherType]
  | .raw t _, h => exact h.1

theorem hi_lo {x : Nat} (h : x < 65536) :
    (UInt8.ofNat (x / 256 % 256)).toNat = x / 256 ∧ (UInt8.ofNat (x % 256)).toNat = x % 256 := by
  simp only [UInt8.toNat_ofNat', Nat.reducePow]
  omega

theorem raw_next (t : Nat) (h : t ∉ [0x199e, 0x6558, 0x8847, 0x8100, 0x0800, 0x86dd]) :
    ∃ ks, nextParserEtype (t / 256) (t % 256) = ⟨.none, ks, false⟩ := by
  have e : t / 256 * 256 + t % 256 = t := by omega
  simp only [List.mem_cons, List.not_mem_nil, or_false, not_or] at h
  obtain ⟨h1, h2, h3, h4, h5, h6⟩ := h
  refine ⟨Parser.none.keys ++ ["etype" ++ natStr t, "etype0x" ++ hex4 t], ?_⟩
  simp [nextParserEtype, e, h1, h2, h3, h4, h5, h6]

theorem ep_next {ports : List PortEntry} (ep : EtherPayload) (h : EpWF ports ep) :
    ∃ ks, nextParserEtype (etherType ep / 256) (etherType ep % 256) = ⟨epParser ep, ks, false⟩ := by
  match ep, h with
  | .ip (.v4 ..), _ => simp only [etherType, epParser, ipParser]; exact ⟨_, rfl⟩
  | .ip (.v6 ..), _ => simp only [etherType, epParser, ipParser]; exact ⟨_, rfl⟩
  | .mpls .., _ => simp only [etherType, epParser]; exact ⟨_, rfl⟩
  | .raw t _, h => simp only [etherType, epParser]; exact raw_next t h.2

theorem loop_step' {cfg : Config} (hcfg : cfg.layers = []) {data : Bytes} {fuel : Nat} {next : Next} {off : Nat}
    {encap : Bool} {idx : Nat} {calls : List (Nat × Nat)} {m : FlowMsg}
    (hc : next.callable = true) (ho : off ≤ data.length) {d : Bytes} (hd : data.drop off = d) (r : PRes)
    (hr : runParser next.parser m d ⟨encap, (calls.lookup next.parserIndex).getD 0, cfg.ports⟩ = r)
    (hrec : m.layerStack.length < r.msg.layerStack.length := by exact length_lt_snoc _ _) :
    parseLoop cfg data (fuel + 1) next off encap idx calls m =
      parseLoop cfg data fuel r.next (off + r.size)
        (encap || encapTrig (encapIdx idx next.encapSkip next.layerIndex) r.next.encapSkip r.next.layerIndex)
        (encapIdx idx next.encapSkip next.layerIndex) (bump calls next.parserIndex)
        { r.msg with layerSize := r.msg.layerSize ++ [r.size % 2 ^ 32] } :=
  loop_step hcfg hc ho r (hd ▸ hr) hrec

theorem drop_step_app {data hdr rest : Bytes} {off s : Nat} (hd : data.drop off = hdr ++ rest)
    (ho : off ≤ data.length) (hs : hdr.length = s) : data.drop (off + s) = rest ∧ off + s ≤ data.length :=
  drop_step hd ho (List.drop_left' hs) (by simp [hs])

/-- the next-header value of the IPv6 header itself -/
def v6First : V6Ext → Nat → Nat
  | .none, nh => nh
  | .fragment .., _ => 44
  | .srh .., _ => 43

/-- `nh` is the protocol number of what follows the extension header -/
def extBytes : V6Ext → Nat → Bytes
  | .none, _ => []
  | .fragment fo fl3 ident, nh => encBE 1 nh ++ (encBE 1 0 ++ (encBE 2 (fo * 8 + fl3) ++ encBE 4 ident))
  | .srh sleft le segs, nh =>
    encBE 1 nh ++ (encBE 1 (2 * segs.length) ++ (encBE 1 4 ++ (encBE 1 sleft ++ (encBE 1 le ++ (encBE 1 0 ++
      (encBE 2 0 ++ segs.flatMap id))))))

theorem ipBytes_v6 (tc fl hlim : Nat) (src dst : Bytes) (ext : V6Ext) (pl : Payload) :
    ∃ len, ipBytes (.v6 tc fl hlim src dst ext pl) =
      encBE 4 (6 * 2 ^ 28 + tc * 2 ^ 20 + fl) ++ (encBE 2 len ++ (encBE 1 (v6First ext (payloadProto pl)) ++
        (encBE 1 hlim ++ (src ++ (dst ++ (extBytes ext (payloadProto pl) ++ payloadBytes pl)))))) := by
  cases ext <;>
    exact ⟨_, by simp only [ipBytes, extBytes, v6First, Spec.Frame.u8, Spec.Frame.u16, Spec.Frame.u32, List.append_assoc]; rfl⟩

theorem v6First_lt (ext : V6Ext) {nh : Nat} (h : nh < 256) : v6First ext nh < 256 := by
  cases ext <;> simp [v6First, h]

/-! Once `Encapsulated` is set only the layer stack and the layer sizes grow, and the ICMP type / code of
    an ICMP header that ends the chain. -/

def stackL4 : L4 → List (Nat × Nat)
  | .tcp _ _ _ _ doff _ _ _ => [(3, doff * 4)]
  | .udp .. => [(4, 8)]
  | .icmp .. => [(7, 8)]
  | .icmpv6 .. => [(8, 8)]
  | .other .. => []

def stackExt : V6Ext → List (Nat × Nat)
  | .none => []
  | .fragment .. => [(11, 8)]
  | .srh _ _ segs => [(10, 8 + 16 * segs.length)]

mutual
/-- (layer-stack value, layer size) of the layers of an IP packet -/
def stackIP : IP → List (Nat × Nat)
  | .v4 _ _ _ _ _ _ _ pl => (1, 20) :: stackPayload pl
  | .v6 _ _ _ _ _ ext pl => (2, 40) :: (stackExt ext ++ stackPayload pl)
def stackPayload : Payload → List (Nat × Nat)
  | .l4 l => stackL4 l
  | .gre inner => (9, 4) :: stackEther inner
  | .ipip p => stackIP p
def stackEther : EtherPayload → List (Nat × Nat)
  | .ip p => stackIP p
  | .mpls labels p => (5, 4 * labels.length) :: stackIP p
  | .raw .. => []
end

theorem layers_l4 (off : Nat) (l : L4) : (l4Facts off l).2.map (fun x => (x.1, x.2.1)) = stackL4 l := by
  cases l <;> simp [l4Facts, stackL4, LS_TCP, LS_UDP, LS_ICMP, LS_ICMPv6]

mutual
theorem layers_ip : ∀ (p : IP) (off : Nat), (innerIPLayers off p).map (fun x => (x.1, x.2.1)) = stackIP p
  | .v4 _ _ _ _ _ _ _ pl, off => by
    simp [innerIPLayers, stackIP, LS_IPv4, layers_payload pl]
  | .v6 _ _ _ _ _ ext pl, off => by
    cases ext <;> simp [innerIPLayers, stackIP, stackExt, LS_IPv6, LS_Frag, LS_Route, layers_payload pl]
theorem layers_payload : ∀ (pl : Payload) (off : Nat), (innerPayloadLayers off pl).map (fun x => (x.1, x.2.1)) = stackPayload pl
  | .l4 l, off => by simp [innerPayloadLayers, stackPayload, layers_l4]
  | .gre inner, off => by simp [innerPayloadLayers, stackPayload, LS_GRE, layers_ether inner]
  | .ipip p, off => by simp [innerPayloadLayers, stackPayload, layers_ip p]
theorem layers_ether : ∀ (ep : EtherPayload) (off : Nat), (innerEtherLayers off ep).map (fun x => (x.1, x.2.1)) = stackEther ep
  | .ip p, off => by simp [innerEtherLayers, stackEther, layers_ip p]
  | .mpls labels p, off => by simp [innerEtherLayers, stackEther, LS_MPLS, layers_ip p]
  | .raw .., off => by simp [innerEtherLayers, stackEther]
end

/-- the message after a tunnelled stack -/
def innerRes (layers : List (Nat × Nat)) (icmp : Option (Nat × Nat)) (m : FlowMsg) : FlowMsg :=
  { m with layerStack := m.layerStack ++ layers.map (·.1), layerSize := m.layerSize ++ layers.map (·.2),
           icmpType := match icmp with | some (t, _) => t | none => m.icmpType,
           icmpCode := match icmp with | some (_, c) => c | none => m.icmpCode }

theorem innerRes_cons (a s : Nat) (rest : List (Nat × Nat)) (icmp : Option (Nat × Nat)) (m : FlowMsg) :
    innerRes ((a, s) :: rest) icmp m =
      innerRes rest icmp { m with layerStack := m.layerStack ++ [a], layerSize := m.layerSize ++ [s] } := by
  cases icmp <;> simp [innerRes]

theorem innerRes_nil (m : FlowMsg) : innerRes [] none m = m := by simp [innerRes]

/-!
  The bounds on the reference index (`li`, `idx`) in this file come from the `LayerIndex` column of `Parser.info`:
  ethernet 20; dot1q, mpls 25; ipv4, ipv6 30; the IPv6 extension headers 35; tcp, udp, gre 40; icmp 70. The loop
  starts at 20; behind Ethernet, tags and labels the reference is at most 25, behind an outer IP header or its
  extension header it lies in [30, 40). `encapTrig` fires when the next layer's index is below the reference, or
  equal to it on a layer that does not skip the comparison: with those bounds, never on the plain chain, and on
  the IP header behind GRE or IP-in-IP. -/

theorem gre_noencap (ks : List String) (li : Nat) (hli : li < 40) :
    encapTrig li (Next.encapSkip ⟨.gre, ks, false⟩) (Next.layerIndex ⟨.gre, ks, false⟩) = false := by
  simp [encapTrig, Next.encapSkip, Next.layerIndex, Parser.layerIndex, Parser.encapSkip, Parser.info]; omega

theorem ip_encap (p : IP) (ks : List String) (li : Nat) (hli : 30 ≤ li) :
    encapTrig li (Next.encapSkip ⟨ipParser p, ks, false⟩) (Next.layerIndex ⟨ipParser p, ks, false⟩) = true := by
  cases p <;> simp [encapTrig, ipParser, Next.encapSkip, Next.layerIndex, Parser.layerIndex, Parser.encapSkip, Parser.info] <;>
    omega

def extMsg : V6Ext → FlowMsg → FlowMsg
  | .none, m => m
  | .fragment fo fl3 ident, m =>
    { m with layerStack := m.layerStack ++ [11], layerSize := m.layerSize ++ [8],
             fragmentId := ident, fragmentOffset := fo, ipFlags := fl3 }
  | .srh sleft _ segs, m =>
    { m with layerStack := m.layerStack ++ [10], layerSize := m.layerSize ++ [8 + 16 * segs.length],
             ipv6RoutingHeaderSegLeft := sleft,
             ipv6RoutingHeaderAddresses := m.ipv6RoutingHeaderAddresses ++ segs }

def ipPayload : IP → Payload
  | .v4 _ _ _ _ _ _ _ pl => pl
  | .v6 _ _ _ _ _ _ pl => pl

def ipMsg : IP → FlowMsg → FlowMsg
  | .v4 tos ident fl fo ttl src dst pl, m =>
    { m with layerStack := m.layerStack ++ [1], layerSize := m.layerSize ++ [20], srcAddr := src, dstAddr := dst,
             ipTos := tos, ipTtl := ttl, fragmentId := ident, fragmentOffset := fo, ipFlags := fl,
             proto := payloadProto pl }
  | .v6 tc fl hl src dst ext pl, m =>
    { m with layerStack := m.layerStack ++ [2], layerSize := m.layerSize ++ [40], srcAddr := src, dstAddr := dst,
             ipTos := tc, ipTtl := hl, ipv6FlowLabel := fl, proto := v6First ext (payloadProto pl) }

theorem ip_noencap (p : IP) (ks : List String) (li : Nat) (hli : li < 30) :
    encapTrig li (Next.encapSkip ⟨ipParser p, ks, false⟩) (Next.layerIndex ⟨ipParser p, ks, false⟩) = false := by
  cases p <;> simp [encapTrig, ipParser, Next.encapSkip, Next.layerIndex, Parser.layerIndex, Parser.encapSkip, Parser.info] <;>
    omega

theorem dot1q_noencap (ks : List String) (li : Nat) (hli : li ≤ 25) :
    encapTrig li (Next.encapSkip ⟨.dot1q, ks, false⟩) (Next.layerIndex ⟨.dot1q, ks, false⟩) = false := by
  simp [encapTrig, Next.encapSkip, Next.layerIndex, Parser.layerIndex, Parser.encapSkip, Parser.info]; omega

theorem ep_noencap {ports : List PortEntry} (ep : EtherPayload) (h : EpWF ports ep) (ks : List String) (li : Nat)
    (hli : li ≤ 25) :
    encapTrig li (Next.encapSkip ⟨epParser ep, ks, false⟩) (Next.layerIndex ⟨epParser ep, ks, false⟩) = false := by
  match ep, h with
  | .ip p, _ => exact ip_noencap p ks li (by omega)
  | .mpls .., _ =>
    simp [encapTrig, epParser, Next.encapSkip, Next.layerIndex, Parser.layerIndex, Parser.encapSkip, Parser.info]; omega
  | .raw .., _ =>
    simp [encapTrig, epParser, Next.encapSkip, Next.layerIndex, Parser.layerIndex, Parser.encapSkip, Parser.info]; omega

theorem vlanBytes_length (et : Nat) (vs : List Nat) : (vlanBytes et vs).length = 2 + 4 * vs.length := by
  induction vs with
  | nil => simp [vlanBytes, Spec.Frame.u16]
  | cons v vs ih => simp [vlanBytes, Spec.Frame.u16, ih]; omega

theorem dot1q_next :
    ∃ ks, nextParserEtype (UInt8.ofNat (33024 / 256 % 256)).toNat (UInt8.ofNat (33024 % 256)).toNat =
      ⟨.dot1q, ks, false⟩ := by
  simp only [UInt8.toNat_ofNat', Nat.reduceDiv, Nat.reduceMod, Nat.reducePow]
  exact ⟨_, rfl⟩

/-- the ethertype is overwritten by the layers that follow -/
def ethMsg (d s : Nat) (m : FlowMsg) : FlowMsg :=
  { m with layerStack := m.layerStack ++ [0], layerSize := m.layerSize ++ [14], srcMac := s, dstMac := d }

/-- the number of bytes an L4 parser needs to recognise its header -/
def l4Guard : L4 → Nat
  | .tcp .. => 20 | .udp .. => 8 | .icmp .. => 2 | .icmpv6 .. => 2 | .other .. => 0

theorem l4Guard_le (l : L4) : l4Guard l ≤ (l4Bytes l).length := by
  cases l <;> simp [l4Guard, l4Bytes, Spec.Frame.u8, Spec.Frame.u16, Spec.Frame.u32]
  omega

def l4MsgAt (n off : Nat) (l : L4) (m : FlowMsg) : FlowMsg := if off + l4Guard l ≤ n then l4Msg l m else m

/-- layers (stack value, size) of a tunnelled stack and the ICMP header that ends it -/
abbrev Inner := List (Nat × Nat) × Option (Nat × Nat)
def Inner.nil : Inner := ([], none)
def Inner.cons (x : Nat × Nat) (r : Inner) : Inner := (x :: r.1, r.2)

def innerL4At (n off : Nat) (l : L4) : Inner :=
  if off + l4Guard l ≤ n then (stackL4 l, innerIcmpPayload (.l4 l)) else Inner.nil

mutual
/-- the tunnelled layers, from an IP header at byte `off` on, whose parser guard fits into the first `n` bytes -/
def innerIPAt (n off : Nat) : IP → Inner
  | .v4 _ _ _ _ _ _ _ pl => if off + 20 ≤ n then Inner.cons (1, 20) (innerPayloadAt n (off + 20) pl) else Inner.nil
  | .v6 _ _ _ _ _ ext pl =>
    if off + 40 ≤ n then
      Inner.cons (2, 40) (match ext with
        | .none => innerPayloadAt n (off + 40) pl
        | .fragment .. => if off + 48 ≤ n then Inner.cons (11, 8) (innerPayloadAt n (off + 48) pl) else Inner.nil
        | .srh _ _ segs =>
          if off + 48 ≤ n then Inner.cons (10, 8 + 16 * segs.length) (innerPayloadAt n (off + 48 + 16 * segs.length) pl)
          else Inner.nil)
    else Inner.nil
def innerPayloadAt (n off : Nat) : Payload → Inner
  | .l4 l => innerL4At n off l
  | .gre inner => if off + 4 ≤ n then Inner.cons (9, 4) (innerEtherAt n (off + 4) inner) else Inner.nil
  | .ipip p => innerIPAt n off p
/-- a label stack cut short counts with the labels that lie completely inside -/
def innerEtherAt (n off : Nat) : EtherPayload → Inner
  | .ip p => innerIPAt n off p
  | .mpls labels p =>
    if off + 4 ≤ n then
      if off + 4 * labels.length < n then Inner.cons (5, 4 * labels.length) (innerIPAt n (off + 4 * labels.length) p)
      else ([(5, 4 * ((n - off) / 4))], none)
    else Inner.nil
  | .raw .. => Inner.nil
end

/-- what the outer IP header carries (at byte `off`): the columns of layer 4; behind GRE or for IP-in-IP
    only stack and sizes (`innerRes`) -/
def payloadResAt (n off : Nat) : Payload → FlowMsg → FlowMsg
  | .l4 l, m => l4MsgAt n off l m
  | .gre inner, m =>
    if off + 4 ≤ n then
      innerRes (innerEtherAt n (off + 4) inner).1 (innerEtherAt n (off + 4) inner).2
        { m with layerStack := m.layerStack ++ [9], layerSize := m.layerSize ++ [4] }
    else m
  | .ipip p, m => innerRes (innerIPAt n off p).1 (innerIPAt n off p).2 m

/-- a routing header of which `k` bytes are captured (8 ≤ k): the segments that lie completely inside -/
def srhMsgAt (k : Nat) (sleft : Nat) (segs : List Bytes) (m : FlowMsg) : FlowMsg :=
  { m with layerStack := m.layerStack ++ [10], layerSize := m.layerSize ++ [8 + 16 * segs.length],
           ipv6RoutingHeaderSegLeft := sleft,
           ipv6RoutingHeaderAddresses := m.ipv6RoutingHeaderAddresses ++ segs.take ((k - 8) / 16) }

def ipResAt (n off : Nat) (p : IP) (m : FlowMsg) : FlowMsg :=
  match p with
  | .v4 _ _ _ _ _ _ _ pl => if off + 20 ≤ n then payloadResAt n (off + 20) pl (ipMsg p m) else m
  | .v6 _ _ _ _ _ ext pl =>
    if off + 40 ≤ n then
      match ext with
      | .none => payloadResAt n (off + 40) pl (ipMsg p m)
      | .fragment .. => if off + 48 ≤ n then payloadResAt n (off + 48) pl (extMsg ext (ipMsg p m)) else ipMsg p m
      | .srh sleft _ segs =>
        if off + 48 ≤ n then
          payloadResAt n (off + 48 + 16 * segs.length) pl (srhMsgAt (n - (off + 40)) sleft segs (ipMsg p m))
        else ipMsg p m
    else m

/-- an MPLS label stack of which `k` bytes are captured (4 ≤ k ≤ 4 · labels): the labels that lie completely inside -/
def mplsMsgAt (k : Nat) (labels : List (Nat × Nat)) (m : FlowMsg) : FlowMsg :=
  { m with layerStack := m.layerStack ++ [5], layerSize := m.layerSize ++ [4 * (k / 4)],
           mplsLabel := (labels.take (k / 4)).map (·.1), mplsTtl := (labels.take (k / 4)).map (·.2) }

/-- a completely captured label stack followed by IP: all labels, and `Etype` := the ethertype `et` of that IP version -/
def mplsMsg (labels : List (Nat × Nat)) (et : Nat) (m : FlowMsg) : FlowMsg :=
  { m with layerStack := m.layerStack ++ [5], layerSize := m.layerSize ++ [4 * labels.length],
           etype := et, mplsLabel := labels.map (·.1), mplsTtl := labels.map (·.2) }

def epResAt (n off : Nat) : EtherPayload → FlowMsg → FlowMsg
  | .ip p, m => ipResAt n off p m
  | .mpls labels p, m =>
    if off + 4 ≤ n then
      if off + 4 * labels.length < n then ipResAt n (off + 4 * labels.length) p (mplsMsg labels (ipEtype p) m)
      else mplsMsgAt (n - off) labels m
    else m
  | .raw .., m => m

/-- the ethertype field of the L2 header in front of the remaining tags `vs` -/
def l2Etype (ep : EtherPayload) : List Nat → Nat
  | [] => etherType ep
  | _ :: _ => 0x8100

/-- one 802.1Q tag: `VlanId` := its two TCI bytes `v`, `Etype` := the ethertype field `et` behind them -/
def tagMsg (v et : Nat) (m : FlowMsg) : FlowMsg :=
  { m with layerStack := m.layerStack ++ [6], layerSize := m.layerSize ++ [4], vlanId := v, etype := et }

/-- `off` is the offset of the TCI of the first remaining tag -/
def vlansResAt (n off : Nat) (ep : EtherPayload) : List Nat → FlowMsg → FlowMsg
  | [], m => epResAt n off ep m
  | v :: vs, m => if off + 4 ≤ n then vlansResAt n (off + 4) ep vs (tagMsg v (l2Etype ep vs) m) else m

/-- **the message the specification expects when only the first `n` bytes of the frame are captured** -/
def expectedAt (f : Frame) (n : Nat) : FlowMsg :=
  if 14 ≤ n then
    vlansResAt n 14 f.payload f.vlans { ethMsg f.dstMac f.srcMac FlowMsg.empty with etype := l2Etype f.payload f.vlans }
  else FlowMsg.empty

theorem loop_short {cfg : Config} {data : Bytes} {fuel : Nat} {next : Next} {off : Nat}
    {encap : Bool} {idx : Nat} {calls : List (Nat × Nat)} {m : FlowMsg}
    (h : data.length < off + Parser.guard next.parser) :
    parseLoop cfg data (fuel + 2) next off encap idx calls m = .ok m := by
  rw [parseLoop]
  by_cases hc : next.callable = true ∧ off ≤ data.length
  · have hr := runParser_short next.parser m (data.drop off)
      ⟨encap, (calls.lookup next.parserIndex).getD 0, cfg.ports⟩ (by rw [List.length_drop]; omega)
    simp only [hc, and_self, if_true, hr, tooShort, Nat.lt_irrefl, decide_false, Bool.false_eq_true, if_false]
    rw [loop_stop (by rfl)]
  · rw [if_neg hc]

theorem loop_step_cut {cfg : Config} (hcfg : cfg.layers = []) {full : Bytes} {n fuel : Nat} {next : Next} {off : Nat}
    {encap : Bool} {idx : Nat} {calls : List (Nat × Nat)} {m : FlowMsg}
    (hc : next.callable = true) (hon : off ≤ n) (hn : n ≤ full.length) {d : Bytes} (hd : full.drop off = d) (r : PRes)
    (hr : runParser next.parser m (d.take (n - off)) ⟨encap, (calls.lookup next.parserIndex).getD 0, cfg.ports⟩ = r)
    (hrec : m.layerStack.length < r.msg.layerStack.length := by exact length_lt_snoc _ _) :
    parseLoop cfg (full.take n) (fuel + 1) next off encap idx calls m =
      parseLoop cfg (full.take n) fuel r.next (off + r.size)
        (encap || encapTrig (encapIdx idx next.encapSkip next.layerIndex) r.next.encapSkip r.next.layerIndex)
        (encapIdx idx next.encapSkip next.layerIndex) (bump calls next.parserIndex)
        { r.msg with layerSize := r.msg.layerSize ++ [r.size % 2 ^ 32] } :=
  loop_step' hcfg hc (by rw [List.length_take]; omega) (by rw [List.drop_take, hd]) r hr hrec

theorem take_len {full : Bytes} {n : Nat} (hn : n ≤ full.length) : (full.take n).length = n := by
  rw [List.length_take]; omega

theorem loop_l4_cut {cfg : Config} (hcfg : cfg.layers = []) (l : L4) (hl : L4WF cfg.ports l)
    {full : Bytes} {n off : Nat} (hn : n ≤ full.length) (hd : full.drop off = l4Bytes l)
    {fuel : Nat} (hf : 2 ≤ fuel) {calls : List (Nat × Nat)} (hfresh : IcmpFresh calls) (idx : Nat) (m : FlowMsg) :
    parseLoop cfg (full.take n) fuel (nextParserProto (l4Proto l)) off false idx calls m = .ok (l4MsgAt n off l m) := by
  obtain ⟨fuel, rfl⟩ : ∃ f, fuel = f + 2 := ⟨fuel - 2, by omega⟩
  have hlen := take_len hn
  cases l with
  | tcp sp dp seq ack doff flags win opts =>
    obtain ⟨hsp, hdp, _, _, h5, h16, hfl, _, _, hport⟩ := hl
    simp only [l4Bytes, Spec.Frame.u8, Spec.Frame.u16, Spec.Frame.u32, List.append_assoc] at hd
    obtain ⟨ks, hnx⟩ : ∃ ks, nextParserProto (l4Proto (.tcp sp dp seq ack doff flags win opts)) = ⟨.tcp, ks, false⟩ := ⟨_, rfl⟩
    rw [hnx]
    by_cases hg : off + 20 ≤ n
    · rw [loop_step_cut (next := ⟨.tcp, ks, false⟩) (encap := false) (idx := idx) hcfg rfl (by omega) hn hd _
        ((parseTCP_take _ _ _ (by omega)).trans (parseTCP_spec _ _ _ _ _ _ _ _ _ _ _ _ hsp hdp h5 h16 hfl (by rfl)))]
      rw [loop_stop hport]
      have : doff * 4 % 2 ^ 32 = doff * 4 := Nat.mod_eq_of_lt (by omega)
      simp only [l4MsgAt, l4Guard, hg, if_true, l4Msg, this]
    · rw [loop_short (by rw [hlen]; simp only [Parser.guard]; omega)]
      simp only [l4MsgAt, l4Guard, hg, if_false]
  | udp sp dp =>
    obtain ⟨hsp, hdp, hport⟩ := hl
    simp only [l4Bytes, Spec.Frame.u8, Spec.Frame.u16, Spec.Frame.u32, List.append_assoc] at hd
    obtain ⟨ks, hnx⟩ : ∃ ks, nextParserProto (l4Proto (.udp sp dp)) = ⟨.udp, ks, false⟩ := ⟨_, rfl⟩
    rw [hnx]
    by_cases hg : off + 8 ≤ n
    · rw [loop_step_cut (next := ⟨.udp, ks, false⟩) (encap := false) (idx := idx) hcfg rfl (by omega) hn hd _
        ((parseUDP_take _ _ _ (by omega)).trans (parseUDP_spec _ _ _ _ _ hsp hdp (by simp) (by rfl)))]
      rw [loop_stop hport]
      simp only [l4MsgAt, l4Guard, hg, if_true, l4Msg] <;> rfl
    · rw [loop_short (by rw [hlen]; simp only [Parser.guard]; omega)]
      simp only [l4MsgAt, l4Guard, hg, if_false]
  | icmp t c =>
    obtain ⟨ht, hc⟩ := hl
    simp only [l4Bytes, Spec.Frame.u8, Spec.Frame.u16, Spec.Frame.u32, List.append_assoc] at hd
    obtain ⟨ks, hnx⟩ : ∃ ks, nextParserProto (l4Proto (.icmp t c)) = ⟨.icmp, ks, false⟩ := ⟨_, rfl⟩
    have hcalls : (calls.lookup 10).getD 0 = 0 := by rw [hfresh.1]; rfl
    rw [hnx]
    by_cases hg : off + 2 ≤ n
    · rw [loop_step_cut (next := ⟨.icmp, ks, false⟩) (encap := false) (idx := idx) hcfg rfl (by omega) hn hd _
        ((parseICMP_take _ _ _ (by omega)).trans (parseICMP_spec _ _ _ _ _ ht hc hcalls))]
      rw [loop_stop rfl]
      simp only [l4MsgAt, l4Guard, hg, if_true, l4Msg] <;> rfl
    · rw [loop_short (by rw [hlen]; simp only [Parser.guard]; omega)]
      simp only [l4MsgAt, l4Guard, hg, if_false]
  | icmpv6 t c =>
    obtain ⟨ht, hc⟩ := hl
    simp only [l4Bytes, Spec.Frame.u8, Spec.Frame.u16, Spec.Frame.u32, List.append_assoc] at hd
    obtain ⟨ks, hnx⟩ : ∃ ks, nextParserProto (l4Proto (.icmpv6 t c)) = ⟨.icmpv6, ks, false⟩ := ⟨_, rfl⟩
    have hcalls : (calls.lookup 11).getD 0 = 0 := by rw [hfresh.2]; rfl
    rw [hnx]
    by_cases hg : off + 2 ≤ n
    · rw [loop_step_cut (next := ⟨.icmpv6, ks, false⟩) (encap := false) (idx := idx) hcfg rfl (by omega) hn hd _
        ((parseICMPv6_take _ _ _ (by omega)).trans (parseICMPv6_spec _ _ _ _ _ ht hc hcalls))]
      rw [loop_stop rfl]
      simp only [l4MsgAt, l4Guard, hg, if_true, l4Msg] <;> rfl
    · rw [loop_short (by rw [hlen]; simp only [Parser.guard]; omega)]
      simp only [l4MsgAt, l4Guard, hg, if_false]
  | other p pl =>
    simp only [L4WF, List.mem_cons, List.not_mem_nil, or_false, not_or] at hl
    obtain ⟨_, h1, h4, h6, h17, h41, h43, h44, h47, h58⟩ := hl
    rw [loop_stop (by simp [l4Proto, nextParserProto, Next.callable, *])]
    simp [l4MsgAt, l4Msg]

theorem loop_innerL4_cut {cfg : Config} (hcfg : cfg.layers = []) (l : L4) (hl : L4WF cfg.ports l)
    {full : Bytes} {n off : Nat} (hn : n ≤ full.length) (hd : full.drop off = l4Bytes l)
    {fuel : Nat} (hf : 2 ≤ fuel) {calls : List (Nat × Nat)} (hfresh : IcmpFresh calls)
    (idx : Nat) (m : FlowMsg) :
    parseLoop cfg (full.take n) fuel (nextParserProto (l4Proto l)) off true idx calls m =
      .ok (innerRes (innerL4At n off l).1 (innerL4At n off l).2 m) := by
  obtain ⟨fuel, rfl⟩ : ∃ f, fuel = f + 2 := ⟨fuel - 2, by omega⟩
  have hlen := take_len hn
  cases l with
  | tcp sp dp seq ack doff flags win opts =>
    simp only [L4WF, Nat.reducePow] at hl
    obtain ⟨hsp, hdp, _, _, h5, h16, hfl, _, _, hport⟩ := hl
    simp only [l4Bytes, Spec.Frame.u8, Spec.Frame.u16, Spec.Frame.u32, List.append_assoc] at hd
    obtain ⟨ks, hnx⟩ : ∃ ks, nextParserProto (l4Proto (.tcp sp dp seq ack doff flags win opts)) = ⟨.tcp, ks, false⟩ := ⟨_, rfl⟩
    rw [hnx]
    by_cases hg : off + 20 ≤ n
    · rw [loop_step_cut (next := ⟨.tcp, ks, false⟩) (encap := true) (idx := idx) hcfg rfl (by omega) hn hd _
        ((parseTCP_take _ _ _ (by omega)).trans (parseTCP_enc _ _ _ _ _ _ _ _ _ _ _ _ hsp hdp h5 h16 (by rfl)))]
      rw [loop_stop hport]
      have : doff * 4 % 2 ^ 32 = doff * 4 := Nat.mod_eq_of_lt (by omega)
      simp [innerL4At, l4Guard, hg, stackL4, innerIcmpPayload, innerRes, this]
    · rw [loop_short (by rw [hlen]; simp only [Parser.guard]; omega)]
      simp only [innerL4At, l4Guard, hg, if_false, Inner.nil, innerRes_nil]
  | udp sp dp =>
    simp only [L4WF, Nat.reducePow] at hl
    obtain ⟨hsp, hdp, hport⟩ := hl
    simp only [l4Bytes, Spec.Frame.u8, Spec.Frame.u16, Spec.Frame.u32, List.append_assoc] at hd
    obtain ⟨ks, hnx⟩ : ∃ ks, nextParserProto (l4Proto (.udp sp dp)) = ⟨.udp, ks, false⟩ := ⟨_, rfl⟩
    rw [hnx]
    by_cases hg : off + 8 ≤ n
    · rw [loop_step_cut (next := ⟨.udp, ks, false⟩) (encap := true) (idx := idx) hcfg rfl (by omega) hn hd _
        ((parseUDP_take _ _ _ (by omega)).trans (parseUDP_enc _ _ _ _ _ hsp hdp (by simp) (by rfl)))]
      rw [loop_stop hport]
      simp [innerL4At, l4Guard, hg, stackL4, innerIcmpPayload, innerRes]
    · rw [loop_short (by rw [hlen]; simp only [Parser.guard]; omega)]
      simp only [innerL4At, l4Guard, hg, if_false, Inner.nil, innerRes_nil]
  | icmp t c =>
    simp only [L4WF, Nat.reducePow] at hl
    obtain ⟨ht, hc⟩ := hl
    simp only [l4Bytes, Spec.Frame.u8, Spec.Frame.u16, Spec.Frame.u32, List.append_assoc] at hd
    obtain ⟨ks, hnx⟩ : ∃ ks, nextParserProto (l4Proto (.icmp t c)) = ⟨.icmp, ks, false⟩ := ⟨_, rfl⟩
    have hcalls : (calls.lookup 10).getD 0 = 0 := by rw [hfresh.1]; rfl
    rw [hnx]
    by_cases hg : off + 2 ≤ n
    · rw [loop_step_cut (next := ⟨.icmp, ks, false⟩) (encap := true) (idx := idx) hcfg rfl (by omega) hn hd _
        ((parseICMP_take _ _ _ (by omega)).trans (parseICMP_spec _ _ _ _ _ ht hc hcalls))]
      rw [loop_stop rfl]
      simp [innerL4At, l4Guard, hg, stackL4, innerIcmpPayload, innerRes]
    · rw [loop_short (by rw [hlen]; simp only [Parser.guard]; omega)]
      simp only [innerL4At, l4Guard, hg, if_false, Inner.nil, innerRes_nil]
  | icmpv6 t c =>
    simp only [L4WF, Nat.reducePow] at hl
    obtain ⟨ht, hc⟩ := hl
    simp only [l4Bytes, Spec.Frame.u8, Spec.Frame.u16, Spec.Frame.u32, List.append_assoc] at hd
    obtain ⟨ks, hnx⟩ : ∃ ks, nextParserProto (l4Proto (.icmpv6 t c)) = ⟨.icmpv6, ks, false⟩ := ⟨_, rfl⟩
    have hcalls : (calls.lookup 11).getD 0 = 0 := by rw [hfresh.2]; rfl
    rw [hnx]
    by_cases hg : off + 2 ≤ n
    · rw [loop_step_cut (next := ⟨.icmpv6, ks, false⟩) (encap := true) (idx := idx) hcfg rfl (by omega) hn hd _
        ((parseICMPv6_take _ _ _ (by omega)).trans (parseICMPv6_spec _ _ _ _ _ ht hc hcalls))]
      rw [loop_stop rfl]
      simp [innerL4At, l4Guard, hg, stackL4, innerIcmpPayload, innerRes]
    · rw [loop_short (by rw [hlen]; simp only [Parser.guard]; omega)]
      simp only [innerL4At, l4Guard, hg, if_false, Inner.nil, innerRes_nil]
  | other p pl =>
    simp only [L4WF, List.mem_cons, List.not_mem_nil, or_false, not_or] at hl
    obtain ⟨_, h1, h4, h6, h17, h41, h43, h44, h47, h58⟩ := hl
    rw [loop_stop (by simp [l4Proto, nextParserProto, Next.callable, *])]
    have : innerL4At n off (.other p pl) = Inner.nil := by
      simp [innerL4At, stackL4, innerIcmpPayload, Inner.nil]
    rw [this, Inner.nil, innerRes_nil]

mutual
theorem loop_innerIP_cut {cfg : Config} (hcfg : cfg.layers = []) {full : Bytes} {n : Nat} (hn : n ≤ full.length) :
    ∀ (p : IP), IPWF cfg.ports p → ∀ (off : Nat), full.drop off = ipBytes p →
    ∀ (fuel : Nat), (stackIP p).length + 2 ≤ fuel → ∀ (ks : List String) (calls : List (Nat × Nat)), IcmpFresh calls →
    ∀ (idx : Nat) (m : FlowMsg),
    parseLoop cfg (full.take n) fuel ⟨ipParser p, ks, false⟩ off true idx calls m =
      .ok (innerRes (innerIPAt n off p).1 (innerIPAt n off p).2 m)
  | .v4 tos ident fl fo ttl src dst pl, hp => by
    intro off hd fuel hf ks calls hfresh idx m
    simp only [IPWF, Nat.reducePow] at hp
    obtain ⟨htos, hident, hfl, hfo, httl, hsrc, hdst, hpl⟩ := hp
    simp only [stackIP, List.length_cons] at hf
    obtain ⟨fuel, rfl⟩ : ∃ f, fuel = f + 2 := ⟨fuel - 2, by omega⟩
    simp only [ipBytes, Spec.Frame.u8, Spec.Frame.u16, Spec.Frame.u32, List.append_assoc] at hd
    have hd' := drop_next (s := 20) (rest := payloadBytes pl) hd (by simp [drop_skip, hsrc, hdst])
    simp only [ipParser]
    by_cases hg : off + 20 ≤ n
    · rw [loop_step_cut (next := ⟨.ipv4, ks, false⟩) (encap := true) (idx := idx) hcfg rfl (by omega) hn hd _
        ((parseIPv4_take _ _ _ (by omega)).trans
          (parseIPv4_enc _ _ _ _ _ _ _ _ _ _ _ _ _ (payloadProto_lt hpl) hsrc hdst (by rfl)))]
      refine Eq.trans (loop_innerPayload_cut hcfg hn pl hpl _ hd' (fuel + 1) (by omega) _
        (hfresh.bump 4 (by decide) (by decide)) _ _) ?_
      simp only [innerIPAt, hg, if_true]
      rw [Inner.cons, innerRes_cons] <;> rfl
    · rw [loop_short (by rw [take_len hn]; simp only [Parser.guard]; omega)]
      simp only [innerIPAt, hg, if_false, Inner.nil, innerRes_nil]
  | .v6 tc fl hlim src dst ext pl, hp => by
    intro off hd fuel hf ks calls hfresh idx m
    simp only [IPWF, Nat.reducePow] at hp
    obtain ⟨htc, hfl, hhl, hsrc, hdst, hext, hpl⟩ := hp
    have hnh := payloadProto_lt hpl
    simp only [stackIP, List.length_cons, List.length_append] at hf
    obtain ⟨fuel, rfl⟩ : ∃ f, fuel = f + 2 := ⟨fuel - 2, by omega⟩
    simp only [ipParser]
    by_cases hg : off + 40 ≤ n
    case neg =>
      rw [loop_short (by rw [take_len hn]; simp only [Parser.guard]; omega)]
      simp only [innerIPAt, hg, if_false, Inner.nil, innerRes_nil]
    obtain ⟨len, hb⟩ := ipBytes_v6 tc fl hlim src dst ext pl
    rw [hb] at hd
    have hd1 := drop_next (s := 40) (rest := extBytes ext (payloadProto pl) ++ payloadBytes pl) hd
      (by simp [drop_skip, hsrc, hdst])
    rw [loop_step_cut (next := ⟨.ipv6, ks, false⟩) (encap := true) (idx := idx) hcfg rfl (by omega) hn hd _
      ((parseIPv6_take _ _ _ (by omega)).trans
        (parseIPv6_enc _ _ _ _ _ _ _ _ _ (v6First_lt ext hnh) hsrc hdst (by rfl)))]
    cases ext with
    | none =>
      rw [extBytes, List.nil_append] at hd1
      simp only [stackExt, List.length_nil] at hf
      refine Eq.trans (loop_innerPayload_cut hcfg hn pl hpl _ hd1 (fuel + 1) (by omega) _
        (hfresh.bump 5 (by decide) (by decide)) _ _) ?_
      simp only [innerIPAt, hg, if_true]
      rw [Inner.cons, innerRes_cons] <;> rfl
    | fragment fo fl3 ident =>
      simp only [extBytes, List.append_assoc] at hd1
      have hd2 := drop_next (s := 8) (rest := payloadBytes pl) hd1 (by simp [drop_skip])
      obtain ⟨ks1, hn1⟩ : ∃ ks1, nextParserProto 44 = ⟨.ipv6frag, ks1, false⟩ := ⟨_, rfl⟩
      simp only [v6First, hn1, Bool.true_or]
      simp only [stackExt, List.length_cons, List.length_nil] at hf
      by_cases hg2 : off + 48 ≤ n
      · rw [loop_step_cut (next := ⟨.ipv6frag, ks1, false⟩) (encap := true) hcfg rfl (by omega) hn hd1 _
          ((parseFrag_take _ _ _ (by omega)).trans (parseFrag_enc _ _ _ _ _ _ _ hnh (by rfl)))]
        refine Eq.trans (loop_innerPayload_cut hcfg hn pl hpl _ hd2 fuel (by omega) _
          ((hfresh.bump 5 (by decide) (by decide)).bump 6 (by decide) (by decide)) _ _) ?_
        simp only [innerIPAt, hg, hg2, if_true]
        rw [Inner.cons, Inner.cons, innerRes_cons, innerRes_cons] <;> rfl
      · obtain ⟨fuel, rfl⟩ : ∃ f, fuel = f + 1 := ⟨fuel - 1, by omega⟩
        rw [loop_short (by rw [take_len hn]; simp only [Parser.guard]; omega)]
        simp only [innerIPAt, hg, hg2, if_true, if_false]
        rw [Inner.cons, Inner.nil, innerRes_cons, innerRes_nil] <;> rfl
    | srh sleft le segs =>
      simp only [ExtWF, Nat.reducePow] at hext
      obtain ⟨hsleft, hle, hnseg, hsegs, hlast⟩ := hext
      have hd2 := drop_next_app (s := 8 + 16 * segs.length) hd1
        (by simp only [extBytes, List.length_append, encBE_length, flat_length segs hsegs]; omega)
      simp only [extBytes, List.append_assoc] at hd1
      obtain ⟨ks1, hn1⟩ : ∃ ks1, nextParserProto 43 = ⟨.ipv6route, ks1, false⟩ := ⟨_, rfl⟩
      simp only [v6First, hn1, Bool.true_or]
      simp only [stackExt, List.length_cons, List.length_nil] at hf
      by_cases hg2 : off + 48 ≤ n
      · rw [loop_step_cut (next := ⟨.ipv6route, ks1, false⟩) (encap := true) hcfg rfl (by omega) hn hd1 _
          ((parseRoute_take_enc _ _ _ (by omega) (by rfl)).trans
            (parseRoute_enc _ _ _ _ _ _ _ _ _ _ hnh (by omega) (by rfl)))]
        have h4 : 8 + 8 * (2 * segs.length) = 8 + 16 * segs.length := by omega
        have h3 : (8 + 16 * segs.length) % 2 ^ 32 = 8 + 16 * segs.length := by omega
        simp only [h4, h3]
        refine Eq.trans (loop_innerPayload_cut hcfg hn pl hpl _ hd2 fuel (by omega) _
          ((hfresh.bump 5 (by decide) (by decide)).bump 7 (by decide) (by decide)) _ _) ?_
        simp only [innerIPAt, hg, hg2, if_true]
        rw [Inner.cons, Inner.cons, innerRes_cons, innerRes_cons, show off + 40 + (8 + 16 * segs.length) = off + 48 + 16 * segs.length by omega] <;> rfl
      · obtain ⟨fuel, rfl⟩ : ∃ f, fuel = f + 1 := ⟨fuel - 1, by omega⟩
        rw [loop_short (by rw [take_len hn]; simp only [Parser.guard]; omega)]
        simp only [innerIPAt, hg, hg2, if_true, if_false]
        rw [Inner.cons, Inner.nil, innerRes_cons, innerRes_nil] <;> rfl
theorem loop_innerPayload_cut {cfg : Config} (hcfg : cfg.layers = []) {full : Bytes} {n : Nat} (hn : n ≤ full.length) :
    ∀ (pl : Payload), PayloadWF cfg.ports pl → ∀ (off : Nat), full.drop off = payloadBytes pl →
    ∀ (fuel : Nat), (stackPayload pl).length + 2 ≤ fuel →
    ∀ (calls : List (Nat × Nat)), IcmpFresh calls → ∀ (idx : Nat) (m : FlowMsg),
    parseLoop cfg (full.take n) fuel (nextParserProto (payloadProto pl)) off true idx calls m =
      .ok (innerRes (innerPayloadAt n off pl).1 (innerPayloadAt n off pl).2 m)
  | .l4 l, hl => by
    intro off hd fuel hf calls hfresh idx m
    exact loop_innerL4_cut hcfg l hl hn hd (by omega) hfresh idx m
  | .gre inner, hin => by
    intro off hd fuel hf calls hfresh idx m
    have het := hi_lo (etherType_lt inner hin)
    simp only [stackPayload, List.length_cons] at hf
    obtain ⟨fuel, rfl⟩ : ∃ f, fuel = f + 2 := ⟨fuel - 2, by omega⟩
    simp only [payloadBytes, Spec.Frame.u16, List.append_assoc] at hd
    rw [encBE_two (etherType inner)] at hd
    simp only [List.cons_append, List.nil_append] at hd
    have hd' := drop_next (s := 4) (rest := etherPayloadBytes inner) hd (by simp [drop_skip])
    obtain ⟨ks, hnx⟩ : ∃ ks, nextParserProto (payloadProto (.gre inner)) = ⟨.gre, ks, false⟩ := ⟨_, rfl⟩
    rw [hnx]
    by_cases hg : off + 4 ≤ n
    · rw [loop_step_cut (next := ⟨.gre, ks, false⟩) (encap := true) (idx := idx) hcfg rfl (by omega) hn hd _
        ((parseGRE_take _ _ _ (by omega)).trans
          (parseGRE_spec _ (encBE 2 0) _ _ _ ⟨true, (calls.lookup 12).getD 0, cfg.ports⟩ (by simp)))]
      simp only [het.1, het.2]
      refine Eq.trans (loop_innerEther_cut hcfg hn inner hin _ hd' (fuel + 1) (by omega)
        _ (hfresh.bump 12 (by decide) (by decide)) _ _) ?_
      simp only [innerPayloadAt, hg, if_true]
      rw [Inner.cons, innerRes_cons] <;> rfl
    · rw [loop_short (by rw [take_len hn]; simp only [Parser.guard]; omega)]
      simp only [innerPayloadAt, hg, if_false, Inner.nil, innerRes_nil]
  | .ipip p, hp => by
    intro off hd fuel hf calls hfresh idx m
    obtain ⟨ks, hnx⟩ := ipip_next p
    rw [hnx]
    simp only [payloadBytes, stackPayload, innerPayloadAt] at hd hf ⊢
    exact loop_innerIP_cut hcfg hn p hp off hd fuel hf ks calls hfresh idx m
theorem loop_innerEther_cut {cfg : Config} (hcfg : cfg.layers = []) {full : Bytes} {n : Nat} (hn : n ≤ full.length) :
    ∀ (ep : EtherPayload), EpWF cfg.ports ep → ∀ (off : Nat), full.drop off = etherPayloadBytes ep →
    ∀ (fuel : Nat), (stackEther ep).length + 2 ≤ fuel →
    ∀ (calls : List (Nat × Nat)), IcmpFresh calls → ∀ (idx : Nat) (m : FlowMsg),
    parseLoop cfg (full.take n) fuel (nextParserEtype (etherType ep / 256) (etherType ep % 256)) off true idx calls m =
      .ok (innerRes (innerEtherAt n off ep).1 (innerEtherAt n off ep).2 m)
  | .ip p, hp => by
    intro off hd fuel hf calls hfresh idx m
    obtain ⟨ks, hnx⟩ := ip_next p
    rw [etherType_ip, hnx]
    simp only [etherPayloadBytes, stackEther, innerEtherAt] at hd hf ⊢
    exact loop_innerIP_cut hcfg hn p hp off hd fuel hf ks calls hfresh idx m
  | .mpls labels p, hp => by
    intro off hd fuel hf calls hfresh idx m
    obtain ⟨hne, hlen, hwf, hp⟩ := hp
    simp only [stackEther, List.length_cons] at hf
    obtain ⟨fuel, rfl⟩ : ∃ f, fuel = f + 2 := ⟨fuel - 2, by omega⟩
    simp only [etherPayloadBytes] at hd
    have hd' := drop_next_app (s := 4 * labels.length) hd (mplsBytes_length labels)
    obtain ⟨ks, hnx⟩ : ∃ ks, nextParserEtype (34887 / 256) (34887 % 256) = ⟨.mpls, ks, false⟩ := ⟨_, rfl⟩
    simp only [etherType]
    rw [hnx]
    by_cases hg : off + 4 ≤ n
    case neg =>
      rw [loop_short (by rw [take_len hn]; simp only [Parser.guard]; omega)]
      simp only [innerEtherAt, hg, if_false, Inner.nil, innerRes_nil]
    by_cases hg2 : off + 4 * labels.length < n
    · rw [loop_step_cut (next := ⟨.mpls, ks, false⟩) (encap := true) (idx := idx) hcfg rfl (by omega) hn hd _
        ((congrArg (fun d => parseMPLS m d _) (take_mpls_more labels (ipBytes p) (n - off) (by omega))).trans
          (parseMPLS_enc _ labels _ _ _ _ hne hwf ((peekEt_take _ _ (by omega)).trans (peek_ip p hp)) (by rfl)))]
      obtain ⟨ks', hn'⟩ := ip_next p
      simp only [hn']
      have h1 : 4 * labels.length % 2 ^ 32 = 4 * labels.length := Nat.mod_eq_of_lt (by omega)
      simp only [h1]
      refine Eq.trans (loop_innerIP_cut hcfg hn p hp _ hd' (fuel + 1) (by omega) ks' _
        (hfresh.bump 3 (by decide) (by decide)) _ _) ?_
      simp only [innerEtherAt, hg, hg2, if_true]
      rw [Inner.cons, innerRes_cons] <;> rfl
    · rw [loop_step_cut (next := ⟨.mpls, ks, false⟩) (encap := true) (idx := idx) hcfg rfl (by omega) hn hd _
        (parseMPLS_cut_enc _ labels _ _ (n - off) hwf (by omega) (by omega) (by rfl))]
      rw [loop_stop (by rfl)]
      have h1 : 4 * ((n - off) / 4) % 2 ^ 32 = 4 * ((n - off) / 4) := Nat.mod_eq_of_lt (by omega)
      simp only [innerEtherAt, hg, hg2, if_true, if_false, h1]
      simp [innerRes]
  | .raw t b, ht => by
    intro off hd fuel hf calls hfresh idx m
    obtain ⟨ks, hnx⟩ := raw_next t ht.2
    obtain ⟨fuel, rfl⟩ : ∃ f, fuel = f + 1 := ⟨fuel - 1, by omega⟩
    simp only [etherType, hnx]
    rw [loop_stop rfl]
    simp only [innerEtherAt, Inner.nil, innerRes_nil]
end

theorem loop_innerL4 {cfg : Config} (hcfg : cfg.layers = []) (l : L4) (hl : L4WF cfg.ports l)
    {data : Bytes} {off : Nat} (hd : data.drop off = l4Bytes l) (ho : off ≤ data.length)
    {fuel : Nat} (hf : (stackL4 l).length + 1 ≤ fuel) {calls : List (Nat × Nat)} (hfresh : IcmpFresh calls)
    (idx : Nat) (m : FlowMsg) :
    parseLoop cfg data fuel (nextParserProto (l4Proto l)) off true idx calls m =
      .ok (innerRes (stackL4 l) (innerIcmpPayload (.l4 l)) m) := by
  by_cases h2 : 2 ≤ fuel
  · have hlen := congrArg List.length hd
    rw [List.length_drop] at hlen
    have hg := l4Guard_le l
    have h := loop_innerL4_cut hcfg l hl (full := data) (n := data.length) (Nat.le_refl _) hd h2 hfresh idx m
    rw [List.take_length, innerL4At, if_pos (by omega)] at h
    exact h
  · cases l with
    | other p pl =>
      obtain ⟨fuel, rfl⟩ : ∃ f, fuel = f + 1 := ⟨fuel - 1, by omega⟩
      simp only [L4WF, List.mem_cons, List.not_mem_nil, or_false, not_or] at hl
      obtain ⟨_, h1, h4, h6, h17, h41, h43, h44, h47, h58⟩ := hl
      rw [loop_stop (by simp [l4Proto, nextParserProto, Next.callable, *])]
      simp [stackL4, innerIcmpPayload, innerRes]
    | _ => simp only [stackL4, List.length_cons, List.length_nil] at hf; omega

mutual
theorem loop_innerIP {cfg : Config} (hcfg : cfg.layers = []) :
    ∀ (p : IP), IPWF cfg.ports p → ∀ (data : Bytes) (off : Nat), data.drop off = ipBytes p → off ≤ data.length →
    ∀ (fuel : Nat), (stackIP p).length + 1 ≤ fuel → ∀ (ks : List String) (calls : List (Nat × Nat)), IcmpFresh calls →
    ∀ (idx : Nat) (m : FlowMsg),
    parseLoop cfg data fuel ⟨ipParser p, ks, false⟩ off true idx calls m =
      .ok (innerRes (stackIP p) (innerIcmpIP p) m)
  | .v4 tos ident fl fo ttl src dst pl, hp => by
    intro data off hd ho fuel hf ks calls hfresh idx m
    simp only [IPWF, Nat.reducePow] at hp
    obtain ⟨htos, hident, hfl, hfo, httl, hsrc, hdst, hpl⟩ := hp
    simp only [stackIP, List.length_cons] at hf
    obtain ⟨fuel, rfl⟩ : ∃ f, fuel = f + 1 := ⟨fuel - 1, by omega⟩
    simp only [ipBytes, Spec.Frame.u8, Spec.Frame.u16, Spec.Frame.u32, List.append_assoc] at hd
    obtain ⟨hd', ho'⟩ := drop_step (s := 20) (rest := payloadBytes pl) hd ho (by simp [drop_skip, hsrc, hdst])
      (by simp [hsrc, hdst]; omega)
    simp only [ipParser, stackIP, innerIcmpIP]
    rw [loop_step' (next := ⟨.ipv4, ks, false⟩) (encap := true) (idx := idx) hcfg rfl ho hd _
      (parseIPv4_enc _ _ _ _ _ _ _ _ _ _ _ _ _ (payloadProto_lt hpl) hsrc hdst (by rfl))]
    refine Eq.trans (loop_innerPayload hcfg pl hpl data _ hd' ho' fuel (by omega) _ (hfresh.bump 4 (by decide) (by decide)) _ _) ?_
    rw [innerRes_cons] <;> rfl
  | .v6 tc fl hlim src dst ext pl, hp => by
    intro data off hd ho fuel hf ks calls hfresh idx m
    simp only [IPWF, Nat.reducePow] at hp
    obtain ⟨htc, hfl, hhl, hsrc, hdst, hext, hpl⟩ := hp
    have hnh := payloadProto_lt hpl
    simp only [stackIP, List.length_cons, List.length_append] at hf
    obtain ⟨fuel, rfl⟩ : ∃ f, fuel = f + 1 := ⟨fuel - 1, by omega⟩
    simp only [ipParser, stackIP, innerIcmpIP]
    obtain ⟨len, hb⟩ := ipBytes_v6 tc fl hlim src dst ext pl
    rw [hb] at hd
    obtain ⟨hd1, ho1⟩ := drop_step (s := 40) (rest := extBytes ext (payloadProto pl) ++ payloadBytes pl) hd ho
      (by simp [drop_skip, hsrc, hdst]) (by simp [hsrc, hdst]; omega)
    rw [loop_step' (next := ⟨.ipv6, ks, false⟩) (encap := true) (idx := idx) hcfg rfl ho hd _
      (parseIPv6_enc _ _ _ _ _ _ _ _ _ (v6First_lt ext hnh) hsrc hdst (by rfl))]
    cases ext with
    | none =>
      rw [extBytes, List.nil_append] at hd1
      simp only [stackExt, List.length_nil] at hf
      refine Eq.trans (loop_innerPayload hcfg pl hpl data _ hd1 ho1 fuel (by omega) _ (hfresh.bump 5 (by decide) (by decide)) _ _) ?_
      simp only [stackExt, List.nil_append]
      rw [innerRes_cons] <;> rfl
    | fragment fo fl3 ident =>
      simp only [extBytes, List.append_assoc] at hd1
      obtain ⟨hd2, ho2⟩ := drop_step (s := 8) (rest := payloadBytes pl) hd1 ho1 (by simp [drop_skip]) (by simp; omega)
      obtain ⟨ks1, hn1⟩ : ∃ ks1, nextParserProto 44 = ⟨.ipv6frag, ks1, false⟩ := ⟨_, rfl⟩
      simp only [v6First, hn1, Bool.true_or]
      simp only [stackExt, List.length_cons, List.length_nil] at hf
      obtain ⟨fuel, rfl⟩ : ∃ f, fuel = f + 1 := ⟨fuel - 1, by omega⟩
      rw [loop_step' (next := ⟨.ipv6frag, ks1, false⟩) (encap := true) hcfg rfl ho1 hd1 _
        (parseFrag_enc _ _ _ _ _ _ _ hnh (by rfl))]
      refine Eq.trans (loop_innerPayload hcfg pl hpl data _ hd2 ho2 fuel (by omega) _
        ((hfresh.bump 5 (by decide) (by decide)).bump 6 (by decide) (by decide)) _ _) ?_
      simp only [stackExt, List.cons_append, List.nil_append]
      rw [innerRes_cons, innerRes_cons] <;> rfl
    | srh sleft le segs =>
      simp only [ExtWF, Nat.reducePow] at hext
      obtain ⟨hsleft, hle, hn, hsegs, hlast⟩ := hext
      obtain ⟨hd2, ho2⟩ := drop_step_app (s := 8 + 16 * segs.length) hd1 ho1
        (by simp only [extBytes, List.length_append, encBE_length, flat_length segs hsegs]; omega)
      simp only [extBytes, List.append_assoc] at hd1
      obtain ⟨ks1, hn1⟩ : ∃ ks1, nextParserProto 43 = ⟨.ipv6route, ks1, false⟩ := ⟨_, rfl⟩
      simp only [v6First, hn1, Bool.true_or]
      simp only [stackExt, List.length_cons, List.length_nil] at hf
      obtain ⟨fuel, rfl⟩ : ∃ f, fuel = f + 1 := ⟨fuel - 1, by omega⟩
      rw [loop_step' (next := ⟨.ipv6route, ks1, false⟩) (encap := true) hcfg rfl ho1 hd1 _
        (parseRoute_enc _ _ _ _ _ _ _ _ _ _ hnh (by omega) (by rfl))]
      have h4 : 8 + 8 * (2 * segs.length) = 8 + 16 * segs.length := by omega
      have h3 : (8 + 16 * segs.length) % 2 ^ 32 = 8 + 16 * segs.length := by omega
      simp only [h4, h3]
      refine Eq.trans (loop_innerPayload hcfg pl hpl data _ hd2 ho2 fuel (by omega) _
        ((hfresh.bump 5 (by decide) (by decide)).bump 7 (by decide) (by decide)) _ _) ?_
      simp only [stackExt, List.cons_append, List.nil_append]
      rw [innerRes_cons, innerRes_cons] <;> rfl
theorem loop_innerPayload {cfg : Config} (hcfg : cfg.layers = []) :
    ∀ (pl : Payload), PayloadWF cfg.ports pl → ∀ (data : Bytes) (off : Nat), data.drop off = payloadBytes pl →
    off ≤ data.length → ∀ (fuel : Nat), (stackPayload pl).length + 1 ≤ fuel →
    ∀ (calls : List (Nat × Nat)), IcmpFresh calls → ∀ (idx : Nat) (m : FlowMsg),
    parseLoop cfg data fuel (nextParserProto (payloadProto pl)) off true idx calls m =
      .ok (innerRes (stackPayload pl) (innerIcmpPayload pl) m)
  | .l4 l, hl => by
    intro data off hd ho fuel hf calls hfresh idx m
    exact loop_innerL4 hcfg l hl hd ho hf hfresh idx m
  | .gre inner, hin => by
    intro data off hd ho fuel hf calls hfresh idx m
    have het := hi_lo (etherType_lt inner hin)
    simp only [stackPayload, List.length_cons] at hf
    obtain ⟨fuel, rfl⟩ : ∃ f, fuel = f + 1 := ⟨fuel - 1, by omega⟩
    simp only [payloadBytes, Spec.Frame.u16, List.append_assoc] at hd
    rw [encBE_two (etherType inner)] at hd
    simp only [List.cons_append, List.nil_append] at hd
    obtain ⟨hd', ho'⟩ := drop_step (s := 4) (rest := etherPayloadBytes inner) hd ho (by simp [drop_skip]) (by simp; omega)
    obtain ⟨ks, hn⟩ : ∃ ks, nextParserProto (payloadProto (.gre inner)) = ⟨.gre, ks, false⟩ := ⟨_, rfl⟩
    rw [hn, loop_step' (next := ⟨.gre, ks, false⟩) (encap := true) (idx := idx) hcfg rfl ho hd _
      (parseGRE_spec _ (encBE 2 0) _ _ _ ⟨true, (calls.lookup 12).getD 0, cfg.ports⟩ (by simp))]
    simp only [het.1, het.2]
    refine Eq.trans (loop_innerEther hcfg inner hin data _ hd' ho' fuel (by omega)
      _ (hfresh.bump 12 (by decide) (by decide)) _ _) ?_
    simp only [stackPayload, innerIcmpPayload]
    rw [innerRes_cons] <;> rfl
  | .ipip p, hp => by
    intro data off hd ho fuel hf calls hfresh idx m
    obtain ⟨ks, hn⟩ := ipip_next p
    rw [hn]
    simp only [payloadBytes, stackPayload, innerIcmpPayload] at hd hf ⊢
    exact loop_innerIP hcfg p hp data off hd ho fuel hf ks calls hfresh idx m
theorem loop_innerEther {cfg : Config} (hcfg : cfg.layers = []) :
    ∀ (ep : EtherPayload), EpWF cfg.ports ep → ∀ (data : Bytes) (off : Nat), data.drop off = etherPayloadBytes ep →
    off ≤ data.length → ∀ (fuel : Nat), (stackEther ep).length + 1 ≤ fuel →
    ∀ (calls : List (Nat × Nat)), IcmpFresh calls → ∀ (idx : Nat) (m : FlowMsg),
    parseLoop cfg data fuel (nextParserEtype (etherType ep / 256) (etherType ep % 256)) off true idx calls m =
      .ok (innerRes (stackEther ep) (innerIcmpEther ep) m)
  | .ip p, hp => by
    intro data off hd ho fuel hf calls hfresh idx m
    obtain ⟨ks, hn⟩ := ip_next p
    rw [etherType_ip, hn]
    simp only [etherPayloadBytes, stackEther, innerIcmpEther] at hd hf ⊢
    exact loop_innerIP hcfg p hp data off hd ho fuel hf ks calls hfresh idx m
  | .mpls labels p, hp => by
    intro data off hd ho fuel hf calls hfresh idx m
    obtain ⟨hne, hlen, hwf, hp⟩ := hp
    simp only [stackEther, List.length_cons] at hf
    obtain ⟨fuel, rfl⟩ : ∃ f, fuel = f + 1 := ⟨fuel - 1, by omega⟩
    simp only [etherPayloadBytes] at hd
    obtain ⟨hd', ho'⟩ := drop_step_app (s := 4 * labels.length) hd ho (mplsBytes_length labels)
    obtain ⟨ks, hn⟩ : ∃ ks, nextParserEtype (34887 / 256) (34887 % 256) = ⟨.mpls, ks, false⟩ := ⟨_, rfl⟩
    simp only [etherType]
    rw [hn, loop_step' (next := ⟨.mpls, ks, false⟩) (encap := true) (idx := idx) hcfg rfl ho hd _
      (parseMPLS_enc _ labels (ipBytes p) _ _ _ hne hwf (peek_ip p hp) (by rfl))]
    obtain ⟨ks', hn'⟩ := ip_next p
    simp only [hn']
    have h1 : 4 * labels.length % 2 ^ 32 = 4 * labels.length := Nat.mod_eq_of_lt (by omega)
    simp only [h1]
    refine Eq.trans (loop_innerIP hcfg p hp data _ hd' ho' fuel (by omega) ks' _
      (hfresh.bump 3 (by decide) (by decide)) _ _) ?_
    simp only [stackEther, innerIcmpEther]
    rw [innerRes_cons] <;> rfl
  | .raw t b, ht => by
    intro data off hd ho fuel hf calls hfresh idx m
    obtain ⟨ks, hn⟩ := raw_next t ht.2
    obtain ⟨fuel, rfl⟩ : ∃ f, fuel = f + 1 := ⟨fuel - 1, by omega⟩
    simp only [etherType, hn]
    rw [loop_stop rfl]
    simp only [stackEther, innerIcmpEther, innerRes_nil]
end

/-- layer 4 stays outside, GRE stays outside and everything behind it is tunnelled, an IP header (IP-in-IP)
    is tunnelled itself. The flag is left as the loop computes it (`false || encapTrig …`) so that the
    statement rewrites the loop after the IP step as it stands. -/
theorem loop_payload_cut {cfg : Config} (hcfg : cfg.layers = []) (pl : Payload) (hpl : PayloadWF cfg.ports pl)
    {full : Bytes} {n off : Nat} (hn : n ≤ full.length) (hd : full.drop off = payloadBytes pl)
    {fuel : Nat} (hf : (stackPayload pl).length + 3 ≤ fuel) {calls : List (Nat × Nat)} (hfresh : IcmpFresh calls)
    (li : Nat) (hli : 30 ≤ li ∧ li < 40) (m : FlowMsg) :
    parseLoop cfg (full.take n) fuel (nextParserProto (payloadProto pl)) off
      (false || encapTrig li (nextParserProto (payloadProto pl)).encapSkip
        (nextParserProto (payloadProto pl)).layerIndex) li calls m = .ok (payloadResAt n off pl m) := by
  cases pl with
  | l4 l =>
    have e := l4_noencap hpl li hli.2
    change parseLoop cfg (full.take n) fuel (nextParserProto (l4Proto l)) off (false || encapTrig li
      (nextParserProto (l4Proto l)).encapSkip (nextParserProto (l4Proto l)).layerIndex) li calls m = _
    rw [e]
    exact loop_l4_cut hcfg l hpl hn hd (by omega) hfresh li m
  | ipip p =>
    obtain ⟨ks, hnx⟩ := ipip_next p
    rw [hnx, ip_encap p ks li hli.1]
    simp only [payloadBytes, stackPayload] at hd hf
    exact loop_innerIP_cut hcfg hn p hpl off hd fuel (by omega) ks calls hfresh li m
  | gre inner =>
    have het := hi_lo (etherType_lt inner hpl)
    simp only [stackPayload, List.length_cons] at hf
    obtain ⟨fuel, rfl⟩ : ∃ f, fuel = f + 2 := ⟨fuel - 2, by omega⟩
    simp only [payloadBytes, Spec.Frame.u16, List.append_assoc] at hd
    rw [encBE_two (etherType inner)] at hd
    simp only [List.cons_append, List.nil_append] at hd
    have hd' := drop_next (s := 4) (rest := etherPayloadBytes inner) hd (by simp [drop_skip])
    obtain ⟨ks, hnx⟩ : ∃ ks, nextParserProto (payloadProto (.gre inner)) = ⟨.gre, ks, false⟩ := ⟨_, rfl⟩
    rw [hnx, gre_noencap ks li hli.2, Bool.or_false]
    by_cases hg : off + 4 ≤ n
    case neg =>
      rw [loop_short (by rw [take_len hn]; simp only [Parser.guard]; omega)]
      simp only [payloadResAt, hg, if_false]
    rw [loop_step_cut (next := ⟨.gre, ks, false⟩) (encap := false) (idx := li) hcfg rfl (by omega) hn hd _
      ((parseGRE_take _ _ _ (by omega)).trans
        (parseGRE_spec _ (encBE 2 0) _ _ _ ⟨false, (calls.lookup 12).getD 0, cfg.ports⟩ (by simp)))]
    simp only [het.1, het.2]
    rw [show encapIdx li (Next.encapSkip ⟨.gre, ks, false⟩) (Next.layerIndex ⟨.gre, ks, false⟩) = 40 from rfl]
    simp only [payloadResAt, hg, if_true]
    cases inner with
    | raw t b =>
      obtain ⟨ks', hn'⟩ := raw_next t hpl.2
      simp only [etherType, hn']
      rw [loop_stop rfl]
      simp only [innerEtherAt, Inner.nil, innerRes_nil]
    | ip p =>
      obtain ⟨ks', hn'⟩ := ip_next p
      have henc : (false || encapTrig 40 (nextParserEtype (etherType (.ip p) / 256) (etherType (.ip p) % 256)).encapSkip
          (nextParserEtype (etherType (.ip p) / 256) (etherType (.ip p) % 256)).layerIndex) = true := by
        rw [etherType_ip, hn', ip_encap p ks' 40 (by omega)]; rfl
      rw [henc]
      exact loop_innerEther_cut hcfg hn (.ip p) hpl _ hd' (fuel + 1) (by omega) _
        (hfresh.bump 12 (by decide) (by decide)) _ _
    | mpls labels p =>
      have henc : (false || encapTrig 40 (nextParserEtype (etherType (.mpls labels p) / 256) (etherType (.mpls labels p) % 256)).encapSkip
          (nextParserEtype (etherType (.mpls labels p) / 256) (etherType (.mpls labels p) % 256)).layerIndex) = true := by
        simp only [etherType]; rfl
      rw [henc]
      exact loop_innerEther_cut hcfg hn (.mpls labels p) hpl _ hd' (fuel + 1) (by omega) _
        (hfresh.bump 12 (by decide) (by decide)) _ _

theorem loop_ip_cut {cfg : Config} (hcfg : cfg.layers = []) (p : IP) (hp : IPWF cfg.ports p)
    {full : Bytes} {n off : Nat} (hn : n ≤ full.length) (hd : full.drop off = ipBytes p)
    {fuel : Nat} (hf : (stackIP p).length + 3 ≤ fuel) (ks : List String) {calls : List (Nat × Nat)}
    (hfresh : IcmpFresh calls) (idx : Nat) (m : FlowMsg) :
    parseLoop cfg (full.take n) fuel ⟨ipParser p, ks, false⟩ off false idx calls m = .ok (ipResAt n off p m) := by
  cases p with
  | v4 tos ident fl fo ttl src dst pl =>
    simp only [stackIP, List.length_cons] at hf
    obtain ⟨fuel, rfl⟩ : ∃ f, fuel = f + 2 := ⟨fuel - 2, by omega⟩
    simp only [IPWF, Nat.reducePow] at hp
    obtain ⟨htos, hident, hfl, hfo, httl, hsrc, hdst, hpl⟩ := hp
    simp only [ipBytes, Spec.Frame.u8, Spec.Frame.u16, Spec.Frame.u32, List.append_assoc] at hd
    have hd' := drop_next (s := 20) (rest := payloadBytes pl) hd (by simp [drop_skip, hsrc, hdst])
    simp only [ipParser]
    by_cases hg : off + 20 ≤ n
    case neg =>
      rw [loop_short (by rw [take_len hn]; simp only [Parser.guard]; omega)]
      simp only [ipResAt, hg, if_false]
    rw [loop_step_cut (next := ⟨.ipv4, ks, false⟩) (encap := false) (idx := idx) hcfg rfl (by omega) hn hd _
      ((parseIPv4_take _ _ _ (by omega)).trans
        (parseIPv4_spec m 0x45 tos (20 + (payloadBytes pl).length) ident (fl * 8192 + fo) ttl (payloadProto pl) 0
          src dst (payloadBytes pl) _ htos hident (by omega) httl (payloadProto_lt hpl) hsrc hdst rfl))]
    refine Eq.trans (loop_payload_cut hcfg pl hpl hn hd' (by omega) (hfresh.bump 4 (by decide) (by decide)) 30
      (by omega) _) ?_
    have h1 : (fl * 8192 + fo) % 8192 = fo := by omega
    have h2 : (fl * 8192 + fo) / 8192 = fl := by omega
    simp only [ipResAt, hg, if_true, ipMsg, h1, h2]
  | v6 tc fl hlim src dst ext pl =>
    simp only [stackIP, List.length_cons, List.length_append] at hf
    obtain ⟨fuel, rfl⟩ : ∃ f, fuel = f + 2 := ⟨fuel - 2, by omega⟩
    simp only [IPWF, Nat.reducePow] at hp
    obtain ⟨htc, hfl, hhl, hsrc, hdst, hext, hpl⟩ := hp
    have h1 : (6 * 2 ^ 28 + tc * 2 ^ 20 + fl) / 65536 % 65536 % 4096 / 16 = tc := by omega
    have h2 : (6 * 2 ^ 28 + tc * 2 ^ 20 + fl) % 2 ^ 32 % 2 ^ 20 = fl := by omega
    have hnh := payloadProto_lt hpl
    simp only [ipParser]
    by_cases hg : off + 40 ≤ n
    case neg =>
      rw [loop_short (by rw [take_len hn]; simp only [Parser.guard]; omega)]
      simp only [ipResAt, hg, if_false]
    obtain ⟨len, hb⟩ := ipBytes_v6 tc fl hlim src dst ext pl
    rw [hb] at hd
    have hd1 := drop_next (s := 40) (rest := extBytes ext (payloadProto pl) ++ payloadBytes pl) hd
      (by simp [drop_skip, hsrc, hdst])
    rw [loop_step_cut (next := ⟨.ipv6, ks, false⟩) (encap := false) (idx := idx) hcfg rfl (by omega) hn hd _
      ((parseIPv6_take _ _ _ (by omega)).trans
        (parseIPv6_spec _ _ _ _ _ _ _ _ _ (v6First_lt ext hnh) hhl hsrc hdst (by rfl)))]
    cases ext with
    | none =>
      simp only [stackExt, List.length_nil] at hf
      rw [extBytes, List.nil_append] at hd1
      refine Eq.trans (loop_payload_cut hcfg pl hpl hn hd1 (by omega) (hfresh.bump 5 (by decide) (by decide)) 30
        (by omega) _) ?_
      simp only [ipResAt, hg, if_true, ipMsg, v6First, h1, h2]
    | fragment fo fl3 ident =>
      simp only [stackExt, List.length_cons, List.length_nil] at hf
      simp only [ExtWF, Nat.reducePow] at hext
      obtain ⟨hfo, hfl3, hident⟩ := hext
      simp only [extBytes, List.append_assoc] at hd1
      have hd2 := drop_next (s := 8) (rest := payloadBytes pl) hd1 (by simp [drop_skip])
      obtain ⟨ks1, hn1⟩ : ∃ ks1, nextParserProto 44 = ⟨.ipv6frag, ks1, false⟩ := ⟨_, rfl⟩
      simp only [v6First, hn1]
      rw [show (false || encapTrig (encapIdx idx (Next.encapSkip ⟨.ipv6, ks, false⟩) (Next.layerIndex ⟨.ipv6, ks, false⟩))
          (Next.encapSkip ⟨.ipv6frag, ks1, false⟩) (Next.layerIndex ⟨.ipv6frag, ks1, false⟩)) = false from rfl,
        show encapIdx idx (Next.encapSkip ⟨.ipv6, ks, false⟩) (Next.layerIndex ⟨.ipv6, ks, false⟩) = 30 from rfl]
      by_cases hg2 : off + 48 ≤ n
      · rw [loop_step_cut (next := ⟨.ipv6frag, ks1, false⟩) (encap := false) (idx := 30) hcfg rfl (by omega) hn hd1 _
          ((parseFrag_take _ _ _ (by omega)).trans (parseFrag_spec _ _ _ _ _ _ _ hnh (by omega) hident (by rfl)))]
        refine Eq.trans (loop_payload_cut hcfg pl hpl hn hd2 (by omega)
          ((hfresh.bump 5 (by decide) (by decide)).bump 6 (by decide) (by decide)) 30 (by omega) _) ?_
        have h3 : (fo * 8 + fl3) / 8 = fo := by omega
        have h4 : (fo * 8 + fl3) % 8 = fl3 := by omega
        simp only [ipResAt, hg, hg2, if_true, extMsg, ipMsg, v6First, h1, h2, h3, h4]
      · obtain ⟨fuel, rfl⟩ : ∃ f, fuel = f + 1 := ⟨fuel - 1, by omega⟩
        rw [loop_short (by rw [take_len hn]; simp only [Parser.guard]; omega)]
        simp only [ipResAt, hg, hg2, if_true, if_false, ipMsg, v6First, h1, h2]
    | srh sleft le segs =>
      simp only [stackExt, List.length_cons, List.length_nil] at hf
      simp only [ExtWF, Nat.reducePow] at hext
      obtain ⟨hsleft, hle, hnseg, hsegs, hlast⟩ := hext
      have hd2 := drop_next_app (s := 8 + 16 * segs.length) hd1
        (by simp only [extBytes, List.length_append, encBE_length, flat_length segs hsegs]; omega)
      simp only [extBytes, List.append_assoc] at hd1
      obtain ⟨ks1, hn1⟩ : ∃ ks1, nextParserProto 43 = ⟨.ipv6route, ks1, false⟩ := ⟨_, rfl⟩
      simp only [v6First, hn1]
      rw [show (false || encapTrig (encapIdx idx (Next.encapSkip ⟨.ipv6, ks, false⟩) (Next.layerIndex ⟨.ipv6, ks, false⟩))
          (Next.encapSkip ⟨.ipv6route, ks1, false⟩) (Next.layerIndex ⟨.ipv6route, ks1, false⟩)) = false from rfl,
        show encapIdx idx (Next.encapSkip ⟨.ipv6, ks, false⟩) (Next.layerIndex ⟨.ipv6, ks, false⟩) = 30 from rfl]
      by_cases hg2 : off + 48 ≤ n
      · rw [loop_step_cut (next := ⟨.ipv6route, ks1, false⟩) (encap := false) (idx := 30) hcfg rfl (by omega) hn hd1 _
          (parseRoute_cut _ _ _ _ _ _ _ _ _ (n - (off + 40)) hnh hsleft hle hnseg hsegs hlast (by rfl) (by omega))]
        refine Eq.trans (loop_payload_cut hcfg pl hpl hn hd2 (by omega)
          ((hfresh.bump 5 (by decide) (by decide)).bump 7 (by decide) (by decide)) 35 (by omega) _) ?_
        have h3 : (8 + 16 * segs.length) % 2 ^ 32 = 8 + 16 * segs.length := Nat.mod_eq_of_lt (by omega)
        simp only [ipResAt, hg, hg2, if_true, srhMsgAt, ipMsg, v6First, h1, h2, h3,
          show off + 40 + (8 + 16 * segs.length) = off + 48 + 16 * segs.length by omega]
      · obtain ⟨fuel, rfl⟩ : ∃ f, fuel = f + 1 := ⟨fuel - 1, by omega⟩
        rw [loop_short (by rw [take_len hn]; simp only [Parser.guard]; omega)]
        simp only [ipResAt, hg, hg2, if_true, if_false, ipMsg, v6First, h1, h2]

/-- `idx ≤ 25` keeps IP (30) from starting an encapsulation -/
theorem loop_ep_cut {cfg : Config} (hcfg : cfg.layers = []) (ep : EtherPayload) (hep : EpWF cfg.ports ep)
    {full : Bytes} {n off : Nat} (hn : n ≤ full.length) (hd : full.drop off = etherPayloadBytes ep)
    {fuel : Nat} (hf : (stackEther ep).length + 3 ≤ fuel) (ks : List String) {calls : List (Nat × Nat)}
    (hfresh : IcmpFresh calls) (idx : Nat) (hidx : idx ≤ 25) (m : FlowMsg) :
    parseLoop cfg (full.take n) fuel ⟨epParser ep, ks, false⟩ off false idx calls m = .ok (epResAt n off ep m) := by
  cases ep with
  | raw t b =>
    obtain ⟨fuel, rfl⟩ : ∃ f, fuel = f + 1 := ⟨fuel - 1, by omega⟩
    simp only [epParser, epResAt]
    rw [loop_stop rfl]
  | ip p =>
    simp only [etherPayloadBytes, stackEther] at hd hf
    exact loop_ip_cut hcfg p hep hn hd hf ks hfresh idx m
  | mpls labels p =>
    obtain ⟨hne, hlen, hwf, hp⟩ := hep
    simp only [stackEther, List.length_cons] at hf
    obtain ⟨fuel, rfl⟩ : ∃ f, fuel = f + 2 := ⟨fuel - 2, by omega⟩
    simp only [etherPayloadBytes] at hd
    have hd' := drop_next_app (s := 4 * labels.length) hd (mplsBytes_length labels)
    simp only [epParser]
    by_cases hg : off + 4 ≤ n
    case neg =>
      rw [loop_short (by rw [take_len hn]; simp only [Parser.guard]; omega)]
      simp only [epResAt, hg, if_false]
    by_cases hg2 : off + 4 * labels.length < n
    · rw [loop_step_cut (next := ⟨.mpls, ks, false⟩) (encap := false) (idx := idx) hcfg rfl (by omega) hn hd _
        ((congrArg (fun d => parseMPLS m d _) (take_mpls_more labels (ipBytes p) (n - off) (by omega))).trans
          (parseMPLS_spec _ labels _ _ _ _ hne hwf ((peekEt_take _ _ (by omega)).trans (peek_ip p hp)) (by rfl)))]
      obtain ⟨ks', hnx⟩ := ip_next p
      simp only [hnx, Bool.false_or]
      rw [show encapIdx idx (Next.encapSkip ⟨.mpls, ks, false⟩) (Next.layerIndex ⟨.mpls, ks, false⟩) = idx from rfl,
        ip_noencap p ks' idx (by omega)]
      refine Eq.trans (loop_ip_cut hcfg p hp hn hd' (by omega) ks' (hfresh.bump 3 (by decide) (by decide)) idx _) ?_
      have h1 : 4 * labels.length % 2 ^ 32 = 4 * labels.length := Nat.mod_eq_of_lt (by omega)
      have h2 : ipEtype p / 256 * 256 + ipEtype p % 256 = ipEtype p := by omega
      simp only [epResAt, hg, hg2, if_true, mplsMsg, h1, h2]
    · rw [loop_step_cut (next := ⟨.mpls, ks, false⟩) (encap := false) (idx := idx) hcfg rfl (by omega) hn hd _
        (parseMPLS_cut _ labels _ _ (n - off) hwf (by omega) (by omega) (by rfl))]
      rw [loop_stop (by rfl)]
      have h1 : 4 * ((n - off) / 4) % 2 ^ 32 = 4 * ((n - off) / 4) := Nat.mod_eq_of_lt (by omega)
      simp only [epResAt, hg, hg2, if_true, if_false, mplsMsgAt, h1]

theorem vlansResAt_cons (n off : Nat) (ep : EtherPayload) (v : Nat) (vs : List Nat) (m : FlowMsg) :
    vlansResAt n off ep (v :: vs) m =
      if off + 4 ≤ n then vlansResAt n (off + 4) ep vs (tagMsg v (l2Etype ep vs) m) else m := by
  rw [vlansResAt]

theorem loop_vlans_cut {cfg : Config} (hcfg : cfg.layers = []) (ep : EtherPayload) (hep : EpWF cfg.ports ep)
    (vs : List Nat) (v : Nat) (hv : v < 65536) (hvs : ∀ x ∈ vs, x < 65536)
    {full : Bytes} {n off : Nat} (hn : n ≤ full.length)
    (hd : full.drop off = encBE 2 v ++ (vlanBytes (etherType ep) vs ++ etherPayloadBytes ep))
    {fuel : Nat} (hf : vs.length + (stackEther ep).length + 4 ≤ fuel) (ks : List String)
    {calls : List (Nat × Nat)} (hfresh : IcmpFresh calls) (idx : Nat) (hidx : idx ≤ 25) (m : FlowMsg) :
    parseLoop cfg (full.take n) fuel ⟨.dot1q, ks, false⟩ off false idx calls m =
      .ok (vlansResAt n off ep (v :: vs) m) := by
  have het := hi_lo (etherType_lt ep hep)
  induction vs generalizing v off fuel ks calls m with
  | nil =>
    obtain ⟨fuel, rfl⟩ : ∃ f, fuel = f + 2 := ⟨fuel - 2, by omega⟩
    simp only [vlanBytes, Spec.Frame.u16, encBE_two (etherType ep), List.cons_append, List.nil_append] at hd
    have hd' := drop_next (s := 4) (rest := etherPayloadBytes ep) hd (by simp [drop_skip])
    by_cases hg : off + 4 ≤ n
    case neg =>
      rw [loop_short (by rw [take_len hn]; simp only [Parser.guard]; omega)]
      simp only [vlansResAt, hg, if_false]
    rw [loop_step_cut (next := ⟨.dot1q, ks, false⟩) (encap := false) (idx := idx) hcfg rfl (by omega) hn hd _
      ((parse8021Q_take _ _ _ (by omega)).trans (parse8021Q_spec _ (encBE 2 v) _ _ _ _ (by simp) (by rfl)))]
    obtain ⟨ks', hnx⟩ := ep_next ep hep
    simp only [Bool.false_or, het.1, het.2, hnx]
    rw [show encapIdx idx (Next.encapSkip ⟨.dot1q, ks, false⟩) (Next.layerIndex ⟨.dot1q, ks, false⟩) = idx from rfl,
      ep_noencap ep hep ks' idx hidx]
    refine Eq.trans (loop_ep_cut hcfg ep hep hn hd' (by simp at hf ⊢; omega) ks' (hfresh.bump 2 (by decide) (by decide)) idx hidx _) ?_
    have hval : etherType ep / 256 * 256 + etherType ep % 256 = etherType ep := by omega
    simp [vlansResAt, hg, tagMsg, l2Etype, beNat_encBE_of_lt (show v < 256 ^ 2 from hv), hval]
  | cons w ws ih =>
    obtain ⟨fuel, rfl⟩ : ∃ f, fuel = f + 2 := ⟨fuel - 2, by omega⟩
    simp only [vlanBytes, Spec.Frame.u16, List.append_assoc] at hd
    rw [encBE_two 33024] at hd
    simp only [List.cons_append, List.nil_append] at hd
    have hd' := drop_next (s := 4) (rest := encBE 2 w ++ (vlanBytes (etherType ep) ws ++ etherPayloadBytes ep)) hd
      (by simp [drop_skip])
    by_cases hg : off + 4 ≤ n
    case neg =>
      rw [loop_short (by rw [take_len hn]; simp only [Parser.guard]; omega)]
      simp only [vlansResAt, hg, if_false]
    rw [loop_step_cut (next := ⟨.dot1q, ks, false⟩) (encap := false) (idx := idx) hcfg rfl (by omega) hn hd _
      ((parse8021Q_take _ _ _ (by omega)).trans (parse8021Q_spec _ (encBE 2 v) _ _ _ _ (by simp) (by rfl)))]
    obtain ⟨ks', hnx⟩ := dot1q_next
    simp only [Bool.false_or, hnx]
    rw [show encapIdx idx (Next.encapSkip ⟨.dot1q, ks, false⟩) (Next.layerIndex ⟨.dot1q, ks, false⟩) = idx from rfl,
      dot1q_noencap ks' idx hidx]
    refine Eq.trans (ih w (hvs w (by simp)) (fun x hx => hvs x (by simp [hx])) hd' (by simp at hf ⊢; omega) ks'
      (hfresh.bump 2 (by decide) (by decide)) _) ?_
    rw [vlansResAt_cons n off ep v (w :: ws) m, if_pos hg]
    simp [tagMsg, l2Etype, beNat_encBE_of_lt (show v < 256 ^ 2 from hv)]

/-- the chain as `parsePacket` starts it: offset 0, reference index 20 = Ethernet's, no calls yet -/
theorem loop_eth_cut {cfg : Config} (hcfg : cfg.layers = []) (ep : EtherPayload) (hep : EpWF cfg.ports ep)
    (vs : List Nat) (hvs : ∀ x ∈ vs, x < 65536) (d s : Nat) (hd : d < 2 ^ 48) (hs : s < 2 ^ 48) {n : Nat}
    (hn : n ≤ (encBE 6 d ++ (encBE 6 s ++ (vlanBytes (etherType ep) vs ++ etherPayloadBytes ep))).length)
    {fuel : Nat} (hf : vs.length + (stackEther ep).length + 5 ≤ fuel) (ks : List String) :
    parseLoop cfg ((encBE 6 d ++ (encBE 6 s ++ (vlanBytes (etherType ep) vs ++ etherPayloadBytes ep))).take n) fuel
        ⟨.ethernet, ks, false⟩ 0 false 20 [] FlowMsg.empty =
      .ok (expectedAt ⟨d, s, vs, ep⟩ n) := by
  have het := hi_lo (etherType_lt ep hep)
  obtain ⟨fuel, rfl⟩ : ∃ f, fuel = f + 2 := ⟨fuel - 2, by omega⟩
  have hdv : beNat (encBE 6 d) = d := beNat_encBE_of_lt (show d < 256 ^ 6 from hd)
  have hsv : beNat (encBE 6 s) = s := beNat_encBE_of_lt (show s < 256 ^ 6 from hs)
  generalize hdata : encBE 6 d ++ (encBE 6 s ++ (vlanBytes (etherType ep) vs ++ etherPayloadBytes ep)) = data at hn ⊢
  by_cases hg : 14 ≤ n
  case neg =>
    rw [loop_short (by rw [take_len hn]; simp only [Parser.guard]; omega)]
    simp only [expectedAt, hg, if_false]
  cases vs with
  | nil =>
    have hd0 : data.drop 0 = encBE 6 d ++ (encBE 6 s ++ (UInt8.ofNat (etherType ep / 256 % 256) ::
        UInt8.ofNat (etherType ep % 256) :: etherPayloadBytes ep)) := by
      rw [← hdata]; simp [vlanBytes, Spec.Frame.u16, encBE_two (etherType ep)]
    have hd' := drop_next (s := 14) (rest := etherPayloadBytes ep) hd0 (by simp [drop_skip])
    rw [loop_step_cut (next := ⟨.ethernet, ks, false⟩) (encap := false) (idx := 20) hcfg rfl (by omega) hn hd0 _
      ((parseEthernet_take _ _ _ (by omega)).trans
        (parseEthernet_spec _ (encBE 6 d) (encBE 6 s) _ _ _ _ (by simp) (by simp) (by rfl)))]
    obtain ⟨ks', hnx⟩ := ep_next ep hep
    simp only [Bool.false_or, het.1, het.2, hnx]
    rw [show encapIdx 20 (Next.encapSkip ⟨.ethernet, ks, false⟩) (Next.layerIndex ⟨.ethernet, ks, false⟩) = 20 from rfl,
      ep_noencap ep hep ks' 20 (by omega)]
    refine Eq.trans (loop_ep_cut hcfg ep hep hn hd' (by simp at hf ⊢; omega) ks' (IcmpFresh.nil.bump 1 (by decide) (by decide))
      20 (by omega) _) ?_
    have hval : etherType ep / 256 * 256 + etherType ep % 256 = etherType ep := by omega
    simp [expectedAt, hg, vlansResAt, l2Etype, ethMsg, hdv, hsv, hval]
  | cons v vs =>
    have hd0 : data.drop 0 = encBE 6 d ++ (encBE 6 s ++ (UInt8.ofNat (33024 / 256 % 256) ::
        UInt8.ofNat (33024 % 256) :: (encBE 2 v ++ (vlanBytes (etherType ep) vs ++ etherPayloadBytes ep)))) := by
      rw [← hdata]; simp [vlanBytes, Spec.Frame.u16, encBE_two 33024]
    have hd' := drop_next (s := 14) (rest := encBE 2 v ++ (vlanBytes (etherType ep) vs ++ etherPayloadBytes ep)) hd0
      (by simp [drop_skip])
    rw [loop_step_cut (next := ⟨.ethernet, ks, false⟩) (encap := false) (idx := 20) hcfg rfl (by omega) hn hd0 _
      ((parseEthernet_take _ _ _ (by omega)).trans
        (parseEthernet_spec _ (encBE 6 d) (encBE 6 s) _ _ _ _ (by simp) (by simp) (by rfl)))]
    obtain ⟨ks', hnx⟩ := dot1q_next
    simp only [Bool.false_or, hnx]
    rw [show encapIdx 20 (Next.encapSkip ⟨.ethernet, ks, false⟩) (Next.layerIndex ⟨.ethernet, ks, false⟩) = 20 from rfl,
      dot1q_noencap ks' 20 (by omega)]
    refine Eq.trans (loop_vlans_cut hcfg ep hep vs v (hvs v (by simp)) (fun x hx => hvs x (by simp [hx])) hn hd'
      (by simp at hf ⊢; omega) ks' (IcmpFresh.nil.bump 1 (by decide) (by decide)) 20 (by omega) _) ?_
    simp [expectedAt, hg, l2Etype, ethMsg, hdv, hsv]

end Goflow.C10
