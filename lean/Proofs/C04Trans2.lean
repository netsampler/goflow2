import Proofs.C04Trans2Map
/-!
  C04 (translation tie, second part) — the sFlow v5 decoders above `DecodeIP`. `DecodeCounterRecord`, `DecodeFlowRecord`,
  `DecodeSample`, `DecodeMessage` and `DecodeMessageVersion` of decoders/sflow/sflow.go are regenerated into Lean on every run
  (Goflow/Generated/SflowT.lean) and proved equal to the hand-written model (Goflow/Decoders/Sflow.lean) for every header and
  every byte string, through the explicit mapping of Proofs/C04Trans2Map.lean.

  Each format is treated the same way: a lemma puts the model's branch into `thenR` form (`decodeFlowRecord_raw`, …), the
  generated branch is selected by evaluating its format tests on the literal format, and the two chains of reads are walked
  in step with the reader lemmas of Proofs/Lemmas/GoPrims.lean and Proofs/C04Trans.lean. The record and sample loops are
  inductions on the fuel, one pass of the generated body against one pass of the model's `recordLoop`.
-/
set_option linter.unusedSimpArgs false
set_option linter.unusedVariables false
namespace Goflow.C04Trans2
open Goflow Goflow.Producer Goflow.Generated Goflow.Go Goflow.Sflow Goflow.C04Trans

theorem readU_if (n : Nat) (b : Bytes) :
    readU n b = if n ≤ b.length then .ok (beNat (b.take n), b.drop n) else .error .eof := by
  by_cases h : n ≤ b.length <;> simp only [readU, takeN, h, if_true, if_false]

theorem counter_ifc (len : UInt32) (b : Bytes) :
    (TS.DecodeCounterRecord ⟨1, len⟩ b).map (fun r => counterRecOf r.2.2) = decodeCounterRecord 1 len.toNat b := by
  rw [decodeCounterRecord_one]
  show (Go.readU32 b >>= _).map _ = _
  iterate 2 (apply readU32_simF; intro _ _)
  apply readU64_simF; intro _ _
  iterate 2 (apply readU32_simF; intro _ _)
  apply readU64_simF; intro _ _
  iterate 6 (apply readU32_simF; intro _ _)
  apply readU64_simF; intro _ _
  iterate 6 (apply readU32_simF; intro _ _)
  rfl

theorem counter_eth (len : UInt32) (b : Bytes) :
    (TS.DecodeCounterRecord ⟨2, len⟩ b).map (fun r => counterRecOf r.2.2) = decodeCounterRecord 2 len.toNat b := by
  rw [decodeCounterRecord_two]
  show (Go.readU32 b >>= _).map _ = _
  iterate 13 (apply readU32_simF; intro _ _)
  rfl

/-- sflow.DecodeCounterRecord for every record header and every byte string -/
theorem decodeCounterRecord_trans_eq (h : TS.RecordHeader) (b : Bytes) :
    (TS.DecodeCounterRecord h b).map (fun r => counterRecOf r.2.2) = decodeCounterRecord h.DataFormat.toNat h.Length.toNat b := by
  obtain ⟨fmt, len⟩ := h
  by_cases h1 : fmt = 1
  · subst h1; exact counter_ifc len b
  by_cases h2 : fmt = 2
  · subst h2; exact counter_eth len b
  have n1 : fmt.toNat ≠ 1 := fun e => h1 (UInt32.toNat_inj.1 e)
  have n2 : fmt.toNat ≠ 2 := fun e => h2 (UInt32.toNat_inj.1 e)
  unfold decodeCounterRecord
  rw [if_neg n1, if_neg n2]
  apply skip_sim _ (decide_eq_false h1)
  apply skip_sim _ (decide_eq_false h2)
  rfl

theorem makeBytesI_4 : Go.makeBytesI (4 : Int) = .ok (List.replicate 4 0) := makeBytesI_ofNat 4
theorem makeBytesI_6 : Go.makeBytesI (6 : Int) = .ok (List.replicate 6 0) := makeBytesI_ofNat 6
theorem makeBytesI_16 : Go.makeBytesI (16 : Int) = .ok (List.replicate 16 0) := makeBytesI_ofNat 16

theorem flow_raw (len : UInt32) (b : Bytes) :
    (TS.DecodeFlowRecord ⟨1, len⟩ b).map (fun r => flowRecOf r.2.2) = decodeFlowRecord 1 len.toNat b := by
  rw [decodeFlowRecord_raw]
  show (Go.readU32 b >>= _).map _ = _
  iterate 4 (apply readU32_simF; intro _ _)
  rfl

theorem flow_switch (len : UInt32) (b : Bytes) :
    (TS.DecodeFlowRecord ⟨1001, len⟩ b).map (fun r => flowRecOf r.2.2) = decodeFlowRecord 1001 len.toNat b := by
  rw [decodeFlowRecord_fixed (fmt := 1001) rfl]
  simp only [thenR_readItems_u, thenR_readItems_nil]
  show (Go.readU32 b >>= _).map _ = _
  iterate 4 (apply readU32_sim; intro _ _)
  rfl

theorem flow_queue (len : UInt32) (b : Bytes) :
    (TS.DecodeFlowRecord ⟨1036, len⟩ b).map (fun r => flowRecOf r.2.2) = decodeFlowRecord 1036 len.toNat b := by
  rw [decodeFlowRecord_fixed (fmt := 1036) rfl]
  simp only [thenR_readItems_u, thenR_readItems_nil]
  show (Go.readU32 b >>= _).map _ = _
  apply readU32_sim; intro _ _
  rfl

theorem flow_eth (len : UInt32) (b : Bytes) :
    (TS.DecodeFlowRecord ⟨2, len⟩ b).map (fun r => flowRecOf r.2.2) = decodeFlowRecord 2 len.toNat b := by
  rw [decodeFlowRecord_fixed (fmt := 2) rfl]
  show (Go.readU32 b >>= _).map _ = _
  simp only [thenR_readItems_u, thenR_readItems_b, thenR_readItems_nil]
  apply readU32_sim; intro _ _
  iterate 2 (apply readBytes_sim _ _ _ (by decide); intro _ _)
  apply readU32_sim; intro _ _
  rfl

theorem flow_ipv4 (len : UInt32) (b : Bytes) :
    (TS.DecodeFlowRecord ⟨3, len⟩ b).map (fun r => flowRecOf r.2.2) = decodeFlowRecord 3 len.toNat b := by
  rw [decodeFlowRecord_fixed (fmt := 3) rfl]
  show (Go.readU32 b >>= _).map _ = _
  simp only [thenR_readItems_u, thenR_readItems_b, thenR_readItems_nil]
  iterate 2 (apply readU32_sim; intro _ _)
  iterate 2 (apply readBytes_sim _ _ _ (by decide); intro _ _)
  iterate 4 (apply readU32_sim; intro _ _)
  rfl

theorem flow_ipv6 (len : UInt32) (b : Bytes) :
    (TS.DecodeFlowRecord ⟨4, len⟩ b).map (fun r => flowRecOf r.2.2) = decodeFlowRecord 4 len.toNat b := by
  rw [decodeFlowRecord_fixed (fmt := 4) rfl]
  show (Go.readU32 b >>= _).map _ = _
  simp only [thenR_readItems_u, thenR_readItems_b, thenR_readItems_nil]
  iterate 2 (apply readU32_sim; intro _ _)
  iterate 2 (apply readBytes_sim _ _ _ (by decide); intro _ _)
  iterate 4 (apply readU32_sim; intro _ _)
  rfl

theorem flow_router (len : UInt32) (b : Bytes) :
    (TS.DecodeFlowRecord ⟨1002, len⟩ b).map (fun r => flowRecOf r.2.2) = decodeFlowRecord 1002 len.toNat b := by
  rw [decodeFlowRecord_router]
  show (TS.DecodeIP b >>= _).map _ = _
  apply decodeIP_sim; intro _ _ _
  iterate 2 (apply readU32_simF; intro _ _)
  rfl

/-- `Go.readXdrString` is the model's `readString`, padding included -/
theorem xdr_eq (b : Bytes) : Go.readXdrString b = readString b := by
  unfold Go.readXdrString readString
  by_cases h4 : 4 ≤ b.length
  · have h4' : ¬ (min 4 b.length < 4) := by omega
    rw [readU_ok h4]
    simp only [Go.next, List.length_take, h4', if_false]
    by_cases hn : beNat (b.take 4) ≤ (b.drop 4).length
    · have hn' : ¬ (min (beNat (b.take 4)) (b.drop 4).length < beNat (b.take 4)) := by omega
      simp only [hn', if_false, takeN, hn, if_true]
      by_cases hp : (4 - beNat (b.take 4) % 4) % 4 > 0
      · simp only [hp, if_true]
      · have : (4 - beNat (b.take 4) % 4) % 4 = 0 := by omega
        simp [this]
    · have hn' : (min (beNat (b.take 4)) (b.drop 4).length < beNat (b.take 4)) := by omega
      simp only [hn', if_true, takeN, hn, if_false]
  · have h4' : (min 4 b.length < 4) := by omega
    rw [readU_short (by omega)]
    simp only [Go.next, List.length_take, h4', if_true]

theorem readXdrString_sim {β γ : Type} (φ : β → γ) (b : Bytes) (f : Bytes × Bytes → Res β) (k : Bytes → Bytes → Res γ)
    (h : ∀ s b', (f (s, b')).map φ = k s b') :
    (Go.readXdrString b >>= f).map φ = thenR (readString b) k := by
  rw [xdr_eq]
  cases readString b with
  | error e => rfl
  | ok r => exact h r.1 r.2

theorem flow_acl (len : UInt32) (b : Bytes) :
    (TS.DecodeFlowRecord ⟨1037, len⟩ b).map (fun r => flowRecOf r.2.2) = decodeFlowRecord 1037 len.toNat b := by
  rw [decodeFlowRecord_acl]
  show (Go.readU32 b >>= _).map _ = _
  apply readU32_sim; intro _ _
  apply readXdrString_sim; intro _ _
  apply readU32_sim; intro _ _
  rfl

theorem flow_function (len : UInt32) (b : Bytes) :
    (TS.DecodeFlowRecord ⟨1038, len⟩ b).map (fun r => flowRecOf r.2.2) = decodeFlowRecord 1038 len.toNat b := by
  rw [decodeFlowRecord_function]
  show (Go.readXdrString b >>= _).map _ = _
  apply readXdrString_sim; intro _ _
  rfl

def wordsR : Nat → Bytes → List UInt32
  | 0, _ => []
  | n + 1, b => UInt32.ofNat (beNat (b.take 4)) :: wordsR n (b.drop 4)

theorem readWords_ok : ∀ (n : Nat) (b : Bytes), 4 * n ≤ b.length →
    readWords 4 n b = .ok ((wordsR n b).map UInt32.toNat, b.drop (4 * n))
  | 0, b, _ => by simp [readWords, wordsR]
  | n + 1, b, h => by
    have h4 : 4 ≤ b.length := by omega
    have h' : 4 * n ≤ (b.drop 4).length := by simp; omega
    simp only [readWords, readU_ok h4, readWords_ok n (b.drop 4) h', wordsR, List.map_cons, u32_beNat, List.drop_drop]
    congr 3; omega

theorem readWords_short : ∀ (n : Nat) (b : Bytes), b.length < 4 * n → readWords 4 n b = .error .eof
  | 0, b, h => by omega
  | n + 1, b, h => by
    by_cases h4 : 4 ≤ b.length
    · have h' : (b.drop 4).length < 4 * n := by simp; omega
      simp only [readWords, readU_ok h4, readWords_short n (b.drop 4) h']
    · simp only [readWords, readU_short (Nat.lt_of_not_le h4)]

theorem range_words : ∀ (n : Nat) (b : Bytes), 4 * n ≤ b.length →
    (List.range n).map (fun i => UInt32.ofNat (beNat (((b.take (4 * n)).drop (4 * i)).take 4))) = wordsR n b
  | 0, b, _ => by simp [wordsR]
  | n + 1, b, h => by
    have h' : 4 * n ≤ (b.drop 4).length := by simp; omega
    rw [List.range_succ_eq_map, List.map_cons, List.map_map, wordsR, ← range_words n (b.drop 4) h']
    congr 1
    · simp [List.take_take]
      have : min 4 (4 * (n + 1)) = 4 := by omega
      rw [this]
    · apply List.map_congr_left
      intro i _
      simp only [Function.comp]
      congr 2
      have e1 : 4 * (i + 1) = 4 + 4 * i := by omega
      have e2 : 4 * (n + 1) = 4 + 4 * n := by omega
      rw [e1, e2, ← List.drop_drop, List.drop_take]
      simp

theorem makeU32s_eq (n : Nat) : Go.makeU32s n = .ok (List.replicate n 0) := rfl

section
variable {β γ : Type} (φ : β → γ)

/-- a `[]uint32` destination of length `n > 0` -/
theorem readU32s_sim (b : Bytes) (n : Nat) (hn : 0 < n) (f : List UInt32 × Bytes → Res β) (k : List Nat → Bytes → Res γ)
    (h : ∀ xs b', (f (xs, b')).map φ = k (xs.map UInt32.toNat) b') :
    (Go.readU32s b n >>= f).map φ = thenR (readWords 4 n b) k := by
  have h0 : ¬ n = 0 := by omega
  by_cases hb : 4 * n ≤ b.length
  · have h1 : ¬ (min (4 * n) b.length < 4 * n) := by omega
    rw [readWords_ok n b hb]
    simp only [Go.readU32s, Go.next, h0, if_false, List.length_take, h1, range_words n b hb, ok_bind, h, thenR]
  · have h1 : (min (4 * n) b.length < 4 * n) := by omega
    rw [readWords_short n b (Nat.lt_of_not_le hb)]
    simp only [Go.readU32s, Go.next, h0, if_false, List.length_take, h1, if_true, err_bind]
    rfl

/-- the AS path and the communities of the gateway record: a count, capped at 1000 and checked against what is left,
    then that many words (none when the count is 0: Go does not call BinaryRead on an empty slice) -/
theorem capped_sim (x : UInt32) (b : Bytes) (st : β) (K : List UInt32 × Bytes → Res β) (k : List Nat → Bytes → Res γ)
    (h : ∀ xs b', (K (xs, b')).map φ = k (xs.map UInt32.toNat) b') :
    (if decide (x > (1000 : UInt32)) then Go.retSt (some Err.bad : Go.Error) st
      else if decide ((x.toNat : Int) > ((b.length : Int) - (4 : Int))) then Go.retSt (some Err.bad : Go.Error) st
      else Go.makeU32s x.toNat >>= fun t =>
        if decide ((t.length : Int) > (0 : Int)) then Go.readU32s b t.length >>= K else K (t, b)).map φ =
      thenR (readCapped x.toNat b) k := by
  unfold readCapped
  by_cases c1 : x.toNat > 1000
  · have c1' : x > 1000 := UInt32.lt_iff_toNat_lt.2 c1
    simp only [c1, c1', decide_true, if_true]; rfl
  · have c1' : ¬ x > 1000 := fun hx => c1 (UInt32.lt_iff_toNat_lt.1 hx)
    by_cases c2 : x.toNat + 4 > b.length
    · have c2' : (x.toNat : Int) > (b.length : Int) - 4 := by omega
      simp only [c1, c1', c2, c2', decide_true, decide_false, if_true, if_false, Bool.false_eq_true]; rfl
    · have c2' : ¬ (x.toNat : Int) > (b.length : Int) - 4 := by omega
      simp only [c1, c1', c2, c2', decide_false, if_false, Bool.false_eq_true, makeU32s_eq, ok_bind, List.length_replicate]
      by_cases c0 : x.toNat = 0
      · have z : ¬ (((0 : Nat) : Int) > 0) := by omega
        simp only [c0, z, decide_false, if_false, Bool.false_eq_true, readWords, thenR, h]; rfl
      · have z : ((x.toNat : Nat) : Int) > 0 := by omega
        simp only [z, decide_true, if_true]
        exact readU32s_sim φ b _ (Nat.pos_of_ne_zero c0) K k h

end

theorem u32_eq_iff (a b : UInt32) : a = b ↔ a.toNat = b.toNat := UInt32.toNat_inj.symm

theorem flow_gateway (len : UInt32) (b : Bytes) :
    (TS.DecodeFlowRecord ⟨1003, len⟩ b).map (fun r => flowRecOf r.2.2) = decodeFlowRecord 1003 len.toNat b := by
  rw [decodeFlowRecord_gateway]
  show (TS.DecodeIP b >>= _).map _ = _
  apply decodeIP_sim; intro _ _ _
  iterate 4 (apply readU32_simF; intro _ _)
  apply ite_sim _ (not_congr (u32_eq_iff _ _))
  case' hA =>
    iterate 2 (apply readU32_simF; intro _ _)
    apply capped_sim; intro _ _
  all_goals
    apply readU32_sim; intro _ _
    apply capped_sim; intro _ _
    apply readU32_sim; intro _ _
    rfl

theorem toNat_ne {x c : UInt32} (h : x ≠ c) : x.toNat ≠ c.toNat := fun e => h (UInt32.toNat_inj.1 e)

/-- sflow.DecodeFlowRecord for every record header and every byte string -/
theorem decodeFlowRecord_trans_eq (h : TS.RecordHeader) (b : Bytes) :
    (TS.DecodeFlowRecord h b).map (fun r => flowRecOf r.2.2) = decodeFlowRecord h.DataFormat.toNat h.Length.toNat b := by
  obtain ⟨fmt, len⟩ := h
  by_cases h1 : fmt = 1
  · subst h1; exact flow_raw len b
  by_cases h2 : fmt = 2
  · subst h2; exact flow_eth len b
  by_cases h3 : fmt = 3
  · subst h3; exact flow_ipv4 len b
  by_cases h4 : fmt = 4
  · subst h4; exact flow_ipv6 len b
  by_cases h1001 : fmt = 1001
  · subst h1001; exact flow_switch len b
  by_cases h1002 : fmt = 1002
  · subst h1002; exact flow_router len b
  by_cases h1003 : fmt = 1003
  · subst h1003; exact flow_gateway len b
  by_cases h1036 : fmt = 1036
  · subst h1036; exact flow_queue len b
  by_cases h1037 : fmt = 1037
  · subst h1037; exact flow_acl len b
  by_cases h1038 : fmt = 1038
  · subst h1038; exact flow_function len b
  have hl : layoutOf fmt.toNat = none := by
    unfold layoutOf
    rw [if_neg (show fmt.toNat ≠ 2 from toNat_ne h2), if_neg (show fmt.toNat ≠ 3 from toNat_ne h3), if_neg (show fmt.toNat ≠ 4 from toNat_ne h4),
      if_neg (show fmt.toNat ≠ 1001 from toNat_ne h1001), if_neg (show fmt.toNat ≠ 1036 from toNat_ne h1036)]
  rw [decodeFlowRecord_unknown (toNat_ne h1) (toNat_ne h1002) (toNat_ne h1003) (toNat_ne h1037) (toNat_ne h1038) hl]
  apply skip_sim _ (decide_eq_false h1)
  apply skip_sim _ (decide_eq_false h2)
  apply skip_sim _ (decide_eq_false h3)
  apply skip_sim _ (decide_eq_false h4)
  apply skip_sim _ (decide_eq_false h1001)
  apply skip_sim _ (decide_eq_false h1002)
  apply skip_sim _ (decide_eq_false h1003)
  apply skip_sim _ (decide_eq_false h1036)
  apply skip_sim _ (decide_eq_false h1037)
  apply skip_sim _ (decide_eq_false h1038)
  rfl

/-! Indexed assignment into a `make`d slice against the model's `padTo`. -/

/-- the records `rs` stored one after the other from slot `i` on -/
def fill {α : Type} : List α → Nat → List α → List α
  | l, _, [] => l
  | l, i, r :: rs => fill (l.set i r) (i + 1) rs

theorem fill_eq {α : Type} (rs : List α) : ∀ (l : List α) (i : Nat), i + rs.length ≤ l.length →
    fill l i rs = l.take i ++ rs ++ l.drop (i + rs.length) := by
  induction rs with
  | nil => intro l i _; simp [fill]
  | cons r rs ih =>
    intro l i h
    simp only [List.length_cons] at h
    rw [fill, ih _ _ (by simp; omega)]
    have e1 : i + 1 + rs.length = i + (rs.length + 1) := by omega
    rw [take_set_succ _ _ _ (by omega), List.drop_set_of_lt (by omega), e1]
    simp

theorem fill_replicate {α : Type} (n : Nat) (z : α) (rs : List α) (h : rs.length ≤ n) :
    fill (List.replicate n z) 0 rs = padTo n z rs := by
  rw [fill_eq _ _ _ (by simpa using h)]
  simp [padTo]

theorem and_16777215 (x : UInt32) : (x &&& (16777215 : UInt32)).toNat = x.toNat % 2 ^ 24 := by
  rw [UInt32.toNat_and]
  exact Nat.and_two_pow_sub_one_eq_mod x.toNat 24

/-- what DecodeSample makes of the outcome of its record loop -/
def fin (hdr : TS.SampleHeader)
    (r : Res (Go.Ctl (Bytes × TS.SM.Iface × TS.FlowSample × TS.CounterSample × TS.ExpandedFlowSample × TS.DropSample × Nat)
      (TS.SampleHeader × Bytes × TS.SM.Iface))) : Res Sample :=
  (r >>= fun t_13 => Go.Ctl.elim t_13 (fun x => .ok x) fun t_14 => .ok (hdr, t_14.1, t_14.2.1)).map (fun r => sampleOf r.2.2)

/-- `fill` on the record list of a model sample that holds flow records: `sample.Records[i] = r`, `i++` for each of `rs` -/
def store : Sample → Nat → List Sflow.FlowRecord → Sample
  | .flow h vs l, i, rs => .flow h vs (fill l i rs)
  | .expFlow h vs l, i, rs => .expFlow h vs (fill l i rs)
  | .drop h vs l, i, rs => .drop h vs (fill l i rs)
  | s, _, _ => s

theorem store_nil (s : Sample) (i : Nat) : store s i [] = s := by
  cases s <;> rfl

/-- the struct that the loop fills with flow records, by format: it is what `sample` holds, and its slice has the announced
    length -/
def Active (fmt rc : UInt32) (smp : TS.SM.Iface) (fs : TS.FlowSample) (es : TS.ExpandedFlowSample) (ds : TS.DropSample) : Prop :=
  (fmt = 1 ∧ smp = .FlowSample fs ∧ fs.Records.length = rc.toNat) ∨
  (fmt = 3 ∧ smp = .ExpandedFlowSample es ∧ es.Records.length = rc.toNat) ∨
  (fmt = 5 ∧ smp = .DropSample ds ∧ ds.Records.length = rc.toNat)

/-- the record loop of DecodeSample for the formats that hold flow records -/
theorem loop_flow (hdr : TS.SampleHeader) (fmt seq rc : UInt32) :
    ∀ (fuel : Nat) (b : Bytes) (smp : TS.SM.Iface) (fs : TS.FlowSample) (cs : TS.CounterSample) (es : TS.ExpandedFlowSample)
      (ds : TS.DropSample) (i : Nat),
    Active fmt rc smp fs es ds → b.length < fuel →
    fin hdr (TS.SM.DecodeSample_loop1 hdr fmt seq rc fuel b smp fs cs es ds i) =
      (recordLoop decodeFlowRecord (rc.toNat - i) b).map (store (sampleOf smp) i) := by
  intro fuel
  induction fuel with
  | zero => intro b _ _ _ _ _ _ _ h; omega
  | succ fuel ih =>
    intro b smp fs cs es ds i hA hf
    rw [TS.SM.DecodeSample_loop1, TS.SM.DecodeSample_loop1_body, recordLoop_sub_map]
    apply cond_simP (fun r => fin hdr (r >>= _)) (by simp only [Bool.and_eq_true, decide_eq_true_eq, ge_iff_le])
    · intro hc
      apply readU32_simP (fun r => fin hdr (r >>= _)) (fun _ => rfl); intro f b0 h0
      apply readU32_simP (fun r => fin hdr (r >>= _)) (fun _ => rfl); intro l b1 h1
      have hb : (b1.drop l.toNat).length < fuel := by dsimp only at h1; simp only [List.length_drop]; omega
      apply cond_simP (fun r => fin hdr (r >>= _)) decide_eq_true_iff
      · intro _; exact congrArg Except.ok (store_nil _ _).symm
      · intro _
        rcases hA with ⟨rfl, rfl, hlen⟩ | ⟨rfl, rfl, hlen⟩ | ⟨rfl, rfl, hlen⟩
        all_goals
          apply bind_simP (fun r => fin hdr (r >>= _)) (fun _ => rfl) (decodeFlowRecord_trans_eq _ _); intro t
          simp only [ok_bind, Go.setIdxL, hlen, hc.1, if_true]
          refine (ih _ _ _ _ _ _ (i + 1) (by simp [Active, hlen]) hb).trans ?_
          simp only [sampleOf, store, fill, List.map_set]
          rfl
    · intro _; exact congrArg Except.ok (store_nil _ _).symm

/-- the record loop of DecodeSample for the counter formats (2 and 4): `loop_flow` with counter records -/
theorem loop_counter (hdr : TS.SampleHeader) (fmt seq rc : UInt32) (h24 : fmt = 2 ∨ fmt = 4) :
    ∀ (fuel : Nat) (b : Bytes) (fs : TS.FlowSample) (cs : TS.CounterSample) (es : TS.ExpandedFlowSample) (ds : TS.DropSample)
      (i : Nat),
    cs.Records.length = rc.toNat → b.length < fuel →
    fin hdr (TS.SM.DecodeSample_loop1 hdr fmt seq rc fuel b (.CounterSample cs) fs cs es ds i) =
      (recordLoop decodeCounterRecord (rc.toNat - i) b).map fun rs =>
        .counter (hdrOf cs.Header) cs.CounterRecordsCount.toNat (fill (cs.Records.map counterRecOf) i rs) := by
  intro fuel
  induction fuel with
  | zero => intro b _ _ _ _ _ _ h; omega
  | succ fuel ih =>
    intro b fs cs es ds i hlen hf
    rw [TS.SM.DecodeSample_loop1, TS.SM.DecodeSample_loop1_body, recordLoop_sub_map]
    apply cond_simP (fun r => fin hdr (r >>= _)) (by simp only [Bool.and_eq_true, decide_eq_true_eq, ge_iff_le])
    · intro hc
      apply readU32_simP (fun r => fin hdr (r >>= _)) (fun _ => rfl); intro f b0 h0
      apply readU32_simP (fun r => fin hdr (r >>= _)) (fun _ => rfl); intro l b1 h1
      have hb : (b1.drop l.toNat).length < fuel := by dsimp only at h1; simp only [List.length_drop]; omega
      apply cond_simP (fun r => fin hdr (r >>= _)) decide_eq_true_iff
      · intro _; rfl
      · intro _
        rcases h24 with rfl | rfl
        all_goals
          apply bind_simP (fun r => fin hdr (r >>= _)) (fun _ => rfl) (decodeCounterRecord_trans_eq _ _); intro t
          simp only [ok_bind, Go.setIdxL, hlen, hc.1, if_true]
          refine (ih _ _ _ _ _ (i + 1) (by simp [hlen]) hb).trans ?_
          simp only [fill, List.map_set]
    · intro _; rfl

theorem zeroF : flowRecOf {} = zeroFlowRecord := rfl
theorem zeroC : counterRecOf {} = zeroCounterRecord := rfl

theorem sample_f1 (len s0 t0 v0 : UInt32) (b : Bytes) :
    (TS.SM.DecodeSample ⟨1, len, s0, t0, v0⟩ b).map (fun r => sampleOf r.2.2) = decodeSample 1 len.toNat b := by
  rw [decodeSample_flow]
  show (Go.readU32 b >>= _).map _ = _
  iterate 2 (apply readU32_sim; intro _ _)
  iterate 6 (apply readU32_simF; intro _ _)
  rename_i cnt b'
  apply ite_sim _ (UInt32.lt_iff_toNat_lt (a := 1000) (b := cnt))
  · rfl
  simp only [Go.makeL, ok_bind]
  refine (loop_flow _ _ _ _ _ _ _ _ _ _ _ _ (.inl ⟨rfl, rfl, by simp⟩) (by simp [Go.loopFuel])).trans ?_
  simp only [Nat.sub_zero, sampleOf, List.map_replicate, zeroF, hdrOf, shr32_toNat, and_16777215, List.getD_cons_succ,
    List.getD_cons_zero]
  cases hr : recordLoop decodeFlowRecord cnt.toNat b' with
  | error e => rfl
  | ok rs =>
    simp only [Except.map, store, fill_replicate _ _ _ (recordLoop_length _ _ _ _ hr)]
    rfl

theorem sample_f2 (len s0 t0 v0 : UInt32) (b : Bytes) :
    (TS.SM.DecodeSample ⟨2, len, s0, t0, v0⟩ b).map (fun r => sampleOf r.2.2) = decodeSample 2 len.toNat b := by
  rw [decodeSample_counter]
  show (Go.readU32 b >>= _).map _ = _
  iterate 3 (apply readU32_sim; intro _ _)
  rename_i cnt b'
  apply ite_sim _ (UInt32.lt_iff_toNat_lt (a := 1000) (b := cnt))
  · rfl
  simp only [Go.makeL, ok_bind]
  refine (loop_counter _ _ _ _ (.inl rfl) _ _ _ _ _ _ _ (by simp) (by simp [Go.loopFuel])).trans ?_
  simp only [Nat.sub_zero, List.map_replicate, zeroC, hdrOf, shr32_toNat, and_16777215]
  cases hr : recordLoop decodeCounterRecord cnt.toNat b' with
  | error e => rfl
  | ok rs =>
    simp only [Except.map, fill_replicate _ _ _ (recordLoop_length _ _ _ _ hr)]
    rfl

theorem sample_f3 (len s0 t0 v0 : UInt32) (b : Bytes) :
    (TS.SM.DecodeSample ⟨3, len, s0, t0, v0⟩ b).map (fun r => sampleOf r.2.2) = decodeSample 3 len.toNat b := by
  rw [decodeSample_expanded 3 _ _ (by decide)]
  show (Go.readU32 b >>= _).map _ = _
  apply readU32_sim; intro _ _
  iterate 2 (apply readU32_simF; intro _ _)
  iterate 8 (apply readU32_simF; intro _ _)
  rename_i cnt b'
  apply ite_sim _ (UInt32.lt_iff_toNat_lt (a := 1000) (b := cnt))
  · rfl
  simp only [Go.makeL, ok_bind]
  refine (loop_flow _ _ _ _ _ _ _ _ _ _ _ _ (.inr (.inl ⟨rfl, rfl, by simp⟩)) (by simp [Go.loopFuel])).trans ?_
  simp only [Nat.sub_zero, sampleOf, List.map_replicate, zeroF, hdrOf, List.getD_cons_succ, List.getD_cons_zero]
  cases hr : recordLoop decodeFlowRecord cnt.toNat b' with
  | error e => rfl
  | ok rs =>
    simp only [Except.map, store, fill_replicate _ _ _ (recordLoop_length _ _ _ _ hr)]
    rfl

theorem sample_f4 (len s0 t0 v0 : UInt32) (b : Bytes) :
    (TS.SM.DecodeSample ⟨4, len, s0, t0, v0⟩ b).map (fun r => sampleOf r.2.2) = decodeSample 4 len.toNat b := by
  rw [decodeSample_expanded 4 _ _ (by decide)]
  show (Go.readU32 b >>= _).map _ = _
  apply readU32_sim; intro _ _
  iterate 2 (apply readU32_simF; intro _ _)
  apply readU32_sim; intro _ _
  rename_i cnt b'
  apply ite_sim _ (UInt32.lt_iff_toNat_lt (a := 1000) (b := cnt))
  · rfl
  simp only [Go.makeL, ok_bind]
  refine (loop_counter _ _ _ _ (.inr rfl) _ _ _ _ _ _ _ (by simp) (by simp [Go.loopFuel])).trans ?_
  simp only [Nat.sub_zero, List.map_replicate, zeroC, hdrOf]
  cases hr : recordLoop decodeCounterRecord cnt.toNat b' with
  | error e => rfl
  | ok rs =>
    simp only [Except.map, fill_replicate _ _ _ (recordLoop_length _ _ _ _ hr)]
    rfl

theorem sample_f5 (len s0 t0 v0 : UInt32) (b : Bytes) :
    (TS.SM.DecodeSample ⟨5, len, s0, t0, v0⟩ b).map (fun r => sampleOf r.2.2) = decodeSample 5 len.toNat b := by
  rw [decodeSample_expanded 5 _ _ (by decide)]
  show (Go.readU32 b >>= _).map _ = _
  apply readU32_sim; intro _ _
  iterate 2 (apply readU32_simF; intro _ _)
  iterate 5 (apply readU32_simF; intro _ _)
  rename_i cnt b'
  apply ite_sim _ (UInt32.lt_iff_toNat_lt (a := 1000) (b := cnt))
  · rfl
  simp only [Go.makeL, ok_bind]
  refine (loop_flow _ _ _ _ _ _ _ _ _ _ _ _ (.inr (.inr ⟨rfl, rfl, by simp⟩)) (by simp [Go.loopFuel])).trans ?_
  simp only [Nat.sub_zero, sampleOf, List.map_replicate, zeroF, hdrOf, List.getD_cons_succ, List.getD_cons_zero]
  cases hr : recordLoop decodeFlowRecord cnt.toNat b' with
  | error e => rfl
  | ok rs =>
    simp only [Except.map, store, fill_replicate _ _ _ (recordLoop_length _ _ _ _ hr)]
    rfl

theorem sample_other (fmt len s0 t0 v0 : UInt32) (b : Bytes) (h1 : ¬ fmt = 1) (h2 : ¬ fmt = 2) (h3 : ¬ fmt = 3) (h4 : ¬ fmt = 4)
    (h5 : ¬ fmt = 5) :
    (TS.SM.DecodeSample ⟨fmt, len, s0, t0, v0⟩ b).map (fun r => sampleOf r.2.2) = decodeSample fmt.toNat len.toNat b := by
  have c12 : (decide (fmt = 1) || decide (fmt = 2)) = false := by simp [h1, h2]
  have c345 : ((decide (fmt = 3) || decide (fmt = 4)) || decide (fmt = 5)) = false := by simp [h3, h4, h5]
  rw [decodeSample_other _ _ _ (not_or.2 ⟨toNat_ne h1, toNat_ne h2⟩) (not_or.2 ⟨toNat_ne h3, not_or.2 ⟨toNat_ne h4, toNat_ne h5⟩⟩)]
  show (Go.readU32 b >>= _).map _ = _
  apply readU32_sim; intro _ _
  apply skip_sim _ c12
  apply skip_sim _ c345
  rfl

/-- sflow.DecodeSample for every sample header and every byte string; the never-filled slots are zero records -/
theorem decodeSample_trans_eq (h : TS.SampleHeader) (b : Bytes) :
    (TS.SM.DecodeSample h b).map (fun r => sampleOf r.2.2) = decodeSample h.Format.toNat h.Length.toNat b := by
  obtain ⟨fmt, len, s0, t0, v0⟩ := h
  by_cases h1 : fmt = 1
  · subst h1; exact sample_f1 _ _ _ _ _
  by_cases h2 : fmt = 2
  · subst h2; exact sample_f2 _ _ _ _ _
  by_cases h3 : fmt = 3
  · subst h3; exact sample_f3 _ _ _ _ _
  by_cases h4 : fmt = 4
  · subst h4; exact sample_f4 _ _ _ _ _
  by_cases h5 : fmt = 5
  · subst h5; exact sample_f5 _ _ _ _ _
  exact sample_other _ _ _ _ _ _ h1 h2 h3 h4 h5

/-- what DecodeMessage makes of the outcome of its sample loop -/
def finM (r : Res (Go.Ctl (Bytes × TS.SM.Packet × Nat) (Bytes × TS.SM.Packet))) : Res Sflow.Packet :=
  (r >>= fun t_12 => Go.Ctl.elim t_12 (fun x => .ok x) fun t_13 => .ok (t_13.1, t_13.2.1)).map (fun r => packetOf r.2)

theorem loop_msg : ∀ (fuel : Nat) (b : Bytes) (pk : TS.SM.Packet) (i : Nat),
    pk.Samples.length = pk.SamplesCount.toNat → b.length < fuel →
    finM (TS.SM.DecodeMessage_loop1 fuel b pk i) =
      (recordLoop decodeSample (pk.SamplesCount.toNat - i) b).map (fun ss =>
        (⟨pk.Version.toNat, pk.IPVersion.toNat, pk.AgentIP, [pk.SubAgentId.toNat, pk.SequenceNumber.toNat, pk.Uptime.toNat,
          pk.SamplesCount.toNat], fill (pk.Samples.map sampleOf) i ss⟩ : Sflow.Packet)) := by
  intro fuel
  induction fuel with
  | zero => intro b pk i _ h; omega
  | succ fuel ih =>
    intro b pk i hlen hf
    rw [TS.SM.DecodeMessage_loop1, TS.SM.DecodeMessage_loop1_body, recordLoop_sub_map]
    apply cond_simP (fun r => finM (r >>= _)) (by simp only [Bool.and_eq_true, decide_eq_true_eq, ge_iff_le])
    · intro hc
      apply readU32_simP (fun r => finM (r >>= _)) (fun _ => rfl); intro f b0 h0
      apply readU32_simP (fun r => finM (r >>= _)) (fun _ => rfl); intro l b1 h1
      apply cond_simP (fun r => finM (r >>= _)) decide_eq_true_iff
      · intro _; rfl
      · intro _
        apply bind_simP (fun r => finM (r >>= _)) (fun _ => rfl) (decodeSample_trans_eq _ _); intro t
        have hset : i < pk.Samples.length := hlen ▸ hc.1
        simp only [ok_bind, Go.setIdxL, hset, if_true]
        refine (ih _ _ (i + 1) (by simp [hlen]) ?_).trans ?_
        · dsimp only at h1; simp only [Go.next, List.length_drop]; omega
        · simp only [fill, List.map_set]; rfl
    · intro _; rfl

theorem zeroS : sampleOf .nil = Sample.none := rfl

/-- sflow.DecodeMessage (the version word consumed, `Version` what the packet held) for every byte string -/
theorem decodeMessage_trans_eq (b : Bytes) (pk : TS.SM.Packet) :
    (TS.SM.DecodeMessage b pk).map (fun r => packetOf r.2) =
      (decodeMessage b).map (fun p => { p with version := pk.Version.toNat }) := by
  rw [decodeMessage_eq]
  show (Go.readU32 b >>= _).map _ = _
  apply readU32_sim; intro ipv b1
  apply ite_sim _ (u32_eq_iff _ 1)
  case' hB => apply ite_sim _ (u32_eq_iff _ 2)
  case hB.hB => rfl
  all_goals
    apply readBytes_sim _ _ _ (by decide); intro _ _
    iterate 4 (apply readU32_simF; intro _ _)
    rename_i cnt b'
    apply ite_sim _ (UInt32.lt_iff_toNat_lt (a := 1000) (b := cnt))
    · rfl
    simp only [Go.makeL, ok_bind]
    refine (loop_msg _ _ _ _ ?_ ?_).trans ?_
    · simp
    · simp [Go.loopFuel]
    · simp only [Nat.sub_zero, List.map_replicate, zeroS, sampleLoop_eq, List.getD_cons_succ, List.getD_cons_zero]
      cases hr : recordLoop decodeSample cnt.toNat b' with
      | error e => rfl
      | ok rs =>
        simp only [Except.map, fill_replicate _ _ _ (recordLoop_length _ _ _ _ hr)]

/-- sflow.DecodeMessageVersion for every byte string and whatever the packet held before -/
theorem decodeMessageVersion_trans_eq (b : Bytes) (pk : TS.SM.Packet) :
    (TS.SM.DecodeMessageVersion b pk).map (fun r => packetOf r.2) = decodeMessageVersion b := by
  have hm : decodeMessageVersion b = thenR (readU 4 b) fun v b' => if v ≠ 5 then .error .bad else decodeMessage b' := by
    fun_cases decodeMessageVersion b
    all_goals simp only [thenR, *, ne_eq, not_false_eq_true, not_true_eq_false, if_true, if_false]
  rw [hm]
  unfold TS.SM.DecodeMessageVersion
  apply readU32_sim; intro v b'
  apply cond_sim _ (decide_eq_true_iff.trans (not_congr (UInt32.toNat_inj (b := 5)).symm))
  · intro _; rfl
  · intro h
    obtain rfl : v = 5 := UInt32.toNat_inj.1 (Decidable.not_not.1 h)
    rw [decodeMessage_trans_eq, decodeMessage_eq]
    exact (decodeMessage_thenR b').symm

#print axioms decodeCounterRecord_trans_eq
#print axioms decodeFlowRecord_trans_eq
#print axioms decodeSample_trans_eq
#print axioms decodeMessage_trans_eq
#print axioms decodeMessageVersion_trans_eq

end Goflow.C04Trans2
