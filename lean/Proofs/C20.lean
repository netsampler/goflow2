import Goflow.Conc.KafkaAdapter
import Goflow.Generated.Sync
import Goflow.Generated.Kafka
/-!
  C20 — Kafka output. Partial by a wide margin: what is proved is the adapter (topic, key and value pass unchanged and
  in order; the producer is closed, i.e. flushed, before the forwarder is stopped) and the consequences of the stated
  sarama contract. Delivery itself lives in sarama's runtime and is exercised, not proved, by the correspondence
  check against a mock broker.
-/
namespace Goflow.C20
open Goflow Goflow.Conc.KafkaAdapter

theorem sendAll_eq (st : St) (msgs : List (Bytes × Bytes)) :
    sendAll st msgs = { st with input := st.input ++ msgs.map fun kv => ⟨st.topic, kv.1, kv.2⟩ } := by
  induction msgs generalizing st with
  | nil => simp [sendAll]
  | cons m rest ih =>
    obtain ⟨k, v⟩ := m
    rw [sendAll, ih]
    simp [send]

/-- Send passes topic, key and value bytes unchanged, one producer message per call, in call order -/
theorem send_preserves (st : St) (msgs : List (Bytes × Bytes)) :
    (sendAll st msgs).input = st.input ++ msgs.map (fun kv => ⟨st.topic, kv.1, kv.2⟩) ∧ (sendAll st msgs).topic = st.topic := by
  rw [sendAll_eq]
  exact ⟨rfl, rfl⟩

/-- Close flushes before it stops the forwarder: producer.Close() precedes close(d.q); Send is one push on Input()
    (regenerated from transport/kafka/kafka.go) -/
theorem close_flushes_before_stop :
    Goflow.Generated.skKafkaClose = ["d.producer.Close()", "close(d.q)"] ∧
    Goflow.Generated.skKafkaSend =
      ["d.producer.Input() <- &sarama.ProducerMessage{ Topic: d.kafkaTopic, Key: sarama.ByteEncoder(key), Value: sarama.ByteEncoder(data), }",
       "d.producer.Input()"] :=
  ⟨rfl, rfl⟩

/-- under the contract: the delivered multiset equals the multiset handed to Send, with keys and values intact -/
theorem all_delivered (hashing : Bool) (parts : Nat) (topic : String) (msgs : List (Bytes × Bytes)) (o : Outcome)
    (hc : Contract hashing parts (sendAll ⟨topic, [], false⟩ msgs).input o) :
    (o.delivered.map (·.1)).Perm (msgs.map fun kv => ⟨topic, kv.1, kv.2⟩) ∧ o.errors = [] := by
  have := (send_preserves ⟨topic, [], false⟩ msgs).1
  simp only [List.nil_append] at this
  rw [this] at hc
  exact ⟨hc.2.1, hc.1⟩

/-- under the contract with hashing: messages with equal keys go to the same partition -/
theorem equal_keys_same_partition (parts : Nat) (input : List KMsg) (o : Outcome)
    (hc : Contract true parts input o) (a b : KMsg × Nat) (ha : a ∈ o.delivered) (hb : b ∈ o.delivered)
    (hk : a.1.key = b.1.key) : a.2 = b.2 := by
  rw [hc.2.2 rfl a ha, hc.2.2 rfl b hb, hk]

/-- The producer settings the contract is stated for, as (*KafkaDriver).Init assigns them (regenerated on every
    run): errors are returned on the error stream (`Return.Errors = true`, successes not), the message size limit is the
    `maxmsgbytes` flag and nothing else, the flush threshold is the `flushbytes` flag — two *different* settings, so a
    small flush threshold cannot limit the size of a message —, the partitioner is round-robin unless `hashing` is set,
    then the hash partitioner; compression only when a known codec is named. Every assignment to a producer setting is
    in this list, with the conditions it sits under. -/
theorem producer_settings_match :
    Goflow.Generated.kafkaProducerSettings =
      [("", "kafkaConfig.Producer.Return.Successes", "false"),
       ("", "kafkaConfig.Producer.Return.Errors", "true"),
       ("", "kafkaConfig.Producer.MaxMessageBytes", "d.kafkaMaxMsgBytes"),
       ("", "kafkaConfig.Producer.Flush.Bytes", "d.kafkaFlushBytes"),
       ("", "kafkaConfig.Producer.Flush.Frequency", "d.kafkaFlushFrequency"),
       ("", "kafkaConfig.Producer.Partitioner", "sarama.NewRoundRobinPartitioner"),
       ("d.kafkaCompressionCodec != \"\" && !(cc, ok := compressionCodecs[strings.ToLower(d.kafkaCompressionCodec)]; !ok)",
        "kafkaConfig.Producer.Compression", "cc"),
       ("d.kafkaHashing", "kafkaConfig.Producer.Partitioner", "sarama.NewHashPartitioner")] :=
  rfl

/-- the contract is satisfiable -/
example : Contract true 4 [⟨"t", [1], [2]⟩] ⟨[(⟨"t", [1], [2]⟩, hashPartition [1] 4)], []⟩ := by
  refine ⟨rfl, ?_, ?_⟩
  · exact List.Perm.refl _
  · intro _ e he; simp at he; subst he; rfl

end Goflow.C20
