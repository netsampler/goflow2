import Goflow.Format.Formatter
import Proofs.Lemmas.Assoc
import Proofs.C14Map
/-!
  C14 — from the mapping file to the compiled mappers. `compile` models mapConfig / mapFormat / finalize in
  config_impl.go as the loops they are; `compile_eq` shows it equal to a check (`Accepted`) followed by closed forms
  of the mappers (`cfgOf`) and the formatter (`fmtOf`). Of several element statements with one key the Go map keeps
  the last (`lastPerKey`), and no lookup sees the difference. The `file_…` theorems then go from a statement of the
  file to what `C14Map` says the compiled entry does to the message.
-/
namespace Goflow.C14Compile
open Goflow Goflow.Format Goflow.Producer

theorem forIn_foldOk {α σ} (l : List α) (f : α → σ → Except Unit (ForInStep σ)) (ok : α → Bool) (g : σ → α → σ) (init : σ)
    (h : ∀ a s, f a s = if ok a = true then .ok (.yield (g s a)) else .error ()) :
    forIn l init f = if l.all ok = true then .ok (l.foldl g init) else .error () := by
  induction l generalizing init with
  | nil => rfl
  | cons a l ih =>
    rw [List.forIn_cons, h]
    by_cases ha : ok a = true
    · simp only [ha, if_true, List.all_cons, Bool.true_and, List.foldl_cons]
      exact ih _
    · simp only [ha, if_false, List.all_cons, Bool.false_eq_true, Bool.false_and]
      rfl

theorem forIn_check {α} (l : List α) (f : α → PUnit → Except Unit (ForInStep PUnit)) (ok : α → Bool)
    (h : ∀ a s, f a s = if ok a = true then .ok (.yield PUnit.unit) else .error ()) :
    forIn l PUnit.unit f = if l.all ok = true then .ok PUnit.unit else .error () :=
  forIn_foldOk l f ok (fun s _ => s) PUnit.unit h

theorem forIn_fold {α σ} (l : List α) (f : α → σ → Except Unit (ForInStep σ)) (g : σ → α → σ) (init : σ)
    (h : ∀ a s, f a s = .ok (.yield (g s a))) :
    forIn l init f = .ok (l.foldl g init) := by
  rw [forIn_foldOk l f (fun _ => true) g init h, if_pos (List.all_eq_true.2 fun _ _ => rfl)]

/-- a `sflow.ports` statement the loader accepts -/
def portOK (p : PortEntry) : Bool :=
  (parserByName p.parser).isSome && (p.dir == "src" || p.dir == "dst" || p.dir == "both")

/-- RegisterPort: `both` registers the parser under both directions -/
def portsOf (raw : RawConfig) : List PortEntry :=
  raw.ports.flatMap fun p => if p.dir = "both" then [{ p with dir := "src" }, { p with dir := "dst" }] else [p]

/-- reMap: documented column name ↦ Go field name, every declared protobuf name ↦ "" -/
def reMapOf (raw : RawConfig) : List (String × String) :=
  raw.protobuf.foldl (fun acc pb => assocSet acc pb.name "") defaultReMap

/-- numToPb: the last declaration per field number -/
def numToPbOf (raw : RawConfig) : List (Nat × PbField) :=
  raw.protobuf.foldl (fun acc pb => (pb.index, pb) :: acc.filter (fun e => e.1 != pb.index)) []

def isSliceOf (raw : RawConfig) (isSlice0 : List (String × Bool)) : List (String × Bool) :=
  raw.protobuf.foldl (fun acc pb => assocSet acc pb.name pb.array) isSlice0

/-- the name a `render` statement is filed under -/
def renderKey (reMap : List (String × String)) (k : String) : String :=
  match reMap.lookup k with
  | some go => if go ≠ "" then go else k
  | none => k

/-- render: the default renderers, then the statements of the file in order -/
def renderOf (raw : RawConfig) : List (String × String) :=
  raw.render.foldl (fun acc kv => assocSet acc (renderKey (reMapOf raw) kv.1) ((rendererFunc kv.2).getD "")) Goflow.Generated.defaultRenderers

def declOf (raw : RawConfig) (dest : String) : Option PbField := raw.protobuf.reverse.find? (fun p => p.name == dest)

def destOK (raw : RawConfig) (dest : String) : Bool :=
  match declOf raw dest with
  | some p => (protoTypeOf p.type).isSome
  | none => true

def fieldOK (raw : RawConfig) (f : String) : Bool := ((reMapOf raw).lookup f).isSome || ((renderOf raw).lookup f).isSome

/-- the mapping files the loader accepts. Of the element statements only those left in the Go map
    (`lastPerKey`: the last statement per (penprovided, pen, field) key) have their destination checked;
    every layer statement has -/
def Accepted (raw : RawConfig) : Prop :=
  (∀ p ∈ raw.ports, portOK p = true) ∧
  (∀ k ∈ raw.key, ((reMapOf raw).lookup k).isSome = true) ∧
  (∀ kv ∈ raw.render, (rendererFunc kv.2).isSome = true) ∧
  (∀ f ∈ raw.fields, fieldOK raw f = true) ∧
  (∀ m ∈ lastPerKey raw.ipfix, destOK raw m.destination = true) ∧
  (∀ m ∈ lastPerKey raw.v9, destOK raw m.destination = true) ∧
  (∀ m ∈ raw.layers, destOK raw m.destination = true)

instance (raw : RawConfig) : Decidable (Accepted raw) := by unfold Accepted; infer_instance

def destOf (raw : RawConfig) (m : RawMap) : MapField :=
  let little := m.endian == "little"
  match declOf raw m.destination with
  | some p => ⟨m.destination, little, p.index, (protoTypeOf p.type).getD .none, p.array⟩
  | none =>
    match flowMessageColumns.find? (fun c => c.protoName == m.destination) with
    | some c => ⟨c.goName, little, 0, .none, false⟩
    | none => ⟨m.destination, little, 0, .none, false⟩

def fmtOf (raw : RawConfig) (isSlice0 : List (String × Bool)) : Fmt :=
  ⟨if raw.fields.isEmpty then defaultFields else raw.fields, raw.key, reMapOf raw, raw.rename, renderOf raw,
   numToPbOf raw, isSliceOf raw isSlice0⟩

def cfgOf (raw : RawConfig) : Config :=
  { ipfix := (lastPerKey raw.ipfix).map fun m => ⟨m.penProvided, m.pen, m.type, destOf raw m⟩,
    v9 := (lastPerKey raw.v9).map fun m => ⟨m.penProvided, m.pen, m.type, destOf raw m⟩,
    layers := raw.layers.map fun m => ⟨m.layer, m.encap, m.offset, m.length, destOf raw m⟩,
    ports := portsOf raw, present := true }

theorem ite_iff_congr {α} {p q : Prop} [Decidable p] [Decidable q] (h : p ↔ q) (a b : α) :
    (if p then a else b) = if q then a else b := by
  by_cases hp : p
  · rw [if_pos hp, if_pos (h.1 hp)]
  · rw [if_neg hp, if_neg (fun hq => hp (h.2 hq))]

theorem pure_bind' {α β : Type} (a : α) (f : α → Except Unit β) : (pure a >>= f) = f a := rfl
theorem ok_bind {α β} (a : α) (f : α → Except Unit β) : (Except.ok a >>= f) = f a := rfl

theorem foldl_triple {α β γ δ} (l : List α) (f : β → α → β) (g : γ → α → γ) (h : δ → α → δ) (b : β) (c : γ) (d : δ) :
    l.foldl (fun s a => (f s.1 a, g s.2.1 a, h s.2.2 a)) (b, c, d) = (l.foldl f b, l.foldl g c, l.foldl h d) := by
  induction l generalizing b c d with
  | nil => rfl
  | cons a l ih => simp only [List.foldl_cons]; exact ih _ _ _

theorem lookup_assocSet {β} (l : List (String × β)) (k k' : String) (v : β) :
    (assocSet l k v).lookup k' = if k' = k then some v else l.lookup k' := by
  unfold assocSet
  rw [lookup_cons_filter]
  by_cases h : k' = k <;> simp [h]

/-- a Go map filled in a loop holds, per key, the value of the last assignment -/
theorem lookup_foldl_set {α κ β} [BEq κ] [LawfulBEq κ] (l : List α) (key : α → κ) (val : α → β) (init : List (κ × β)) (k : κ) :
    (l.foldl (fun acc a => (key a, val a) :: acc.filter (fun e => e.1 != key a)) init).lookup k =
      match l.reverse.find? (fun a => key a == k) with
      | some a => some (val a)
      | none => init.lookup k := by
  induction l generalizing init with
  | nil => rfl
  | cons a l ih =>
    rw [List.foldl_cons, ih, List.reverse_cons, List.find?_append]
    cases hf : l.reverse.find? (fun a => key a == k) with
    | some b => rfl
    | none =>
      simp only [Option.none_or, List.find?_cons, List.find?_nil]
      rw [lookup_cons_filter]
      by_cases hk : key a = k
      · simp [hk]
      · have : (k == key a) = false := by simpa using fun h => hk h.symm
        have hb : (key a == k) = false := by simpa using hk
        simp [hb, this]

theorem reMapOf_lookup (raw : RawConfig) (k : String) :
    (reMapOf raw).lookup k = match declOf raw k with
      | some _ => some ""
      | none => defaultReMap.lookup k := by
  unfold reMapOf declOf assocSet
  rw [lookup_foldl_set raw.protobuf (fun p => p.name) (fun _ => "")]
  cases raw.protobuf.reverse.find? (fun p => p.name == k) <;> rfl

theorem lookup_map_find {α β} (l : List α) (f : α → String) (g : α → β) (k : String) :
    (l.map fun c => (f c, g c)).lookup k = (l.find? (fun c => f c == k)).map g := by
  induction l with
  | nil => rfl
  | cons a l ih =>
    simp only [List.map_cons, List.lookup_cons, List.find?_cons]
    by_cases h : f a = k
    · simp [h]
    · have : (k == f a) = false := by simpa using fun h' => h h'.symm
      have hb : (f a == k) = false := by simpa using h
      simp [hb, this, ih]

theorem defaultReMap_lookup (k : String) :
    defaultReMap.lookup k = (flowMessageColumns.find? (fun c => c.protoName == k)).map (·.goName) :=
  lookup_map_find flowMessageColumns (·.protoName) (·.goName) k

theorem goName_ne_empty : ∀ c ∈ flowMessageColumns, c.goName ≠ "" := by decide +kernel

/-- finalizemapDest -/
theorem finalizeDest_eq (raw : RawConfig) (m : RawMap) :
    finalizeDest raw.protobuf (reMapOf raw) m.destination (m.endian == "little") =
      if destOK raw m.destination = true then .ok (destOf raw m) else .error () := by
  unfold finalizeDest destOK destOf
  rw [reMapOf_lookup, defaultReMap_lookup]
  unfold declOf
  cases hd : raw.protobuf.reverse.find? (fun p => p.name == m.destination) with
  | some p =>
    simp only
    cases protoTypeOf p.type <;> simp
  | none =>
    simp only
    cases hc : flowMessageColumns.find? (fun c => c.protoName == m.destination) with
    | none => simp
    | some c =>
      have := goName_ne_empty c (List.mem_of_find?_eq_some hc)
      simp [this]

theorem mapM_fin (raw : RawConfig) (ms : List RawMap) :
    ms.mapM (fun m => do
        let f ← finalizeDest raw.protobuf (reMapOf raw) m.destination (m.endian == "little")
        pure (m, f)) =
      if ms.all (fun m => destOK raw m.destination) = true then (.ok (ms.map fun m => (m, destOf raw m)) : Except Unit _)
      else .error () := by
  induction ms with
  | nil => rfl
  | cons m ms ih =>
    rw [List.mapM_cons, ih, finalizeDest_eq]
    by_cases h1 : destOK raw m.destination = true
    · by_cases h2 : ms.all (fun m => destOK raw m.destination) = true
      · simp only [h1, h2, if_true, List.all_cons, Bool.and_self]; rfl
      · simp only [h1, h2, if_true, List.all_cons, Bool.true_and]; rfl
    · simp only [h1, if_false, List.all_cons, Bool.false_eq_true, Bool.false_and]; rfl

theorem ite_ok_bind {α β} (c : Prop) [Decidable c] (a : α) (f : α → Except Unit β) :
    ((if c then Except.ok a else .error ()) >>= f) = if c then f a else .error () := by
  split <;> rfl

theorem ite_ite_error {β} (c d : Prop) [Decidable c] [Decidable d] (x : Except Unit β) :
    (if c then (if d then x else .error ()) else .error ()) = if c ∧ d then x else .error () := by
  by_cases hc : c <;> by_cases hd : d <;> simp [hc, hd]

theorem compile_eq (raw : RawConfig) (isSlice0 : List (String × Bool)) :
    compile raw isSlice0 = if Accepted raw then .ok ⟨cfgOf raw, fmtOf raw isSlice0⟩ else .error () := by
  unfold compile
  rw [forIn_check raw.ports _ portOK (by
    intro a s
    cases hp : parserByName a.parser <;> by_cases h1 : a.dir = "src" <;> by_cases h2 : a.dir = "dst" <;>
      by_cases h3 : a.dir = "both" <;> simp [portOK, hp, h1, h2, h3, throw, throwThe, MonadExceptOf.throw, bind, Except.bind, pure, Except.pure])]
  dsimp only
  rw [forIn_fold raw.protobuf _ (fun (s : List (String × String) × List (Nat × PbField) × List (String × Bool)) pb =>
      (assocSet s.1 pb.name "", (pb.index, pb) :: s.2.1.filter (fun e => e.1 != pb.index), assocSet s.2.2 pb.name pb.array))
    _ (by intro a s; rfl)]
  rw [foldl_triple raw.protobuf (fun acc pb => assocSet acc pb.name "")
    (fun acc pb => (pb.index, pb) :: acc.filter (fun e => e.1 != pb.index)) (fun acc pb => assocSet acc pb.name pb.array)]
  change (_ >>= fun _ => (Except.ok (reMapOf raw, numToPbOf raw, isSliceOf raw isSlice0) >>= _)) = _
  rw [ok_bind]
  dsimp only
  rw [forIn_check raw.key _ (fun k => ((reMapOf raw).lookup k).isSome) (by
    intro a s
    cases (reMapOf raw).lookup a <;> rfl)]
  rw [forIn_foldOk raw.render _ (fun kv => (rendererFunc kv.2).isSome)
    (fun acc kv => assocSet acc (renderKey (reMapOf raw) kv.1) ((rendererFunc kv.2).getD "")) _ (by
    intro a s
    cases rendererFunc a.2 <;> rfl)]
  simp only [mapM_fin, ite_ok_bind]
  rw [forIn_check raw.fields _ (fieldOK raw) (by
    intro a s
    unfold fieldOK renderOf
    cases (reMapOf raw).lookup a <;>
      cases List.lookup a (List.foldl (fun acc kv => assocSet acc (renderKey (reMapOf raw) kv.fst) ((rendererFunc kv.snd).getD ""))
                Generated.defaultRenderers raw.render) <;> rfl)]
  have hacc : Accepted raw ↔ raw.ports.all portOK = true ∧ (raw.key.all fun k => ((reMapOf raw).lookup k).isSome) = true ∧
      (raw.render.all fun kv => (rendererFunc kv.2).isSome) = true ∧ raw.fields.all (fieldOK raw) = true ∧
      ((lastPerKey raw.ipfix).all fun m => destOK raw m.destination) = true ∧
      ((lastPerKey raw.v9).all fun m => destOK raw m.destination) = true ∧ (raw.layers.all fun m => destOK raw m.destination) = true := by
    unfold Accepted
    simp only [List.all_eq_true]
  rw [ite_iff_congr hacc]
  cases hfe : raw.fields.isEmpty
  · simp only [Bool.false_eq_true, if_false, ite_ok_bind, pure_bind', ite_ite_error, List.map_map, cfgOf, fmtOf, portsOf,
      renderOf, hfe]
    rfl
  · have h4 : raw.fields.all (fieldOK raw) = true := by rw [List.isEmpty_iff.1 hfe]; rfl
    simp only [if_true, pure_bind', ite_ite_error, h4, true_and, List.map_map, cfgOf, fmtOf, portsOf, renderOf, hfe]
    rfl

/-- the loader accepts exactly the `Accepted` files, and the result is determined by the file -/
theorem compile_ok_iff (raw : RawConfig) (isSlice0 : List (String × Bool)) (c : Compiled) :
    compile raw isSlice0 = .ok c ↔ Accepted raw ∧ c = ⟨cfgOf raw, fmtOf raw isSlice0⟩ := by
  rw [compile_eq]
  by_cases h : Accepted raw
  · rw [if_pos h]
    constructor
    · intro hc; exact ⟨h, (Except.ok.inj hc).symm⟩
    · intro hc; rw [hc.2]
  · rw [if_neg h]
    constructor
    · intro hc; cases hc
    · intro hc; exact absurd hc.1 h

theorem compile_accepts_iff (raw : RawConfig) (isSlice0 : List (String × Bool)) :
    (∃ c, compile raw isSlice0 = .ok c) ↔ Accepted raw := by
  constructor
  · rintro ⟨c, hc⟩; exact ((compile_ok_iff raw isSlice0 c).1 hc).1
  · intro h; exact ⟨_, (compile_ok_iff raw isSlice0 _).2 ⟨h, rfl⟩⟩

theorem compile_rejects_iff (raw : RawConfig) (isSlice0 : List (String × Bool)) :
    compile raw isSlice0 = .error () ↔ ¬ Accepted raw := by
  rw [compile_eq]
  by_cases h : Accepted raw
  · rw [if_pos h]; constructor
    · intro hc; cases hc
    · intro hc; exact absurd h hc
  · rw [if_neg h]; exact ⟨fun _ => h, fun _ => rfl⟩

theorem compile_accepts_indep (raw : RawConfig) (s s' : List (String × Bool)) :
    (∃ c, compile raw s = .ok c) ↔ (∃ c, compile raw s' = .ok c) := by
  rw [compile_accepts_iff, compile_accepts_iff]

/-- The element and layer statements pass through the compilation unchanged and in file order: the key
    (penProvided, pen, type) resp. (layer, encap, offset, length) as written, the destination as `destOf` says. Of
    several element statements with the same key only the last one is kept (`lastPerKey`, the Go map). -/
theorem compile_netflow_entries (raw : RawConfig) (isSlice0 : List (String × Bool)) (c : Compiled)
    (h : compile raw isSlice0 = .ok c) :
    c.cfg.ipfix = (lastPerKey raw.ipfix).map (fun m => ⟨m.penProvided, m.pen, m.type, destOf raw m⟩) ∧
    c.cfg.v9 = (lastPerKey raw.v9).map (fun m => ⟨m.penProvided, m.pen, m.type, destOf raw m⟩) ∧
    c.cfg.layers = raw.layers.map (fun m => ⟨m.layer, m.encap, m.offset, m.length, destOf raw m⟩) ∧
    c.cfg.ports = portsOf raw ∧ c.cfg.present = true := by
  rw [((compile_ok_iff raw isSlice0 c).1 h).2]
  exact ⟨rfl, rfl, rfl, rfl, rfl⟩

/-- number, wire type and array flag are those of the last declaration with that name -/
theorem destOf_declared (raw : RawConfig) (m : RawMap) (p : PbField) (h : declOf raw m.destination = some p) :
    destOf raw m = ⟨m.destination, m.endian == "little", p.index, (protoTypeOf p.type).getD .none, p.array⟩ := by
  simp [destOf, h]

/-- in an accepted file the wire type is the one the declaration names -/
theorem destOf_declared_type (raw : RawConfig) (m : RawMap) (p : PbField) (h : declOf raw m.destination = some p)
    (hok : destOK raw m.destination = true) :
    (destOf raw m).protoType = (if p.type = "varint" then .varint else .string) ∧
      (p.type = "varint" ∨ p.type = "string" ∨ p.type = "bytes") := by
  rw [destOf_declared raw m p h]
  simp only [destOK, h] at hok
  unfold protoTypeOf at hok ⊢
  by_cases h1 : p.type = "string" ∨ p.type = "bytes"
  · have hv : p.type ≠ "varint" := by rcases h1 with h1 | h1 <;> (rw [h1]; decide)
    refine ⟨by simp [h1, hv], Or.inr h1⟩
  · by_cases h2 : p.type = "varint"
    · exact ⟨by simp [h2], Or.inl h2⟩
    · simp [h1, h2] at hok

/-- a documented column name (`in_if`, `sampling_rate`, …) that is not also declared: the Go column -/
theorem destOf_column (raw : RawConfig) (m : RawMap) (c : Column) (h : declOf raw m.destination = none)
    (hc : flowMessageColumns.find? (fun c => c.protoName == m.destination) = some c) :
    destOf raw m = ⟨c.goName, m.endian == "little", 0, .none, false⟩ := by
  simp [destOf, h, hc]

/-- anything else stays as written (e.g. the Go name of a column, which MapCustom resolves by reflection) -/
theorem destOf_other (raw : RawConfig) (m : RawMap) (h : declOf raw m.destination = none)
    (hc : flowMessageColumns.find? (fun c => c.protoName == m.destination) = none) :
    destOf raw m = ⟨m.destination, m.endian == "little", 0, .none, false⟩ := by
  simp [destOf, h, hc]

theorem destOf_little (raw : RawConfig) (m : RawMap) : (destOf raw m).little = (m.endian == "little") := by
  unfold destOf
  dsimp only
  split
  · rfl
  · split <;> rfl

theorem declOf_isSome_iff (raw : RawConfig) (k : String) : (declOf raw k).isSome = true ↔ k ∈ raw.protobuf.map (·.name) := by
  unfold declOf
  rw [List.find?_isSome]
  constructor
  · rintro ⟨p, hp, hk⟩
    exact List.mem_map.2 ⟨p, by simpa using hp, by simpa using hk⟩
  · intro h
    obtain ⟨p, hp, hk⟩ := List.mem_map.1 h
    exact ⟨p, by simpa using hp, by simpa using hk⟩

theorem declOf_name (raw : RawConfig) (k : String) (p : PbField) (h : declOf raw k = some p) : p.name = k ∧ p ∈ raw.protobuf := by
  unfold declOf at h
  have h1 := List.find?_some h
  have h2 := List.mem_of_find?_eq_some h
  exact ⟨by simpa using h1, by simpa using h2⟩

theorem reMapOf_isSome_iff (raw : RawConfig) (k : String) :
    ((reMapOf raw).lookup k).isSome = true ↔ k ∈ raw.protobuf.map (·.name) ∨ k ∈ defaultFields := by
  rw [reMapOf_lookup, ← declOf_isSome_iff]
  cases hd : declOf raw k with
  | some p => simp
  | none =>
    simp only [Option.isSome_none, Bool.false_eq_true, false_or]
    rw [defaultReMap_lookup, Option.isSome_map, List.find?_isSome]
    unfold defaultFields
    simp only [List.mem_map, beq_iff_eq]

theorem numToPbOf_lookup (raw : RawConfig) (n : Nat) :
    (numToPbOf raw).lookup n = raw.protobuf.reverse.find? (fun p => p.index == n) := by
  unfold numToPbOf
  rw [lookup_foldl_set raw.protobuf (fun p => p.index) (fun p => p) [] n]
  cases raw.protobuf.reverse.find? (fun p => p.index == n) <;> rfl

theorem isSliceOf_lookup (raw : RawConfig) (isSlice0 : List (String × Bool)) (k : String) :
    (isSliceOf raw isSlice0).lookup k = match declOf raw k with
      | some p => some p.array
      | none => isSlice0.lookup k := by
  unfold isSliceOf declOf assocSet
  rw [lookup_foldl_set raw.protobuf (fun p => p.name) (fun p => p.array) isSlice0 k]
  cases raw.protobuf.reverse.find? (fun p => p.name == k) <;> rfl

theorem renderOf_lookup (raw : RawConfig) (n : String) :
    (renderOf raw).lookup n =
      match raw.render.reverse.find? (fun kv => renderKey (reMapOf raw) kv.1 == n) with
      | some kv => some ((rendererFunc kv.2).getD "")
      | none => Goflow.Generated.defaultRenderers.lookup n := by
  unfold renderOf assocSet
  rw [lookup_foldl_set raw.render (fun kv => renderKey (reMapOf raw) kv.1) (fun kv => (rendererFunc kv.2).getD "") _ n]
  cases raw.render.reverse.find? (fun kv => renderKey (reMapOf raw) kv.1 == n) <;> rfl

/-- in an accepted file the statement's renderer id is registered, so the `getD` of `renderOf` never falls back -/
theorem renderOf_lookup_accepted (raw : RawConfig) (h : Accepted raw) (n : String) :
    (renderOf raw).lookup n =
      match raw.render.reverse.find? (fun kv => renderKey (reMapOf raw) kv.1 == n) with
      | some kv => rendererFunc kv.2
      | none => Goflow.Generated.defaultRenderers.lookup n := by
  rw [renderOf_lookup]
  cases hf : raw.render.reverse.find? (fun kv => renderKey (reMapOf raw) kv.1 == n) with
  | none => rfl
  | some kv =>
    have hm : kv ∈ raw.render := by simpa using List.mem_of_find?_eq_some hf
    have := h.2.2.1 kv hm
    cases hr : rendererFunc kv.2 with
    | none => rw [hr] at this; cases this
    | some f => simp [hr]

/-- a render statement on a documented column name is filed under the Go field name; on a declared protobuf
    field or a virtual column under the name as written -/
theorem renderKey_eq (raw : RawConfig) (k : String) :
    renderKey (reMapOf raw) k =
      match declOf raw k with
      | some _ => k
      | none => match flowMessageColumns.find? (fun c => c.protoName == k) with
        | some c => c.goName
        | none => k := by
  unfold renderKey
  rw [reMapOf_lookup, defaultReMap_lookup]
  cases declOf raw k with
  | some p => simp
  | none =>
    simp only
    cases hc : flowMessageColumns.find? (fun c => c.protoName == k) with
    | none => rfl
    | some c =>
      have := goName_ne_empty c (List.mem_of_find?_eq_some hc)
      simp [this]

theorem isSliceAfter_eq (raw : RawConfig) (isSlice0 : List (String × Bool)) :
    isSliceAfter raw isSlice0 = if raw.ports.all portOK = true then isSliceOf raw isSlice0 else isSlice0 := by
  unfold isSliceAfter
  have : (raw.ports.any fun p => (parserByName p.parser).isNone || (p.dir != "src" && p.dir != "dst" && p.dir != "both")) =
      !(raw.ports.all portOK) := by
    rw [List.not_all_eq_any_not]
    congr 1
    funext p
    unfold portOK
    simp only [bne]
    cases parserByName p.parser <;> cases p.dir == "src" <;> cases p.dir == "dst" <;> cases p.dir == "both" <;> rfl
  rw [this]
  cases raw.ports.all portOK <;> rfl

/-- the formatter of an accepted file: field list (the documented columns when none is given), key fields and renames
    as written; render statements resolved through reMap; numToPb the last declaration per number; the slice map
    updated by every declaration -/
theorem compile_formatter (raw : RawConfig) (isSlice0 : List (String × Bool)) (c : Compiled)
    (h : compile raw isSlice0 = .ok c) :
    c.fmt.fields = (if raw.fields.isEmpty then defaultFields else raw.fields) ∧
    c.fmt.key = raw.key ∧ c.fmt.rename = raw.rename ∧
    c.fmt.reMap = reMapOf raw ∧ c.fmt.render = renderOf raw ∧ c.fmt.numToPb = numToPbOf raw ∧
    c.fmt.isSlice = isSliceAfter raw isSlice0 := by
  obtain ⟨hacc, rfl⟩ := (compile_ok_iff raw isSlice0 c).1 h
  refine ⟨rfl, rfl, rfl, rfl, rfl, rfl, ?_⟩
  rw [isSliceAfter_eq, if_pos (List.all_eq_true.2 hacc.1)]
  rfl

theorem protoTypeOf_isSome_iff (t : String) : (protoTypeOf t).isSome = true ↔ t = "varint" ∨ t = "string" ∨ t = "bytes" := by
  constructor
  · intro h
    by_cases h1 : t = "string" ∨ t = "bytes"
    · exact Or.inr h1
    · by_cases h2 : t = "varint"
      · exact Or.inl h2
      · unfold protoTypeOf at h
        rw [if_neg h1, if_neg h2] at h
        cases h
  · rintro (h | h | h) <;> subst h <;> decide

/-- the accepted files in the words of the documentation: every registered port names a parser of the table and a
    direction src / dst / both; every key field is a declared protobuf field or a documented column; every
    renderer id is registered; every listed field is a declared protobuf field, a documented column or a name with
    a renderer (a virtual column such as `icmp_name`); every destination — of a layer statement, or of an element
    statement that no later statement with the same key replaces (`mem_lastPerKey_iff`) — that names a declared
    protobuf field finds its (last) declaration with type varint, string or bytes -/
theorem accepted_iff (raw : RawConfig) :
    Accepted raw ↔
      (∀ p ∈ raw.ports, (parserByName p.parser).isSome = true ∧ (p.dir = "src" ∨ p.dir = "dst" ∨ p.dir = "both")) ∧
      (∀ k ∈ raw.key, k ∈ raw.protobuf.map (·.name) ∨ k ∈ defaultFields) ∧
      (∀ kv ∈ raw.render, ∃ f, rendererFunc kv.2 = some f) ∧
      (∀ f ∈ raw.fields, f ∈ raw.protobuf.map (·.name) ∨ f ∈ defaultFields ∨ ((renderOf raw).lookup f).isSome = true) ∧
      (∀ m ∈ lastPerKey raw.ipfix ++ lastPerKey raw.v9 ++ raw.layers, ∀ p, declOf raw m.destination = some p →
        p.type = "varint" ∨ p.type = "string" ∨ p.type = "bytes") := by
  have hdest : ∀ (ms : List RawMap), (∀ m ∈ ms, destOK raw m.destination = true) ↔
      (∀ m ∈ ms, ∀ p, declOf raw m.destination = some p → p.type = "varint" ∨ p.type = "string" ∨ p.type = "bytes") := by
    intro ms
    constructor
    · intro h m hm p hp
      have := h m hm
      simp only [destOK, hp] at this
      exact (protoTypeOf_isSome_iff p.type).1 this
    · intro h m hm
      unfold destOK
      cases hd : declOf raw m.destination with
      | none => rfl
      | some p => exact (protoTypeOf_isSome_iff p.type).2 (h m hm p hd)
  unfold Accepted
  rw [hdest, hdest, hdest]
  constructor
  · rintro ⟨h1, h2, h3, h4, h5, h6, h7⟩
    refine ⟨?_, ?_, ?_, ?_, ?_⟩
    · intro p hp
      have := h1 p hp
      simp only [portOK, Bool.and_eq_true, Bool.or_eq_true, beq_iff_eq] at this
      exact ⟨this.1, by rcases this.2 with (h | h) | h <;> simp [h]⟩
    · intro k hk; exact (reMapOf_isSome_iff raw k).1 (h2 k hk)
    · intro kv hkv; exact Option.isSome_iff_exists.1 (h3 kv hkv)
    · intro f hf
      have := h4 f hf
      simp only [fieldOK, Bool.or_eq_true] at this
      rcases this with h | h
      · rcases (reMapOf_isSome_iff raw f).1 h with h | h
        · exact Or.inl h
        · exact Or.inr (Or.inl h)
      · exact Or.inr (Or.inr h)
    · intro m hm
      simp only [List.mem_append] at hm
      rcases hm with (hm | hm) | hm
      · exact h5 m hm
      · exact h6 m hm
      · exact h7 m hm
  · rintro ⟨h1, h2, h3, h4, h5⟩
    refine ⟨?_, ?_, ?_, ?_, ?_, ?_, ?_⟩
    · intro p hp
      obtain ⟨ha, hb⟩ := h1 p hp
      simp only [portOK, Bool.and_eq_true, Bool.or_eq_true, beq_iff_eq]
      exact ⟨ha, by rcases hb with h | h | h <;> simp [h]⟩
    · intro k hk; exact (reMapOf_isSome_iff raw k).2 (h2 k hk)
    · intro kv hkv; exact Option.isSome_iff_exists.2 (h3 kv hkv)
    · intro f hf
      simp only [fieldOK, Bool.or_eq_true]
      rcases h4 f hf with h | h | h
      · exact Or.inl ((reMapOf_isSome_iff raw f).2 (Or.inl h))
      · exact Or.inl ((reMapOf_isSome_iff raw f).2 (Or.inr h))
      · exact Or.inr h
    · intro m hm; exact h5 m (by simp [hm])
    · intro m hm; exact h5 m (by simp [hm])
    · intro m hm; exact h5 m (by simp [hm])

section EndToEnd
open Goflow.C14Map Goflow.Netflow

/-- `ipfix.mapping` for version 10, `netflowv9.mapping` otherwise -/
def rawMapper (raw : RawConfig) (version : Nat) : List RawMap := if version = 10 then raw.ipfix else raw.v9

def rawKeyMatch (df : DataField) (e : RawMap) : Bool :=
  e.penProvided == df.penProvided && e.pen == df.pen && e.type == df.type

def compileEntry (raw : RawConfig) (m : RawMap) : NetflowMapEntry := ⟨m.penProvided, m.pen, m.type, destOf raw m⟩

theorem lastPerKey_sublist (ms : List RawMap) : (lastPerKey ms).Sublist ms := by
  fun_induction lastPerKey ms with
  | case1 => exact .slnil
  | case2 m ms _ ih => exact ih.cons m
  | case3 m ms _ ih => exact ih.cons_cons m

theorem lastPerKey_subset (ms : List RawMap) (m : RawMap) (h : m ∈ lastPerKey ms) : m ∈ ms :=
  (lastPerKey_sublist ms).subset h

theorem mem_lastPerKey_iff (ms : List RawMap) (m : RawMap) :
    m ∈ lastPerKey ms ↔ ∃ a b, ms = a ++ m :: b ∧ ∀ x ∈ b, sameKey m x = false := by
  fun_induction lastPerKey ms with
  | case1 => simp
  | case2 x xs hx ih =>
    rw [ih]
    constructor
    · rintro ⟨a, b, rfl, hb⟩; exact ⟨x :: a, b, rfl, hb⟩
    · rintro ⟨a, b, hab, hb⟩
      cases a with
      | nil =>
        obtain ⟨rfl, rfl⟩ := List.cons.inj hab
        obtain ⟨y, hy, hxy⟩ := List.any_eq_true.1 hx
        rw [hb y hy] at hxy; cases hxy
      | cons a0 a => exact ⟨a, b, (List.cons.inj hab).2, hb⟩
  | case3 x xs hx ih =>
    rw [List.mem_cons, ih]
    constructor
    · rintro (rfl | ⟨a, b, rfl, hb⟩)
      · refine ⟨[], xs, rfl, fun y hy => ?_⟩
        cases hxy : sameKey m y with
        | false => rfl
        | true => exact absurd (List.any_eq_true.2 ⟨y, hy, hxy⟩) hx
      · exact ⟨x :: a, b, rfl, hb⟩
    · rintro ⟨a, b, hab, hb⟩
      cases a with
      | nil => exact Or.inl (List.cons.inj hab).1.symm
      | cons a0 a => exact Or.inr ⟨a, b, (List.cons.inj hab).2, hb⟩

theorem lastPerKey_of_distinct (ms : List RawMap) (h : ms.Pairwise (fun a b => sameKey a b = false)) : lastPerKey ms = ms := by
  fun_induction lastPerKey ms with
  | case1 => rfl
  | case2 m ms hx ih =>
    obtain ⟨y, hy, hk⟩ := List.any_eq_true.1 hx
    rw [(List.pairwise_cons.1 h).1 y hy] at hk; cases hk
  | case3 m ms hx ih => rw [ih (List.pairwise_cons.1 h).2]

def rawKey (pp : Bool) (pen type : Nat) (e : RawMap) : Bool := e.penProvided == pp && e.pen == pen && e.type == type

theorem rawKey_of_sameKey {pp : Bool} {pen type : Nat} {a b : RawMap} (h : sameKey a b = true) :
    rawKey pp pen type a = rawKey pp pen type b := by
  simp only [sameKey, Bool.and_eq_true, beq_iff_eq] at h
  obtain ⟨⟨h1, h2⟩, h3⟩ := h
  simp [rawKey, h1, h2, h3]

theorem filter_lastPerKey_getLast? (ms : List RawMap) (pp : Bool) (pen type : Nat) :
    ((lastPerKey ms).filter (rawKey pp pen type)).getLast? = (ms.filter (rawKey pp pen type)).getLast? := by
  fun_induction lastPerKey ms with
  | case1 => rfl
  | case2 m ms hx ih =>
    rw [ih, List.filter_cons]
    split
    · rename_i hm
      obtain ⟨y, hy, hxy⟩ := List.any_eq_true.1 hx
      have hmem : y ∈ ms.filter (rawKey pp pen type) := List.mem_filter.2 ⟨hy, by rw [← rawKey_of_sameKey hxy]; exact hm⟩
      cases hf : ms.filter (rawKey pp pen type) with
      | nil => rw [hf] at hmem; cases hmem
      | cons z zs => rw [List.getLast?_cons_cons]
    · rfl
  | case3 m ms hx ih =>
    rw [List.filter_cons, List.filter_cons]
    split
    · rw [List.getLast?_cons, List.getLast?_cons, ih]
    · exact ih

theorem filter_map_compileEntry (raw : RawConfig) (ms : List RawMap) (pp : Bool) (pen type : Nat) :
    (ms.map (compileEntry raw)).filter (keyMatch pp pen type) = (ms.filter (rawKey pp pen type)).map (compileEntry raw) := by
  rw [List.filter_map]
  rfl

/-- the lookup does not see which statements the Go map dropped -/
theorem lookupNetflow_lastPerKey (raw : RawConfig) (ms : List RawMap) (pp : Bool) (pen type : Nat) :
    lookupNetflow ((lastPerKey ms).map (compileEntry raw)) pp pen type =
      lookupNetflow (ms.map (compileEntry raw)) pp pen type := by
  unfold lookupNetflow
  change (match (((lastPerKey ms).map (compileEntry raw)).filter (keyMatch pp pen type)).getLast? with
      | some e => some e.field | none => none) =
    (match ((ms.map (compileEntry raw)).filter (keyMatch pp pen type)).getLast? with
      | some e => some e.field | none => none)
  rw [filter_map_compileEntry, filter_map_compileEntry, List.getLast?_map, List.getLast?_map, filter_lastPerKey_getLast?]

theorem mapperOf_compiled (raw : RawConfig) (isSlice0 : List (String × Bool)) (c : Compiled)
    (h : compile raw isSlice0 = .ok c) (version : Nat) :
    mapperOf c.cfg version = (lastPerKey (rawMapper raw version)).map (compileEntry raw) := by
  obtain ⟨h1, h2, _⟩ := compile_netflow_entries raw isSlice0 c h
  unfold mapperOf rawMapper
  split
  · rw [h1]; rfl
  · rw [h2]; rfl

theorem lookup_compiled (raw : RawConfig) (isSlice0 : List (String × Bool)) (c : Compiled)
    (h : compile raw isSlice0 = .ok c) (version : Nat) (pp : Bool) (pen type : Nat) :
    lookupNetflow (mapperOf c.cfg version) pp pen type =
      lookupNetflow ((rawMapper raw version).map (compileEntry raw)) pp pen type := by
  rw [mapperOf_compiled raw isSlice0 c h, lookupNetflow_lastPerKey]

theorem compile_netflow_entries_distinct (raw : RawConfig) (isSlice0 : List (String × Bool)) (c : Compiled)
    (h : compile raw isSlice0 = .ok c)
    (h10 : raw.ipfix.Pairwise (fun a b => sameKey a b = false)) (h9 : raw.v9.Pairwise (fun a b => sameKey a b = false)) :
    c.cfg.ipfix = raw.ipfix.map (compileEntry raw) ∧ c.cfg.v9 = raw.v9.map (compileEntry raw) := by
  obtain ⟨h1, h2, _⟩ := compile_netflow_entries raw isSlice0 c h
  rw [h1, h2, lastPerKey_of_distinct _ h10, lastPerKey_of_distinct _ h9]
  exact ⟨rfl, rfl⟩

/-- which statement wins: of the statements of the version's list whose key is the field's, the last one in file order
    (the Go map is filled in file order) -/
theorem file_lookup_last (raw : RawConfig) (isSlice0 : List (String × Bool)) (c : Compiled)
    (h : compile raw isSlice0 = .ok c) (version : Nat) (df : DataField) (a b : List RawMap) (e : RawMap)
    (hfile : rawMapper raw version = a ++ e :: b) (he : rawKeyMatch df e = true)
    (hb : ∀ e' ∈ b, rawKeyMatch df e' = false) :
    lookupNetflow (mapperOf c.cfg version) df.penProvided df.pen df.type = some (destOf raw e) := by
  rw [lookup_compiled raw isSlice0 c h, hfile, List.map_append, List.map_cons]
  refine lookupNetflow_last _ _ (compileEntry raw e) _ _ _ he ?_
  intro e' he'
  obtain ⟨r, hr, rfl⟩ := List.mem_map.1 he'
  exact hb r hr

theorem file_lookup_none (raw : RawConfig) (isSlice0 : List (String × Bool)) (c : Compiled)
    (h : compile raw isSlice0 = .ok c) (version : Nat) (df : DataField)
    (hno : ∀ e ∈ rawMapper raw version, rawKeyMatch df e = false) :
    lookupNetflow (mapperOf c.cfg version) df.penProvided df.pen df.type = none := by
  rw [lookup_compiled raw isSlice0 c h, lookupNetflow_none_iff]
  intro e' he'
  obtain ⟨r, hr, rfl⟩ := List.mem_map.1 he'
  exact hno r hr

/-- An accepted file, a data field carrying the bytes `v` whose (penProvided, pen, type) is the key of statement `e` of
    the version's list, `e` being the last such statement: the custom step of that field writes `v` into the
    destination `destOf raw e` (a declared protobuf field, or the column the destination names) exactly as
    `mapCustomRef` says. -/
theorem file_element_mapping (raw : RawConfig) (isSlice0 : List (String × Bool)) (c : Compiled)
    (h : compile raw isSlice0 = .ok c) (version : Nat) (df : DataField) (v : Bytes) (m : FlowMsg)
    (a b : List RawMap) (e : RawMap)
    (hfile : rawMapper raw version = a ++ e :: b) (he : rawKeyMatch df e = true)
    (hb : ∀ e' ∈ b, rawKeyMatch df e' = false) (hs : Sane (destOf raw e) v) :
    customStep (mapperOf c.cfg version) df v m = .ok (mapCustomRef m v (destOf raw e)) := by
  unfold customStep
  rw [file_lookup_last raw isSlice0 c h version df a b e hfile he hb]
  exact mapCustom_spec m v (destOf raw e) hs

/-- … and inside the per-field loop of the converter: the mapped value is in the message the standard
    conversion of the same field and all later fields start from -/
theorem file_element_mapping_record (raw : RawConfig) (isSlice0 : List (String × Bool)) (c : Compiled)
    (h : compile raw isSlice0 = .ok c) (version baseTimeNs uptime : Nat) (df : DataField) (rest : List DataField)
    (v : Bytes) (hv : df.value = some v) (m : FlowMsg) (a b : List RawMap) (e : RawMap)
    (hfile : rawMapper raw version = a ++ e :: b) (he : rawKeyMatch df e = true)
    (hb : ∀ e' ∈ b, rawKeyMatch df e' = false) (hs : Sane (destOf raw e) v) :
    convertFields (some c.cfg) version baseTimeNs uptime (df :: rest) m =
      match standardStep (some c.cfg) version baseTimeNs uptime df v (mapCustomRef m v (destOf raw e)) with
      | .error err => .error err
      | .ok m2 => convertFields (some c.cfg) version baseTimeNs uptime rest m2 := by
  rw [element_mapping_spec c.cfg version baseTimeNs uptime df rest m v hv,
    file_element_mapping raw isSlice0 c h version df v m a b e hfile he hb hs]
  dsimp only
  cases standardStep (some c.cfg) version baseTimeNs uptime df v (mapCustomRef m v (destOf raw e)) <;> rfl

/-- an enterprise-specific element mapped to a declared field: nothing but the custom field changes -/
theorem file_enterprise_element (raw : RawConfig) (isSlice0 : List (String × Bool)) (c : Compiled)
    (h : compile raw isSlice0 = .ok c) (version baseTimeNs uptime : Nat) (df : DataField) (rest : List DataField)
    (v : Bytes) (hv : df.value = some v) (hpen : df.penProvided = true) (m : FlowMsg) (a b : List RawMap) (e : RawMap)
    (hfile : rawMapper raw version = a ++ e :: b) (he : rawKeyMatch df e = true)
    (hb : ∀ e' ∈ b, rawKeyMatch df e' = false) (hs : Sane (destOf raw e) v) :
    convertFields (some c.cfg) version baseTimeNs uptime (df :: rest) m =
      convertFields (some c.cfg) version baseTimeNs uptime rest (mapCustomRef m v (destOf raw e)) := by
  rw [file_element_mapping_record raw isSlice0 c h version baseTimeNs uptime df rest v hv m a b e hfile he hb hs,
    standardStep_enterprise _ _ _ _ _ _ _ hpen]

/-- traffic the file does not match is unaffected: a field whose key no statement of the version's list has is
    converted as without any mapping file section for it -/
theorem file_element_unmapped (raw : RawConfig) (isSlice0 : List (String × Bool)) (c : Compiled)
    (h : compile raw isSlice0 = .ok c) (version baseTimeNs uptime : Nat) (df : DataField) (rest : List DataField)
    (v : Bytes) (hv : df.value = some v) (m : FlowMsg)
    (hno : ∀ e ∈ rawMapper raw version, rawKeyMatch df e = false) :
    customStep (mapperOf c.cfg version) df v m = .ok m ∧
    convertFields (some c.cfg) version baseTimeNs uptime (df :: rest) m =
      match standardStep (some c.cfg) version baseTimeNs uptime df v m with
      | .error err => .error err
      | .ok m2 => convertFields (some c.cfg) version baseTimeNs uptime rest m2 := by
  have hcs : customStep (mapperOf c.cfg version) df v m = .ok m := by
    unfold customStep
    rw [file_lookup_none raw isSlice0 c h version df hno]
  refine ⟨hcs, ?_⟩
  rw [element_mapping_spec c.cfg version baseTimeNs uptime df rest m v hv, hcs]
  dsimp only
  cases standardStep (some c.cfg) version baseTimeNs uptime df v m <;> rfl

/-- the layer statements of one key: the statements of the file with that layer name, in file order, offsets /
    lengths / encap flags as written -/
theorem file_layer_entries (raw : RawConfig) (isSlice0 : List (String × Bool)) (c : Compiled)
    (h : compile raw isSlice0 = .ok c) (k : String) :
    lookupLayer c.cfg.layers k =
      (raw.layers.filter (fun m => m.layer == k)).map (fun m => ⟨m.layer, m.encap, m.offset, m.length, destOf raw m⟩) := by
  rw [(compile_netflow_entries raw isSlice0 c h).2.2.1]
  unfold lookupLayer
  rw [List.filter_map]
  rfl

end EndToEnd

/-! the hypotheses are satisfiable -/

namespace Example

/-- exercises: a name declared twice, an enterprise element, the same element id twice, a documented column name, a Go
    column name, an unknown name -/
def raw : RawConfig :=
  { fields := ["type", "src_addr", "in_if", "flowid", "vendor_str", "icmp_name"],
    key := ["src_addr", "flowid"],
    render := [("src_addr", "ip"), ("flowid", "none"), ("time_received_ns", "datetimenano")],
    rename := [("src_addr", str "source")],
    protobuf := [⟨"flowid", 1000, "string", true⟩, ⟨"vendor_str", 1001, "bytes", true⟩, ⟨"flowid", 1002, "varint", false⟩],
    ipfix := [{ penProvided := true, pen := 9, type := 100, destination := "flowid", endian := "little" },
              { type := 400, destination := "in_if" },
              { type := 400, destination := "vendor_str" },
              { type := 401, destination := "OutIf", endian := "big" },
              { type := 402, destination := "nowhere" }],
    v9 := [{ type := 400, destination := "bytes", endian := "big" }],
    layers := [{ layer := "ipv4", offset := 64, length := 8, destination := "flowid" },
               { layer := "udp", encap := true, offset := 0, length := 16, destination := "vendor_str", endian := "little" }],
    ports := [⟨"udp", "both", 6081, "geneve"⟩, ⟨"udp", "dst", 3544, "teredo-dst"⟩] }

theorem raw_accepted : Accepted raw := by decide +kernel

example : ∃ c, compile raw initialIsSlice = .ok c := (compile_accepts_iff raw initialIsSlice).2 raw_accepted

example : (cfgOf raw).ipfix =
    [⟨true, 9, 100, ⟨"flowid", true, 1002, .varint, false⟩⟩,
     ⟨false, 0, 400, ⟨"vendor_str", false, 1001, .string, true⟩⟩,
     ⟨false, 0, 401, ⟨"OutIf", false, 0, .none, false⟩⟩,
     ⟨false, 0, 402, ⟨"nowhere", false, 0, .none, false⟩⟩] := by decide +kernel
example : (cfgOf raw).v9 = [⟨false, 0, 400, ⟨"Bytes", false, 0, .none, false⟩⟩] := by decide +kernel
example : (cfgOf raw).layers =
    [⟨"ipv4", false, 64, 8, ⟨"flowid", false, 1002, .varint, false⟩⟩,
     ⟨"udp", true, 0, 16, ⟨"vendor_str", true, 1001, .string, true⟩⟩] := by decide +kernel
example : (cfgOf raw).ports =
    [⟨"udp", "src", 6081, "geneve"⟩, ⟨"udp", "dst", 6081, "geneve"⟩, ⟨"udp", "dst", 3544, "teredo-dst"⟩] := by decide +kernel

/-- element 400 is mapped twice: the last statement wins -/
example : lookupNetflow (cfgOf raw).ipfix false 0 400 = some ⟨"vendor_str", false, 1001, .string, true⟩ := by decide +kernel

example : (fmtOf raw initialIsSlice).fields = ["type", "src_addr", "in_if", "flowid", "vendor_str", "icmp_name"] ∧
    (fmtOf raw initialIsSlice).key = ["src_addr", "flowid"] ∧
    (fmtOf raw initialIsSlice).render.lookup "SrcAddr" = some "IPRenderer" ∧
    (fmtOf raw initialIsSlice).render.lookup "flowid" = some "NilRenderer" ∧
    (fmtOf raw initialIsSlice).render.lookup "TimeReceivedNs" = some "DateTimeNanoRenderer" ∧
    (fmtOf raw initialIsSlice).render.lookup "DstAddr" = some "IPRenderer" ∧
    (fmtOf raw initialIsSlice).numToPb = [(1002, ⟨"flowid", 1002, "varint", false⟩), (1001, ⟨"vendor_str", 1001, "bytes", true⟩),
      (1000, ⟨"flowid", 1000, "string", true⟩)] ∧
    (fmtOf raw initialIsSlice).isSlice.lookup "flowid" = some false ∧
    (fmtOf raw initialIsSlice).isSlice.lookup "vendor_str" = some true ∧
    (fmtOf raw initialIsSlice).isSlice.lookup "AsPath" = some true ∧
    (fmtOf raw initialIsSlice).reMap.lookup "flowid" = some "" ∧
    (fmtOf raw initialIsSlice).reMap.lookup "in_if" = some "InIf" := by decide +kernel

/-- files the loader rejects, one per check -/
example : ¬ Accepted { raw with ports := [⟨"udp", "dst", 4789, "vxlan"⟩] } :=
  fun h => absurd (h.1 _ List.mem_cons_self) (by decide +kernel)
example : ¬ Accepted { raw with ports := [⟨"udp", "up", 4789, "geneve"⟩] } :=
  fun h => absurd (h.1 _ List.mem_cons_self) (by decide +kernel)
example : ¬ Accepted { raw with key := ["no_such_key"] } :=
  fun h => absurd (h.2.1 _ List.mem_cons_self) (by decide +kernel)
example : ¬ Accepted { raw with render := [("bytes", "network")] } :=
  fun h => absurd (h.2.2.1 _ List.mem_cons_self) (by decide +kernel)
example : ¬ Accepted { raw with fields := ["type", "no_such_field"] } :=
  fun h => absurd (h.2.2.2.1 "no_such_field" (by simp)) (by decide +kernel)
example : ¬ Accepted { raw with protobuf := [⟨"flowid", 1000, "float", false⟩] } :=
  fun h => absurd (h.2.2.2.2.2.2 _ List.mem_cons_self) (by decide +kernel)
/-- … an illegal type is harmless as long as no statement names the field -/
example : Accepted { raw with protobuf := raw.protobuf ++ [⟨"unused", 1003, "float", false⟩] } := by decide +kernel

/-- the enterprise element (pen 9, id 100) goes little-endian into field 1002 … -/
example (c : Compiled) (h : compile raw initialIsSlice = .ok c) (m : FlowMsg) (rest : List Goflow.Netflow.DataField) :
    Producer.convertFields (some c.cfg) 10 0 0 (⟨true, 100, 9, some [1, 2]⟩ :: rest) m =
      Producer.convertFields (some c.cfg) 10 0 0 rest { m with unk := m.unk ++ (appendTag 1002 0 ++ appendVarint 0x0201) } :=
  file_enterprise_element raw initialIsSlice c h 10 0 0 ⟨true, 100, 9, some [1, 2]⟩ rest [1, 2] rfl rfl m []
    (raw.ipfix.drop 1) _ rfl (by decide) (by decide) (by decide)

/-- … of the two statements for element 400 the last (into `vendor_str`) applies, not the first (`in_if`) -/
example (c : Compiled) (h : compile raw initialIsSlice = .ok c) (m : FlowMsg) :
    C14Map.customStep (C14Map.mapperOf c.cfg 10) ⟨false, 400, 0, some [0x61]⟩ [0x61] m =
      .ok { m with unk := m.unk ++ (appendTag 1001 2 ++ [1] ++ [0x61]) } :=
  file_element_mapping raw initialIsSlice c h 10 ⟨false, 400, 0, some [0x61]⟩ [0x61] m (raw.ipfix.take 2) (raw.ipfix.drop 3) _ rfl
    (by decide) (by decide) (by decide)

/-- … the same element in a NetFlow v9 packet follows the other list: into the column `Bytes` -/
example (c : Compiled) (h : compile raw initialIsSlice = .ok c) (m : FlowMsg) :
    C14Map.customStep (C14Map.mapperOf c.cfg 9) ⟨false, 400, 0, some [1, 0]⟩ [1, 0] m = .ok { m with bytes := 256 } :=
  file_element_mapping raw initialIsSlice c h 9 ⟨false, 400, 0, some [1, 0]⟩ [1, 0] m [] [] _ rfl
    (by decide) (by decide) (by decide)

/-- … and an element no statement names leaves the message alone -/
example (c : Compiled) (h : compile raw initialIsSlice = .ok c) (m : FlowMsg) :
    C14Map.customStep (C14Map.mapperOf c.cfg 10) ⟨true, 100, 10, some [1]⟩ [1] m = .ok m :=
  (file_element_unmapped raw initialIsSlice c h 10 0 0 ⟨true, 100, 10, some [1]⟩ [] [1] rfl m (by decide)).1

/-- a statement replaced by a later one with the same (penprovided, pen, field) key is not in the Go map when
    `finalizeNetFlowMapper` runs: its destination of illegal type cannot make the loader fail, and the element
    goes to the destination of the later statement … -/
def shadowed : RawConfig :=
  { protobuf := [⟨"bad", 1000, "float", false⟩, ⟨"good", 1001, "varint", false⟩],
    ipfix := [{ type := 400, destination := "bad" }, { type := 400, destination := "good" }] }

theorem shadowed_accepted : Accepted shadowed := by decide +kernel
example : ∃ c, compile shadowed initialIsSlice = .ok c := (compile_accepts_iff _ _).2 shadowed_accepted
example : (cfgOf shadowed).ipfix = [⟨false, 0, 400, ⟨"good", false, 1001, .varint, false⟩⟩] := by decide +kernel

/-- … with the two statements swapped the surviving one is the illegal one: rejected -/
def shadowedSwapped : RawConfig :=
  { shadowed with ipfix := [{ type := 400, destination := "good" }, { type := 400, destination := "bad" }] }

example : ¬ Accepted shadowedSwapped := by decide +kernel
example : compile shadowedSwapped initialIsSlice = .error () := (compile_rejects_iff _ _).2 (by decide +kernel)

/-- the same for NetFlow v9; statements with different keys are all finalized; layer statements are kept in a
    list per layer, so every one of them is finalized whatever follows -/
example : Accepted { shadowed with ipfix := [], v9 := shadowed.ipfix } := by decide +kernel
example : ¬ Accepted { shadowed with ipfix := [], v9 := shadowedSwapped.ipfix } := by decide +kernel
example : ¬ Accepted { shadowed with ipfix := [{ type := 400, destination := "bad" }, { type := 401, destination := "good" }] } := by decide +kernel
example : ¬ Accepted { shadowed with ipfix := [{ penProvided := true, pen := 9, type := 400, destination := "bad" },
    { type := 400, destination := "good" }] } := by decide +kernel
example : ¬ Accepted { shadowed with ipfix := [], layers := [{ layer := "udp", length := 8, destination := "bad" },
    { layer := "udp", length := 8, destination := "good" }] } := by decide +kernel

end Example

end Goflow.C14Compile
