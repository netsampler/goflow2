import Goflow.Spec.Netflow
import Proofs.Lemmas.Fields
import Proofs.Lemmas.Netflow
/-!
  C03 — NetFlow v9 / IPFIX wire decoding is exact: decode (encode M) = M for every well-formed
  abstract message M, where `encode` is the RFC 3954 / RFC 7011 encoder of Goflow/Spec/Netflow.lean.
  The proof is layered: field specifier → template record → template set → data record → data set →
  set → message. From the set level on it is done once, for messages whose data sets may also refer
  to templates the collector does not hold (`C07E2E.roundtripU`, under the namespace of the end-to-end
  statements of Proofs/C07E2E.lean that need it); `roundtrip` is the case where every template is known.
-/
namespace Goflow.C03
open Goflow Goflow.Netflow Goflow.Spec.Netflow

/-- v9 has neither enterprise fields nor variable length -/
def FieldWF (version : Nat) (f : SField) : Prop :=
  f.id < 0x8000 ∧ f.length < 65536 ∧
  (match f.ent with | some pen => pen < 2 ^ 32 ∧ version = 10 | none => True) ∧
  (version = 9 → f.length ≠ 0xffff)

instance (version : Nat) (f : SField) : Decidable (FieldWF version f) := by
  unfold FieldWF; cases f.ent <;> infer_instance

/-- fixed length exactly; variable length below 2^16, short form only below 255 -/
def ValueWF (f : SField) (v : SValue) : Prop :=
  if f.length = 0xffff then v.bytes.length < 65536 ∧ (v.long = false → v.bytes.length < 255)
  else v.bytes.length = f.length

instance (f : SField) (v : SValue) : Decidable (ValueWF f v) := by unfold ValueWF; infer_instance

def RecordWF : List SField → List SValue → Prop
  | [], [] => True
  | f :: fs, v :: vs => ValueWF f v ∧ RecordWF fs vs
  | _, _ => False

private theorem readFields2 (a b : Nat) (rest : Bytes) (ha : a < 65536) (hb : b < 65536) :
    readFields [2, 2] (encBE 2 a ++ (encBE 2 b ++ rest)) = .ok ([a, b], rest) := by
  have : Fits [2, 2] [a, b] := by simp [Fits]; omega
  have := readFields_enc [2, 2] [a, b] rest this
  simpa [encFields] using this

private theorem readFields3 (a b c : Nat) (rest : Bytes) (ha : a < 65536) (hb : b < 65536) (hc : c < 65536) :
    readFields [2, 2, 2] (encBE 2 a ++ (encBE 2 b ++ (encBE 2 c ++ rest))) = .ok ([a, b, c], rest) := by
  have : Fits [2, 2, 2] [a, b, c] := by simp [Fits]; omega
  have := readFields_enc [2, 2, 2] [a, b, c] rest this
  simpa [encFields] using this

/-- the loop body of DecodeTemplateSet, along the whole field list -/
theorem field_roundtrip (version : Nat) (fs : List SField) (rest : Bytes)
    (hwf : ∀ f ∈ fs, FieldWF version f) :
    decodeTemplateFields version fs.length (fs.flatMap encField ++ rest) = .ok (fs.map expField, rest) := by
  induction fs with
  | nil => simp [decodeTemplateFields]
  | cons f fs ih =>
    have hf := hwf f (by simp)
    have ih' := ih (fun g hg => hwf g (by simp [hg]))
    obtain ⟨hid, hlen, hent, _⟩ := hf
    simp only [List.length_cons, List.flatMap_cons, List.map_cons, List.append_assoc]
    unfold decodeTemplateFields
    cases he : f.ent with
    | none =>
      simp only [encField, he, List.append_assoc]
      rw [readFields2 _ _ _ (by omega) hlen]
      have : ¬ (version = 10 ∧ f.id ≥ 0x8000) := by omega
      simp only [this, if_false, ih', expField, he]
    | some pen =>
      rw [he] at hent
      obtain ⟨hpen, hv⟩ := hent
      subst hv
      simp only [encField, he, List.append_assoc]
      rw [readFields2 _ _ _ (by omega) hlen]
      have : 10 = 10 ∧ f.id + 0x8000 ≥ 0x8000 := ⟨rfl, by omega⟩
      simp only [this, and_self, if_true]
      rw [readU_enc _ (by simpa using hpen)]
      simp only
      rw [ih']
      simp only [expField, he, Nat.add_sub_cancel]

/-- DecodeField, with the enterprise bit honoured for IPFIX only, is the loop body of DecodeTemplateSet -/
theorem decodeFieldsN_eq (version n : Nat) (b : Bytes) :
    decodeFieldsN (version == 10) n b = decodeTemplateFields version n b := by
  induction n generalizing b with
  | zero => rfl
  | succ n ih =>
    simp only [decodeFieldsN, decodeField, decodeTemplateFields, beq_iff_eq, ih]
    cases readFields [2, 2] b with
    | error e => rfl
    | ok r =>
      rcases r with ⟨_ | ⟨t, _ | ⟨l, _ | _⟩⟩, b1⟩
      · rfl
      · rfl
      · by_cases h : version = 10 ∧ t ≥ 0x8000
        · simp only [h, and_self, if_true]
          cases readU 4 b1 <;> rfl
        · simp only [h, if_false]
      · rfl

theorem optionField_roundtrip (version : Nat) (fs : List SField) (rest : Bytes)
    (hwf : ∀ f ∈ fs, FieldWF version f) :
    decodeFieldsN (version == 10) fs.length (fs.flatMap encField ++ rest) = .ok (fs.map expField, rest) := by
  rw [decodeFieldsN_eq, field_roundtrip version fs rest hwf]

def TemplateRecWF (version : Nat) (r : Nat × List SField) : Prop :=
  r.1 < 65536 ∧ r.2.length < 65536 ∧ ∀ f ∈ r.2, FieldWF version f

theorem templateSet_roundtrip (version : Nat) (recs : List (Nat × List SField)) (pad : Bytes) (fuel : Nat)
    (hwf : ∀ r ∈ recs, TemplateRecWF version r) (hpad : pad.length < 4) (hfuel : recs.length < fuel) :
    decodeTemplateSet version fuel (recs.flatMap encTemplateRec ++ pad) =
      .ok (recs.map fun r => ⟨r.1, r.2.length, r.2.map expField⟩) := by
  induction recs generalizing fuel with
  | nil =>
    cases fuel with
    | zero => simp at hfuel
    | succ fuel =>
      have : ¬ 4 ≤ pad.length := by omega
      simp [decodeTemplateSet, this]
  | cons r recs ih =>
    cases fuel with
    | zero => simp at hfuel
    | succ fuel =>
      obtain ⟨tid, fs⟩ := r
      obtain ⟨htid, hn, hfs⟩ := hwf (tid, fs) (by simp)
      simp only at htid hn hfs
      have ih' := ih fuel (fun q hq => hwf q (by simp [hq])) (by simpa using hfuel)
      simp only [List.flatMap_cons, encTemplateRec, List.append_assoc, List.map_cons]
      unfold decodeTemplateSet
      have hlen : 4 ≤ (encBE 2 tid ++ (encBE 2 fs.length ++ (List.flatMap encField fs ++
          (List.flatMap encTemplateRec recs ++ pad)))).length := by
        simp only [List.length_append, encBE_length]; omega
      simp only [hlen, if_true]
      rw [readFields2 _ _ _ htid hn]
      simp only
      rw [field_roundtrip version fs _ hfs]
      simp only
      rw [ih']

def OptsRecWF (version : Nat) (r : Nat × List SField × List SField) : Prop :=
  r.1 < 65536 ∧ 4 * r.2.1.length < 65536 ∧ 4 * r.2.2.length < 65536 ∧ r.2.1.length + r.2.2.length < 65536 ∧
  (∀ f ∈ r.2.1, FieldWF version f) ∧ (∀ f ∈ r.2.2, FieldWF version f)

/-- v9 splits scopes from options by byte lengths -/
theorem optionsTemplateSet_roundtrip_v9 (recs : List (Nat × List SField × List SField)) (pad : Bytes) (fuel : Nat)
    (hwf : ∀ r ∈ recs, OptsRecWF 9 r) (hpad : pad.length < 4) (hfuel : recs.length < fuel) :
    decodeNFv9OptionsTemplateSet fuel (recs.flatMap encV9OptsRec ++ pad) =
      .ok (recs.map fun r => ⟨r.1, 4 * r.2.1.length, 4 * r.2.2.length, r.2.1.map expField, r.2.2.map expField⟩) := by
  induction recs generalizing fuel with
  | nil =>
    cases fuel with
    | zero => simp at hfuel
    | succ fuel =>
      have : ¬ 4 ≤ pad.length := by omega
      simp [decodeNFv9OptionsTemplateSet, this]
  | cons r recs ih =>
    cases fuel with
    | zero => simp at hfuel
    | succ fuel =>
      obtain ⟨tid, ss, os⟩ := r
      obtain ⟨htid, hs, ho, _, hss, hos⟩ := hwf (tid, ss, os) (by simp)
      simp only at htid hs ho hss hos
      have ih' := ih fuel (fun q hq => hwf q (by simp [hq])) (by simpa using hfuel)
      simp only [List.flatMap_cons, encV9OptsRec, List.append_assoc, List.map_cons]
      unfold decodeNFv9OptionsTemplateSet
      have hlen : 4 ≤ (encBE 2 tid ++ (encBE 2 (4 * ss.length) ++ (encBE 2 (4 * os.length) ++ (List.flatMap encField ss ++
          (List.flatMap encField os ++ (List.flatMap encV9OptsRec recs ++ pad)))))).length := by
        simp only [List.length_append, encBE_length]; omega
      simp only [hlen, if_true]
      rw [readFields3 _ _ _ _ htid hs ho]
      simp only
      have e1 : 4 * ss.length / 4 = ss.length := by omega
      have e2 : 4 * os.length / 4 = os.length := by omega
      rw [e1, e2]
      have h1 := optionField_roundtrip 9 ss (List.flatMap encField os ++ (List.flatMap encV9OptsRec recs ++ pad)) hss
      have h1' : decodeFieldsN false ss.length (List.flatMap encField ss ++ (List.flatMap encField os ++
          (List.flatMap encV9OptsRec recs ++ pad))) = .ok (ss.map expField, _) := h1
      rw [h1']
      simp only
      have h2 : decodeFieldsN false os.length (List.flatMap encField os ++ (List.flatMap encV9OptsRec recs ++ pad))
          = .ok (os.map expField, _) := optionField_roundtrip 9 os _ hos
      rw [h2]
      simp only
      rw [ih']

/-- IPFIX splits scopes from options by field counts -/
theorem optionsTemplateSet_roundtrip_ipfix (recs : List (Nat × List SField × List SField)) (pad : Bytes) (fuel : Nat)
    (hwf : ∀ r ∈ recs, OptsRecWF 10 r) (hpad : pad.length < 4) (hfuel : recs.length < fuel) :
    decodeIPFIXOptionsTemplateSet fuel (recs.flatMap encIPFIXOptsRec ++ pad) =
      .ok (recs.map fun r => ⟨r.1, r.2.1.length + r.2.2.length, r.2.1.length, r.2.2.map expField, r.2.1.map expField⟩) := by
  induction recs generalizing fuel with
  | nil =>
    cases fuel with
    | zero => simp at hfuel
    | succ fuel =>
      have : ¬ 4 ≤ pad.length := by omega
      simp [decodeIPFIXOptionsTemplateSet, this]
  | cons r recs ih =>
    cases fuel with
    | zero => simp at hfuel
    | succ fuel =>
      obtain ⟨tid, ss, os⟩ := r
      obtain ⟨htid, hs, ho, hso, hss, hos⟩ := hwf (tid, ss, os) (by simp)
      simp only at htid hs ho hso hss hos
      have ih' := ih fuel (fun q hq => hwf q (by simp [hq])) (by simpa using hfuel)
      simp only [List.flatMap_cons, encIPFIXOptsRec, List.append_assoc, List.map_cons]
      unfold decodeIPFIXOptionsTemplateSet
      have hlen : 4 ≤ (encBE 2 tid ++ (encBE 2 (ss.length + os.length) ++ (encBE 2 ss.length ++ (List.flatMap encField ss ++
          (List.flatMap encField os ++ (List.flatMap encIPFIXOptsRec recs ++ pad)))))).length := by
        simp only [List.length_append, encBE_length]; omega
      simp only [hlen, if_true]
      rw [readFields3 _ _ _ _ htid hso (by omega)]
      simp only
      have h1' : decodeFieldsN true ss.length (List.flatMap encField ss ++ (List.flatMap encField os ++
          (List.flatMap encIPFIXOptsRec recs ++ pad))) = .ok (ss.map expField, _) := optionField_roundtrip 10 ss _ hss
      rw [h1']
      simp only
      have hlt : ¬ ss.length + os.length < ss.length := by omega
      simp only [hlt, if_false, Nat.add_sub_cancel_left]
      have h2 : decodeFieldsN true os.length (List.flatMap encField os ++ (List.flatMap encIPFIXOptsRec recs ++ pad))
          = .ok (os.map expField, _) := optionField_roundtrip 10 os _ hos
      rw [h2]
      simp only
      rw [ih']

private theorem expField_length (f : SField) : (expField f).length = f.length := by
  unfold expField; cases f.ent <;> rfl

private theorem nextN_append (x rest : Bytes) : nextN x.length (x ++ rest) = (x, rest) := by
  simp [nextN]

private theorem readU1_cons (x : UInt8) (rest : Bytes) : readU 1 (x :: rest) = .ok (x.toNat, rest) := by
  have : readU 1 ([x] ++ rest) = .ok (beNat [x], rest) := readU_append [x] rest rfl
  simpa [beNat] using this

/-- covers fixed-length fields, variable-length fields with the 1-byte and with the 3-byte length
    prefix, enterprise fields -/
theorem record_roundtrip (tpl : List SField) (vals : List SValue) (rest : Bytes) (hwf : RecordWF tpl vals) :
    decodeFieldValues (tpl.map expField) (encRecord tpl vals ++ rest) = .ok (expRecord tpl vals, rest) := by
  induction tpl generalizing vals with
  | nil => cases vals <;> simp_all [RecordWF, decodeFieldValues, encRecord, expRecord]
  | cons f fs ih =>
    cases vals with
    | nil => simp [RecordWF] at hwf
    | cons v vs =>
      obtain ⟨hv, hrest⟩ := hwf
      have ih' := ih vs hrest
      simp only [List.map_cons, encRecord, expRecord, List.append_assoc]
      unfold decodeFieldValues
      simp only [expField_length]
      unfold ValueWF at hv
      have hdf : (⟨(expField f).penProvided, (expField f).type, (expField f).pen, some v.bytes⟩ : DataField) = expDataField f v := by
        unfold expField expDataField; cases f.ent <;> rfl
      by_cases hvar : f.length = 0xffff
      · simp only [hvar, if_true] at hv ⊢
        obtain ⟨h16, hshort⟩ := hv
        unfold encValue
        simp only [hvar, if_true]
        by_cases hlong : v.long = true
        · simp only [hlong, if_true, List.append_assoc, List.cons_append]
          rw [readU1_cons]
          simp only [show (255 : UInt8).toNat = 0xff by rfl, if_true, List.nil_append]
          rw [readU_enc (n := 2) (v := v.bytes.length) _ (by simpa using h16)]
          simp only
          rw [nextN_append, ih', hdf]
        · have hl : v.long = false := by simpa using hlong
          have h255 := hshort hl
          simp only [hl, Bool.false_eq_true, if_false, List.append_assoc]
          rw [readU_enc (n := 1) (v := v.bytes.length) _ (by simp; omega)]
          have : ¬ v.bytes.length = 0xff := by omega
          simp only [this, if_false]
          rw [nextN_append, ih', hdf]
      · simp only [hvar, if_false] at hv ⊢
        unfold encValue
        simp only [hvar, if_false]
        rw [← hv, nextN_append, ih', hdf]

private theorem templateSize_map_cons (f : SField) (fs : List SField) :
    templateSize ((f :: fs).map expField) = (if f.length = 0xffff then 1 else f.length) + templateSize (fs.map expField) := by
  rw [List.map_cons, templateSize_cons, expField_length]

theorem encRecord_length_ge (tpl : List SField) (vals : List SValue) (hwf : RecordWF tpl vals) :
    templateSize (tpl.map expField) ≤ (encRecord tpl vals).length := by
  induction tpl generalizing vals with
  | nil => simp [templateSize]
  | cons f fs ih =>
    cases vals with
    | nil => simp [RecordWF] at hwf
    | cons v vs =>
      obtain ⟨hv, hrest⟩ := hwf
      have := ih vs hrest
      rw [templateSize_map_cons]
      simp only [encRecord, List.length_append]
      unfold ValueWF at hv
      unfold encValue
      by_cases hvar : f.length = 0xffff
      · simp only [hvar, if_true] at hv ⊢
        by_cases hl : v.long = true <;> simp [hl] <;> omega
      · simp only [hvar, if_false] at hv ⊢
        omega

theorem dataSet_roundtrip (tpl : List SField) (records : List (List SValue)) (pad : Bytes) (fuel : Nat)
    (hwf : ∀ r ∈ records, RecordWF tpl r) (hpos : 0 < templateSize (tpl.map expField))
    (hpad : pad.length < templateSize (tpl.map expField)) (hfuel : records.length < fuel) :
    decodeDataSet (tpl.map expField) fuel (records.flatMap (encRecord tpl) ++ pad) =
      .ok (records.map fun r => ⟨expRecord tpl r⟩) := by
  unfold decodeDataSet
  have : ¬ templateSize (tpl.map expField) = 0 := by omega
  simp only [this, if_false]
  induction records generalizing fuel with
  | nil =>
    cases fuel with
    | zero => simp at hfuel
    | succ fuel =>
      have : ¬ templateSize (tpl.map expField) ≤ pad.length := by omega
      simp [decodeDataSetLoop, this]
  | cons r rs ih =>
    cases fuel with
    | zero => simp at hfuel
    | succ fuel =>
      have hr := hwf r (by simp)
      have ih' := ih fuel (fun q hq => hwf q (by simp [hq])) (by simpa using hfuel)
      have hge := encRecord_length_ge tpl r hr
      simp only [List.flatMap_cons, List.append_assoc, List.map_cons]
      unfold decodeDataSetLoop
      have hle : templateSize (tpl.map expField) ≤ (encRecord tpl r ++ (List.flatMap (encRecord tpl) rs ++ pad)).length := by
        simp only [List.length_append]; omega
      simp only [hle, if_true, decodeDataSetUsingFields]
      rw [record_roundtrip tpl r _ hr]
      simp only
      rw [ih']

theorem optionsDataSet_roundtrip (scopes options : List SField) (records : List (List SValue × List SValue))
    (pad : Bytes) (fuel : Nat)
    (hwf : ∀ r ∈ records, RecordWF scopes r.1 ∧ RecordWF options r.2)
    (hpos : 0 < templateSize (scopes.map expField) + templateSize (options.map expField))
    (hpad : pad.length < templateSize (scopes.map expField) + templateSize (options.map expField))
    (hfuel : records.length < fuel) :
    decodeOptionsDataSet (scopes.map expField) (options.map expField) fuel
        (records.flatMap (fun r => encRecord scopes r.1 ++ encRecord options r.2) ++ pad) =
      .ok (records.map fun r => ⟨expRecord scopes r.1, expRecord options r.2⟩) := by
  unfold decodeOptionsDataSet
  have : ¬ templateSize (scopes.map expField) + templateSize (options.map expField) = 0 := by omega
  simp only [this, if_false]
  induction records generalizing fuel with
  | nil =>
    cases fuel with
    | zero => simp at hfuel
    | succ fuel =>
      have : ¬ templateSize (scopes.map expField) + templateSize (options.map expField) ≤ pad.length := by omega
      simp [decodeOptionsDataSetLoop, this]
  | cons r rs ih =>
    cases fuel with
    | zero => simp at hfuel
    | succ fuel =>
      obtain ⟨hs, ho⟩ := hwf r (by simp)
      have ih' := ih fuel (fun q hq => hwf q (by simp [hq])) (by simpa using hfuel)
      have hges := encRecord_length_ge scopes r.1 hs
      have hgeo := encRecord_length_ge options r.2 ho
      simp only [List.flatMap_cons, List.append_assoc, List.map_cons]
      unfold decodeOptionsDataSetLoop
      have hle : templateSize (scopes.map expField) + templateSize (options.map expField) ≤
          (encRecord scopes r.1 ++ (encRecord options r.2 ++ (List.flatMap (fun r => encRecord scopes r.1 ++ encRecord options r.2) rs ++ pad))).length := by
        simp only [List.length_append]; omega
      have hle1 : templateSize (scopes.map expField) ≤
          (encRecord scopes r.1 ++ (encRecord options r.2 ++ (List.flatMap (fun r => encRecord scopes r.1 ++ encRecord options r.2) rs ++ pad))).length := by
        simp only [List.length_append]; omega
      have hle2 : templateSize (options.map expField) ≤
          (encRecord options r.2 ++ (List.flatMap (fun r => encRecord scopes r.1 ++ encRecord options r.2) rs ++ pad)).length := by
        simp only [List.length_append]; omega
      simp only [hle, if_true, decodeDataSetUsingFields, hle1]
      rw [record_roundtrip scopes r.1 _ hs]
      simp only [hle2, if_true]
      rw [record_roundtrip options r.2 _ ho]
      simp only
      rw [ih']

def setStore (version dom : Nat) (s : Store) (set : SSet) : Store := addTemplates version dom s (announces set)

/-- against the store in force when the set is decoded: the templates of the initial store and
    those announced earlier in the message -/
def SetWF (version dom : Nat) (s : Store) : SSet → Prop
  | .template recs pad =>
      (version = 9 ∨ version = 10) ∧ (∀ r ∈ recs, TemplateRecWF version r) ∧ pad < 4 ∧
      4 + (recs.flatMap encTemplateRec).length + pad < 65536
  | .v9opts recs pad =>
      version = 9 ∧ (∀ r ∈ recs, OptsRecWF 9 r) ∧ pad < 4 ∧ 4 + (recs.flatMap encV9OptsRec).length + pad < 65536
  | .ipfixopts recs pad =>
      version = 10 ∧ (∀ r ∈ recs, OptsRecWF 10 r) ∧ pad < 4 ∧ 4 + (recs.flatMap encIPFIXOptsRec).length + pad < 65536
  | .data tid tpl records pad =>
      256 ≤ tid ∧ tid < 65536 ∧
      s.get (templateKey version dom tid) = some (.data ⟨tid, tpl.length, tpl.map expField⟩) ∧
      (∀ r ∈ records, RecordWF tpl r) ∧ 0 < templateSize (tpl.map expField) ∧ pad < templateSize (tpl.map expField) ∧
      4 + (records.flatMap (encRecord tpl)).length + pad < 65536
  | .optsData tid scopes options records pad =>
      256 ≤ tid ∧ tid < 65536 ∧
      (s.get (templateKey version dom tid) = some (.v9opts ⟨tid, 4 * scopes.length, 4 * options.length, scopes.map expField, options.map expField⟩) ∨
       s.get (templateKey version dom tid) = some (.ipfixopts ⟨tid, scopes.length + options.length, scopes.length, options.map expField, scopes.map expField⟩)) ∧
      (∀ r ∈ records, RecordWF scopes r.1 ∧ RecordWF options r.2) ∧
      0 < templateSize (scopes.map expField) + templateSize (options.map expField) ∧
      pad < templateSize (scopes.map expField) + templateSize (options.map expField) ∧
      4 + (records.flatMap fun r => encRecord scopes r.1 ++ encRecord options r.2).length + pad < 65536

def SetsWF (version dom : Nat) : Store → List SSet → Prop
  | _, [] => True
  | s, set :: rest => SetWF version dom s set ∧ SetsWF version dom (setStore version dom s set) rest

def storeAfter (version dom : Nat) (s : Store) (sets : List SSet) : Store := sets.foldl (setStore version dom) s

def MsgWF (s : Store) (m : Msg) : Prop :=
  (m.version = 9 ∨ m.version = 10) ∧ m.count < 65536 ∧ m.uptime < 2 ^ 32 ∧ m.time < 2 ^ 32 ∧ m.seq < 2 ^ 32 ∧
  m.domain < 2 ^ 32 ∧ SetsWF m.version m.domain s m.sets ∧
  (m.version = 9 → m.sets.length ≤ m.count) ∧
  (m.version = 10 → 16 + (m.sets.flatMap (encSSet m.version)).length < 65536)

theorem flatMap_length_ge {α} (xs : List α) (f : α → Bytes) (k : Nat) (h : ∀ x ∈ xs, k ≤ (f x).length) :
    k * xs.length ≤ (xs.flatMap f).length := by
  induction xs with
  | nil => simp
  | cons x xs ih =>
    have h1 := h x (by simp)
    have h2 := ih (fun y hy => h y (by simp [hy]))
    simp only [List.flatMap_cons, List.length_append, List.length_cons, Nat.mul_succ]
    omega

theorem zeros_length (n : Nat) : (zeros n).length = n := List.length_replicate ..

theorem encSet_length (id : Nat) (body : Bytes) (pad : Nat) : (encSet id body pad).length = 4 + body.length + pad := by
  simp only [encSet, List.length_append, encBE_length, zeros_length]

theorem encSSet_length_ge (version : Nat) (set : SSet) : 4 ≤ (encSSet version set).length := by
  cases set <;> simp only [encSSet, encSet_length] <;> omega

/-- DecodeMessageCommonFlowSet cuts body and padding off the payload; the set id selects the decoder -/
theorem decodeFlowSet_encSet (fuel version dom : Nat) (s : Store) (id : Nat) (body : Bytes) (pad : Nat) (rest : Bytes)
    (hid : id < 65536) (hlen : 4 + body.length + pad < 65536) :
    decodeFlowSet fuel version dom s (encSet id body pad ++ rest) =
      if id = 0 ∧ version = 9 ∨ id = 2 ∧ version = 10 then
        match decodeTemplateSet version fuel (body ++ zeros pad) with
        | .error e => .error e
        | .ok rs => .ok ⟨.template id (4 + body.length + pad) rs, false,
            addTemplates version dom s (rs.map fun r => (r.templateId, Template.data r)), rest⟩
      else if id = 1 ∧ version = 9 then
        match decodeNFv9OptionsTemplateSet fuel (body ++ zeros pad) with
        | .error e => .error e
        | .ok rs => .ok ⟨.v9opts id (4 + body.length + pad) rs, false,
            addTemplates version dom s (rs.map fun r => (r.templateId, Template.v9opts r)), rest⟩
      else if id = 3 ∧ version = 10 then
        match decodeIPFIXOptionsTemplateSet fuel (body ++ zeros pad) with
        | .error e => .error e
        | .ok rs => .ok ⟨.ipfixopts id (4 + body.length + pad) rs, false,
            addTemplates version dom s (rs.map fun r => (r.templateId, Template.ipfixopts r)), rest⟩
      else if id ≥ 256 then
        match s.get (templateKey version dom id) with
        | none => .ok ⟨.raw id (4 + body.length + pad) (body ++ zeros pad), true, s, rest⟩
        | some (.data t) =>
          match decodeDataSet t.fields fuel (body ++ zeros pad) with
          | .error e => .error e
          | .ok rs => .ok ⟨.data id (4 + body.length + pad) rs, false, s, rest⟩
        | some (.ipfixopts t) =>
          match decodeOptionsDataSet t.scopes t.options fuel (body ++ zeros pad) with
          | .error e => .error e
          | .ok rs => .ok ⟨.optsData id (4 + body.length + pad) rs, false, s, rest⟩
        | some (.v9opts t) =>
          match decodeOptionsDataSet t.scopes t.options fuel (body ++ zeros pad) with
          | .error e => .error e
          | .ok rs => .ok ⟨.optsData id (4 + body.length + pad) rs, false, s, rest⟩
      else .error .bad := by
  have hn : nextN (4 + body.length + pad - 4) (body ++ zeros pad ++ rest) = (body ++ zeros pad, rest) := by
    have : 4 + body.length + pad - 4 = (body ++ zeros pad).length := by
      rw [List.length_append, zeros_length]; omega
    rw [this]
    exact nextN_append _ _
  have hge : ¬ 4 + body.length + pad < 4 := by omega
  unfold decodeFlowSet encSet
  simp only [List.append_assoc]
  rw [readFields2 _ _ _ hid hlen]
  simp only [hge, if_false]
  rw [← List.append_assoc, hn]
  rfl

end Goflow.C03

/-!
Vocabulary of the end-to-end statements (Proofs/C07E2E.lean, hence the namespace): a data or options
data set may refer to a template id under which the collector holds nothing. The decoder hands such a
set on as raw bytes and reports template-not-found, which is not fatal. -/
namespace Goflow.C07E2E
open Goflow Goflow.Netflow Goflow.Spec.Netflow Goflow.C03

def isUnknown (version dom : Nat) (s : Store) : SSet → Bool
  | .data tid _ _ _ => (s.get (templateKey version dom tid)).isNone
  | .optsData tid _ _ _ _ => (s.get (templateKey version dom tid)).isNone
  | _ => false

/-- nothing is required of the content: without the template it cannot be cut into records -/
def UnknownSetWF (version dom : Nat) (s : Store) : SSet → Prop
  | .data tid tpl records pad =>
      256 ≤ tid ∧ tid < 65536 ∧ s.get (templateKey version dom tid) = none ∧
      4 + (records.flatMap (encRecord tpl)).length + pad < 65536
  | .optsData tid scopes options records pad =>
      256 ≤ tid ∧ tid < 65536 ∧ s.get (templateKey version dom tid) = none ∧
      4 + (records.flatMap fun r => encRecord scopes r.1 ++ encRecord options r.2).length + pad < 65536
  | _ => False

def SetWFU (version dom : Nat) (s : Store) (set : SSet) : Prop :=
  SetWF version dom s set ∨ UnknownSetWF version dom s set

def SetsWFU (version dom : Nat) : Store → List SSet → Prop
  | _, [] => True
  | s, set :: rest => SetWFU version dom s set ∧ SetsWFU version dom (setStore version dom s set) rest

/-- `C03.MsgWF`, except that data and options data sets may also refer to unknown templates -/
def MsgWFU (s : Store) (m : Msg) : Prop :=
  (m.version = 9 ∨ m.version = 10) ∧ m.count < 65536 ∧ m.uptime < 2 ^ 32 ∧ m.time < 2 ^ 32 ∧ m.seq < 2 ^ 32 ∧
  m.domain < 2 ^ 32 ∧ SetsWFU m.version m.domain s m.sets ∧
  (m.version = 9 → m.sets.length ≤ m.count) ∧
  (m.version = 10 → 16 + (m.sets.flatMap (encSSet m.version)).length < 65536)

/-- a set of an unknown template comes back as its raw bytes -/
def expSetU (version dom : Nat) (s : Store) (set : SSet) : FlowSet :=
  match set with
  | .data tid _ _ _ =>
      if isUnknown version dom s set then .raw tid (setLen version set) ((encSSet version set).drop 4) else expSet version set
  | .optsData tid _ _ _ _ =>
      if isUnknown version dom s set then .raw tid (setLen version set) ((encSSet version set).drop 4) else expSet version set
  | _ => expSet version set

def expSetsU (version dom : Nat) : Store → List SSet → List FlowSet
  | _, [] => []
  | s, set :: rest => expSetU version dom s set :: expSetsU version dom (setStore version dom s set) rest

def expectedU (s : Store) (m : Msg) : Packet :=
  { expected m with flowSets := expSetsU m.version m.domain s m.sets }

def anyUnknown (version dom : Nat) : Store → List SSet → Bool
  | _, [] => false
  | s, set :: rest => isUnknown version dom s set || anyUnknown version dom (setStore version dom s set) rest

theorem isUnknown_of_wf (version dom : Nat) (s : Store) (set : SSet) (h : SetWF version dom s set) :
    isUnknown version dom s set = false := by
  cases set with
  | data tid tpl records pad => simp [isUnknown, h.2.2.1]
  | optsData tid scopes options records pad =>
    rcases h.2.2.1 with h' | h' <;> simp [isUnknown, h']
  | _ => rfl

theorem expSetU_of_wf (version dom : Nat) (s : Store) (set : SSet) (h : SetWF version dom s set) :
    expSetU version dom s set = expSet version set := by
  have hk := isUnknown_of_wf version dom s set h
  cases set <;> simp only [expSetU, hk, Bool.false_eq_true, if_false]

private theorem encSet_drop4 (id : Nat) (body : Bytes) (pad : Nat) : (encSet id body pad).drop 4 = body ++ zeros pad := by
  have : encSet id body pad = (encBE 2 id ++ encBE 2 (4 + body.length + pad)) ++ (body ++ zeros pad) := by
    simp [encSet]
  rw [this]
  exact List.drop_left' (by simp)

/-- DecodeMessageCommonFlowSet on one encoded set, of a known or an unknown template; `fuel` only has
    to exceed the length of the encoded set -/
theorem flowSetU_roundtrip (version dom : Nat) (s : Store) (set : SSet) (rest : Bytes) (fuel : Nat)
    (hwf : SetWFU version dom s set) (hfuel : (encSSet version set).length < fuel) :
    decodeFlowSet fuel version dom s (encSSet version set ++ rest) =
      .ok ⟨expSetU version dom s set, isUnknown version dom s set, setStore version dom s set, rest⟩ := by
  cases set with
  | template recs pad =>
    obtain ⟨hv, hrecs, hpad, hlen⟩ := hwf.resolve_right (fun h => h)
    have hn : recs.length < fuel := by
      have := flatMap_length_ge recs encTemplateRec 4 (fun r _ => by
        simp only [encTemplateRec, List.length_append, encBE_length]; omega)
      simp only [encSSet, encSet_length] at hfuel
      omega
    have hts := templateSet_roundtrip version recs (zeros pad) fuel hrecs (by rwa [zeros_length]) hn
    have hcond : (if version = 9 then 0 else 2) = 0 ∧ version = 9 ∨ (if version = 9 then 0 else 2) = 2 ∧ version = 10 := by
      rcases hv with hv | hv <;> simp [hv]
    simp only [encSSet]
    rw [decodeFlowSet_encSet _ _ _ _ _ _ _ _ (by split <;> omega) hlen, if_pos hcond, hts]
    simp only [expSetU, expSet, setLen, encSSet, encSet_length, isUnknown, setStore, announces,
      List.map_map, Function.comp_def]
  | v9opts recs pad =>
    obtain ⟨hv, hrecs, hpad, hlen⟩ := hwf.resolve_right (fun h => h)
    have hn : recs.length < fuel := by
      have := flatMap_length_ge recs encV9OptsRec 4 (fun r _ => by
        simp only [encV9OptsRec, List.length_append, encBE_length]; omega)
      simp only [encSSet, encSet_length] at hfuel
      omega
    have hts := optionsTemplateSet_roundtrip_v9 recs (zeros pad) fuel hrecs (by rwa [zeros_length]) hn
    simp only [encSSet]
    have c1 : ¬ ((1:Nat) = 0 ∧ version = 9 ∨ (1:Nat) = 2 ∧ version = 10) := by omega
    rw [decodeFlowSet_encSet _ _ _ _ _ _ _ _ (by decide) hlen, if_neg c1, if_pos ⟨rfl, hv⟩, hts]
    simp only [ expSetU, expSet, setLen, encSSet, encSet_length, isUnknown, setStore, announces, List.map_map, Function.comp_def]
  | ipfixopts recs pad =>
    obtain ⟨hv, hrecs, hpad, hlen⟩ := hwf.resolve_right (fun h => h)
    have hn : recs.length < fuel := by
      have := flatMap_length_ge recs encIPFIXOptsRec 4 (fun r _ => by
        simp only [encIPFIXOptsRec, List.length_append, encBE_length]; omega)
      simp only [encSSet, encSet_length] at hfuel
      omega
    have hts := optionsTemplateSet_roundtrip_ipfix recs (zeros pad) fuel hrecs (by rwa [zeros_length]) hn
    simp only [encSSet]
    have c1 : ¬ ((3:Nat) = 0 ∧ version = 9 ∨ (3:Nat) = 2 ∧ version = 10) := by omega
    have c2 : ¬ ((3:Nat) = 1 ∧ version = 9) := by omega
    rw [decodeFlowSet_encSet _ _ _ _ _ _ _ _ (by decide) hlen, if_neg c1, if_neg c2, if_pos ⟨rfl, hv⟩, hts]
    simp only [ expSetU, expSet, setLen, encSSet, encSet_length, isUnknown, setStore, announces, List.map_map, Function.comp_def]
  | data tid tpl records pad =>
    have hh : 256 ≤ tid ∧ tid < 65536 ∧ 4 + (records.flatMap (encRecord tpl)).length + pad < 65536 := by
      rcases hwf with h | h
      · exact ⟨h.1, h.2.1, h.2.2.2.2.2.2⟩
      · exact ⟨h.1, h.2.1, h.2.2.2⟩
    obtain ⟨hlo, hhi, hlen⟩ := hh
    have c1 : ¬ (tid = 0 ∧ version = 9 ∨ tid = 2 ∧ version = 10) := by omega
    have c2 : ¬ (tid = 1 ∧ version = 9) := by omega
    have c3 : ¬ (tid = 3 ∧ version = 10) := by omega
    simp only [encSSet]
    rw [decodeFlowSet_encSet _ _ _ _ _ _ _ _ hhi hlen, if_neg c1, if_neg c2, if_neg c3, if_pos hlo]
    rcases hwf with ⟨_, _, hget, hrecs, hpos, hpad, _⟩ | ⟨_, _, hget, _⟩
    · have hn : records.length < fuel := by
        have := flatMap_length_ge records (encRecord tpl) 1 (fun r hr => by
          have := encRecord_length_ge tpl r (hrecs r hr); omega)
        simp only [encSSet, encSet_length] at hfuel
        omega
      have hts := dataSet_roundtrip tpl records (zeros pad) fuel hrecs hpos (by rwa [zeros_length]) hn
      simp only [hget, hts, expSetU, isUnknown, Option.isNone_some, Bool.false_eq_true, if_false, expSet, setLen, encSSet,
        encSet_length, setStore, announces, addTemplates]
    · simp only [hget, expSetU, isUnknown, Option.isNone_none, if_true, setLen, encSSet, encSet_length, encSet_drop4,
        setStore, announces, addTemplates]
  | optsData tid scopes options records pad =>
    have hh : 256 ≤ tid ∧ tid < 65536 ∧
        4 + (records.flatMap fun r => encRecord scopes r.1 ++ encRecord options r.2).length + pad < 65536 := by
      rcases hwf with h | h
      · exact ⟨h.1, h.2.1, h.2.2.2.2.2.2⟩
      · exact ⟨h.1, h.2.1, h.2.2.2⟩
    obtain ⟨hlo, hhi, hlen⟩ := hh
    have c1 : ¬ (tid = 0 ∧ version = 9 ∨ tid = 2 ∧ version = 10) := by omega
    have c2 : ¬ (tid = 1 ∧ version = 9) := by omega
    have c3 : ¬ (tid = 3 ∧ version = 10) := by omega
    simp only [encSSet]
    rw [decodeFlowSet_encSet _ _ _ _ _ _ _ _ hhi hlen, if_neg c1, if_neg c2, if_neg c3, if_pos hlo]
    rcases hwf with ⟨_, _, hget, hrecs, hpos, hpad, _⟩ | ⟨_, _, hget, _⟩
    · have hn : records.length < fuel := by
        have := flatMap_length_ge records (fun r => encRecord scopes r.1 ++ encRecord options r.2) 1 (fun r hr => by
          have a := encRecord_length_ge scopes r.1 (hrecs r hr).1
          have b := encRecord_length_ge options r.2 (hrecs r hr).2
          simp only [List.length_append]; omega)
        simp only [encSSet, encSet_length] at hfuel
        omega
      have hts := optionsDataSet_roundtrip scopes options records (zeros pad) fuel hrecs hpos (by rwa [zeros_length]) hn
      rcases hget with hget | hget <;>
        simp only [hget, hts, expSetU, isUnknown, Option.isNone_some, Bool.false_eq_true, if_false, expSet, setLen, encSSet,
          encSet_length, setStore, announces, addTemplates]
    · simp only [hget, expSetU, isUnknown, Option.isNone_none, if_true, setLen, encSSet, encSet_length, encSet_drop4,
        setStore, announces, addTemplates]

/-- DecodeMessageCommon: the templates announced by one set are in force for the next ones -/
theorem messageCommonU_roundtrip (version dom size startLen : Nat) (sets : List SSet) (s : Store) (i fuel : Nat)
    (hwf : SetsWFU version dom s sets) (hfuel : sets.length < fuel)
    (h9 : version = 9 → i + sets.length ≤ size)
    (h10 : version = 10 → (sets.flatMap (encSSet version)).length ≤ startLen ∧ startLen ≤ size ∧ startLen < 65536)
    (hv : version = 9 ∨ version = 10) :
    decodeSets version dom size startLen fuel i s (sets.flatMap (encSSet version)) =
      ⟨expSetsU version dom s sets, anyUnknown version dom s sets, storeAfter version dom s sets, none⟩ := by
  induction sets generalizing s i fuel with
  | nil =>
    cases fuel with
    | zero => simp at hfuel
    | succ fuel => simp [decodeSets, storeAfter, expSetsU, anyUnknown]
  | cons set rest ih =>
    cases fuel with
    | zero => simp at hfuel
    | succ fuel =>
      obtain ⟨hset, hrest⟩ := hwf
      simp only [List.flatMap_cons]
      unfold decodeSets
      have hlen4 := encSSet_length_ge version set
      have hpos : 0 < (encSSet version set ++ List.flatMap (encSSet version) rest).length := by
        simp only [List.length_append]; omega
      have hcond : ((i < size ∧ version = 9) ∨ ((startLen - (encSSet version set ++ List.flatMap (encSSet version) rest).length) % 65536 < size ∧ version = 10)) := by
        rcases hv with hv | hv
        · left
          have := h9 hv
          simp only [List.length_cons] at this
          exact ⟨by omega, hv⟩
        · right
          obtain ⟨a, b, c⟩ := h10 hv
          simp only [List.flatMap_cons] at a
          refine ⟨?_, hv⟩
          have : (startLen - (encSSet version set ++ List.flatMap (encSSet version) rest).length) < 65536 := by omega
          rw [Nat.mod_eq_of_lt this]
          omega
      simp only [hcond, hpos, and_self, if_true]
      rw [flowSetU_roundtrip version dom s set _ _ hset (by simp only [List.length_append]; omega)]
      have := ih (setStore version dom s set) (i + 1) fuel hrest (by simpa using hfuel)
        (fun hv => by have := h9 hv; simp only [List.length_cons] at this; omega)
        (fun hv => by
          obtain ⟨a, b, c⟩ := h10 hv
          simp only [List.flatMap_cons, List.length_append] at a
          exact ⟨by omega, b, c⟩)
      simp only [this, storeAfter, expSetsU, anyUnknown, List.foldl_cons]

theorem decodeMessageVersion_enc (s : Store) (v : Nat) (b : Bytes) (hv : v < 65536) :
    decodeMessageVersion s (encBE 2 v ++ b) =
      if v = 9 then decodeMessageNetFlow s b else if v = 10 then decodeMessageIPFIX s b else ⟨⟨v, [], []⟩, false, s, some .bad⟩ := by
  unfold decodeMessageVersion
  rw [readU_enc _ (by simpa using hv)]

/-- decode (encode M) for messages that may refer to unknown templates: the sets of known templates
    decode as in C03, the others come back raw and are reported as template-not-found (not fatal);
    the store afterwards holds every announced template -/
theorem roundtripU (s : Store) (m : Msg) (hwf : MsgWFU s m) :
    decodeMessageVersion s (encode m) =
      ⟨expectedU s m, anyUnknown m.version m.domain s m.sets, storeAfter m.version m.domain s m.sets, none⟩ := by
  obtain ⟨version, count, uptime, time, seq, domain, sets⟩ := m
  obtain ⟨hv, hc, hu, ht, hs, hd, hsets, h9, h10⟩ := hwf
  simp only at hv hc hu ht hs hd hsets h9 h10
  have hn : sets.length < (sets.flatMap (encSSet version)).length + 2 := by
    have := flatMap_length_ge sets (encSSet version) 4 (fun x _ => encSSet_length_ge version x)
    omega
  rcases hv with rfl | rfl
  ·
    have he : encode ⟨9, count, uptime, time, seq, domain, sets⟩ =
        encBE 2 9 ++ (encFields [2, 4, 4, 4, 4] [count, uptime, time, seq, domain] ++ sets.flatMap (encSSet 9)) := by
      simp [encode, encFields]
    obtain ⟨r, hr, hdec⟩ := decodeMessageNetFlow_ok (s := s)
      (readFields_enc [2, 4, 4, 4, 4] [count, uptime, time, seq, domain] (sets.flatMap (encSSet 9)) ⟨hc, hu, ht, hs, hd, trivial⟩)
    rw [messageCommonU_roundtrip 9 domain count _ sets s 0 _ hsets hn (fun _ => by have := h9 rfl; omega)
      (fun h => by cases h) (Or.inl rfl)] at hr
    rw [he, decodeMessageVersion_enc _ _ _ (by decide), if_pos rfl, hdec, hr]
    rfl
  ·
    have hlen := h10 rfl
    have he : encode ⟨10, count, uptime, time, seq, domain, sets⟩ =
        encBE 2 10 ++ (encFields [2, 4, 4, 4] [16 + (sets.flatMap (encSSet 10)).length, time, seq, domain] ++
          sets.flatMap (encSSet 10)) := by
      simp [encode, encFields]
    obtain ⟨size, r, hsize, hr, hdec⟩ := decodeMessageIPFIX_ok (s := s)
      (readFields_enc [2, 4, 4, 4] [16 + (sets.flatMap (encSSet 10)).length, time, seq, domain] (sets.flatMap (encSSet 10))
        ⟨hlen, ht, hs, hd, trivial⟩)
    have hsz : size = (sets.flatMap (encSSet 10)).length := by omega
    rw [messageCommonU_roundtrip 10 domain size _ sets s 0 _ hsets hn (fun h => by cases h)
      (fun _ => ⟨Nat.le_refl _, by omega, by omega⟩) (Or.inr rfl)] at hr
    rw [he, decodeMessageVersion_enc _ _ _ (by decide), if_neg (by decide), if_pos rfl, hdec, hr]
    rfl

theorem setsWFU_of_setsWF (version dom : Nat) (s : Store) (sets : List SSet) (h : SetsWF version dom s sets) :
    SetsWFU version dom s sets ∧ anyUnknown version dom s sets = false ∧
    expSetsU version dom s sets = sets.map (expSet version) := by
  induction sets generalizing s with
  | nil => exact ⟨trivial, rfl, rfl⟩
  | cons set rest ih =>
    obtain ⟨h1, h2⟩ := h
    obtain ⟨a, b, c⟩ := ih _ h2
    exact ⟨⟨Or.inl h1, a⟩, by simp only [anyUnknown, isUnknown_of_wf _ _ _ _ h1, b, Bool.or_self],
      by simp only [expSetsU, expSetU_of_wf _ _ _ _ h1, c, List.map_cons]⟩

theorem msgWFU_of_msgWF (s : Store) (m : Msg) (h : MsgWF s m) : MsgWFU s m := by
  obtain ⟨h1, h2, h3, h4, h5, h6, h7, h8, h9⟩ := h
  exact ⟨h1, h2, h3, h4, h5, h6, (setsWFU_of_setsWF _ _ _ _ h7).1, h8, h9⟩

end Goflow.C07E2E

namespace Goflow.C03
open Goflow Goflow.Netflow Goflow.Spec.Netflow Goflow.C07E2E

/-- `flowSetU_roundtrip` for a set whose template is known: nothing is reported missing -/
theorem flowSet_roundtrip (version dom : Nat) (s : Store) (set : SSet) (rest : Bytes) (fuel : Nat)
    (hwf : SetWF version dom s set) (hfuel : (encSSet version set).length < fuel) :
    ∃ o, decodeFlowSet fuel version dom s (encSSet version set ++ rest) = .ok o ∧
      o.flowSet = expSet version set ∧ o.tnf = false ∧ o.store = setStore version dom s set ∧ o.rest = rest :=
  ⟨_, flowSetU_roundtrip version dom s set rest fuel (Or.inl hwf) hfuel, expSetU_of_wf version dom s set hwf,
    isUnknown_of_wf version dom s set hwf, rfl, rfl⟩

theorem messageCommon_roundtrip (version dom size startLen : Nat) (sets : List SSet) (s : Store) (i fuel : Nat)
    (hwf : SetsWF version dom s sets) (hfuel : sets.length < fuel)
    (h9 : version = 9 → i + sets.length ≤ size)
    (h10 : version = 10 → (sets.flatMap (encSSet version)).length ≤ startLen ∧ startLen ≤ size ∧ startLen < 65536)
    (hv : version = 9 ∨ version = 10) :
    decodeSets version dom size startLen fuel i s (sets.flatMap (encSSet version)) =
      ⟨sets.map (expSet version), false, storeAfter version dom s sets, none⟩ := by
  obtain ⟨a, b, c⟩ := setsWFU_of_setsWF version dom s sets hwf
  rw [messageCommonU_roundtrip version dom size startLen sets s i fuel a hfuel h9 h10 hv, b, c]

/-- **C03** — decode (encode M) = M: header fields, the sequence of sets, every template and
    options-template record, every data and options-data record with every field value, and the
    template store afterwards; nothing is reported missing and no error is raised. -/
theorem roundtrip (s : Store) (m : Msg) (hwf : MsgWF s m) :
    decodeMessageVersion s (encode m) =
      ⟨expected m, false, storeAfter m.version m.domain s m.sets, none⟩ := by
  obtain ⟨_, b, c⟩ := setsWFU_of_setsWF m.version m.domain s m.sets hwf.2.2.2.2.2.2.1
  rw [roundtripU s m (msgWFU_of_msgWF s m hwf), b, expectedU, c]
  rcases hwf.1 with hv | hv <;> simp [expected, hv]

/-! Non-vacuity: a concrete message with every kind of set meets the hypotheses. -/

def RecordWF.dec : (fs : List SField) → (vs : List SValue) → Decidable (RecordWF fs vs)
  | [], [] => isTrue trivial
  | f :: fs, v :: vs =>
    match RecordWF.dec fs vs with
    | isTrue h => if hv : ValueWF f v then isTrue ⟨hv, h⟩ else isFalse (fun h' => hv h'.1)
    | isFalse h => isFalse (fun h' => h h'.2)
  | [], _ :: _ => isFalse (fun h => h)
  | _ :: _, [] => isFalse (fun h => h)
instance (fs : List SField) (vs : List SValue) : Decidable (RecordWF fs vs) := RecordWF.dec fs vs
instance (v : Nat) (r : Nat × List SField) : Decidable (TemplateRecWF v r) := by unfold TemplateRecWF; infer_instance
instance (v : Nat) (r : Nat × List SField × List SField) : Decidable (OptsRecWF v r) := by unfold OptsRecWF; infer_instance
instance (v d : Nat) (s : Store) (set : SSet) : Decidable (SetWF v d s set) := by
  cases set <;> unfold SetWF <;> infer_instance
def SetsWF.dec (v d : Nat) : (s : Store) → (sets : List SSet) → Decidable (SetsWF v d s sets)
  | _, [] => isTrue trivial
  | s, set :: rest =>
    match SetsWF.dec v d (setStore v d s set) rest with
    | isTrue h => if hs : SetWF v d s set then isTrue ⟨hs, h⟩ else isFalse (fun h' => hs h'.1)
    | isFalse h => isFalse (fun h' => h h'.2)
instance (v d : Nat) (s : Store) (sets : List SSet) : Decidable (SetsWF v d s sets) := SetsWF.dec v d s sets
instance (s : Store) (m : Msg) : Decidable (MsgWF s m) := by unfold MsgWF; infer_instance

def sampleIPFIX : Msg := ⟨10, 0, 0, 1700000000, 42, 7, [
  .template [(256, [⟨8, 4, none⟩, ⟨1, 0xffff, none⟩, ⟨5, 2, some 9⟩])] 0,
  .ipfixopts [(257, [⟨1, 4, none⟩], [⟨34, 4, none⟩])] 2,
  .data 256 [⟨8, 4, none⟩, ⟨1, 0xffff, none⟩, ⟨5, 2, some 9⟩]
     [[⟨[10, 0, 0, 1], false⟩, ⟨[1, 2, 3], false⟩, ⟨[0, 7], false⟩], [⟨[10, 0, 0, 2], false⟩, ⟨[], true⟩, ⟨[0, 8], false⟩]] 3,
  .optsData 257 [⟨1, 4, none⟩] [⟨34, 4, none⟩] [([⟨[0, 0, 0, 1], false⟩], [⟨[0, 0, 0, 100], false⟩])] 0]⟩

def sampleV9 : Msg := ⟨9, 3, 1000, 1700000000, 1, 2, [
  .template [(300, [⟨8, 4, none⟩, ⟨7, 2, none⟩])] 0,
  .v9opts [(301, [⟨1, 4, none⟩], [⟨34, 4, none⟩, ⟨50, 4, none⟩])] 2,
  .data 300 [⟨8, 4, none⟩, ⟨7, 2, none⟩] [[⟨[10, 0, 0, 1], false⟩, ⟨[0, 80], false⟩]] 2]⟩

example : MsgWF [] sampleIPFIX ∧ MsgWF [] sampleV9 := by decide +kernel

end Goflow.C03
