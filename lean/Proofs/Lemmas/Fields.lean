import Proofs.Lemmas.Bytes
import Goflow.Basic.Fields
/-! `readFields` / `readWords` against `encFields` and against the number of bytes present: what is
    read back, how much is consumed, and that the only error is a short read. -/
namespace Goflow

theorem readFields_enc (ws vs : List Nat) (r : Bytes) (h : Fits ws vs) :
    readFields ws (encFields ws vs ++ r) = .ok (vs, r) := by
  induction ws generalizing vs with
  | nil => cases vs <;> simp_all [Fits, readFields, encFields]
  | cons w ws ih =>
    cases vs with
    | nil => simp [Fits] at h
    | cons v vs =>
      obtain ⟨hv, hf⟩ := h
      simp only [encFields, readFields, List.append_assoc]
      rw [readU_enc _ hv]
      simp only
      rw [ih vs hf]

theorem encFields_length (ws vs : List Nat) (h : ws.length = vs.length) :
    (encFields ws vs).length = sumW ws := by
  induction ws generalizing vs with
  | nil => simp [encFields, sumW]
  | cons w ws ih =>
    cases vs with
    | nil => simp at h
    | cons v vs =>
      simp only [List.length_cons, Nat.add_right_cancel_iff] at h
      simp [encFields, sumW, ih vs h]

theorem Fits.length_eq {ws vs : List Nat} (h : Fits ws vs) : ws.length = vs.length := by
  induction ws generalizing vs with
  | nil => cases vs <;> simp_all [Fits]
  | cons w ws ih => cases vs with
    | nil => simp [Fits] at h
    | cons v vs => simp [ih h.2]

/-- with `sumW ws` bytes present `readFields` succeeds, consumes exactly those and returns
    `ws.length` values (the converse is `readFields_err_of_lt`) -/
theorem readFields_ok_of_le (ws : List Nat) (b : Bytes) (h : sumW ws ≤ b.length) :
    ∃ vs, readFields ws b = .ok (vs, b.drop (sumW ws)) ∧ vs.length = ws.length ∧ Fits ws vs := by
  induction ws generalizing b with
  | nil => exact ⟨[], by simp [readFields, sumW, Fits]⟩
  | cons w ws ih =>
    simp only [sumW, List.foldr_cons] at h
    have hw : w ≤ b.length := by omega
    have h' : sumW ws ≤ (b.drop w).length := by simp [sumW]; omega
    obtain ⟨vs, h1, h2, h3⟩ := ih (b.drop w) h'
    refine ⟨beNat (b.take w) :: vs, ?_, by simp [h2], ?_⟩
    · simp only [readFields, readU_ok hw, h1, List.drop_drop, sumW, List.foldr_cons]
    · refine ⟨?_, h3⟩
      have := beNat_lt (b.take w)
      simpa [List.length_take, Nat.min_eq_left hw] using this

theorem readFields_err_of_lt (ws : List Nat) (b : Bytes) (h : b.length < sumW ws) :
    readFields ws b = .error .eof := by
  induction ws generalizing b with
  | nil => simp [sumW] at h
  | cons w ws ih =>
    simp only [sumW, List.foldr_cons] at h
    by_cases hw : w ≤ b.length
    · have h' : (b.drop w).length < sumW ws := by simp [sumW]; omega
      simp [readFields, readU_ok hw, ih _ h']
    · simp [readFields, readU_short (Nat.lt_of_not_le hw)]

theorem readFields_err {ws : List Nat} {b : Bytes} {e : Err} (h : readFields ws b = .error e) : e = .eof := by
  by_cases hn : sumW ws ≤ b.length
  · obtain ⟨vs, h1, _⟩ := readFields_ok_of_le ws b hn
    rw [h1] at h; cases h
  · rw [readFields_err_of_lt _ _ (Nat.lt_of_not_le hn)] at h; cases h; rfl

theorem readFields_length {ws : List Nat} {b b' : Bytes} {vs : List Nat} (h : readFields ws b = .ok (vs, b')) :
    vs.length = ws.length ∧ b'.length + sumW ws = b.length := by
  by_cases hn : sumW ws ≤ b.length
  · obtain ⟨vs', h1, h2, _⟩ := readFields_ok_of_le ws b hn
    rw [h1] at h
    simp only [Except.ok.injEq, Prod.mk.injEq] at h
    obtain ⟨rfl, rfl⟩ := h
    exact ⟨h2, by simp; omega⟩
  · rw [readFields_err_of_lt _ _ (Nat.lt_of_not_le hn)] at h; cases h

theorem readFields2_shape {b b' : Bytes} {vs : List Nat} (h : readFields [2, 2] b = .ok (vs, b')) :
    ∃ x y, vs = [x, y] ∧ b'.length + 4 = b.length := by
  obtain ⟨h1, h2⟩ := readFields_length h
  match vs, h1 with
  | [x, y], _ => exact ⟨x, y, rfl, by simpa [sumW] using h2⟩

theorem readFields3_shape {b b' : Bytes} {vs : List Nat} (h : readFields [2, 2, 2] b = .ok (vs, b')) :
    ∃ x y z, vs = [x, y, z] ∧ b'.length + 6 = b.length := by
  obtain ⟨h1, h2⟩ := readFields_length h
  match vs, h1 with
  | [x, y, z], _ => exact ⟨x, y, z, rfl, by simpa [sumW] using h2⟩

theorem list_len4 {vs : List Nat} (h : vs.length = 4) : ∃ a b c d, vs = [a, b, c, d] := by
  match vs, h with
  | [a, b, c, d], _ => exact ⟨a, b, c, d, rfl⟩

theorem list_len5 {vs : List Nat} (h : vs.length = 5) : ∃ a b c d e, vs = [a, b, c, d, e] := by
  match vs, h with
  | [a, b, c, d, e], _ => exact ⟨a, b, c, d, e, rfl⟩

theorem readWords_err {w n : Nat} {b : Bytes} {e : Err} (h : readWords w n b = .error e) : e = .eof := by
  induction n generalizing b with
  | zero => simp [readWords] at h
  | succ n ih =>
    unfold readWords at h
    cases hr : readU w b with
    | error e' => rw [hr] at h; cases h; exact readU_err hr
    | ok p =>
      obtain ⟨v, b1⟩ := p
      rw [hr] at h
      simp only at h
      cases hw : readWords w n b1 with
      | error e' => rw [hw] at h; cases h; exact ih hw
      | ok q => rw [hw] at h; cases h

end Goflow
