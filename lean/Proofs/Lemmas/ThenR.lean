import Goflow.Basic.Fields
/-!
  The step of which the hand-written decoders are made, `match r with | .error e => .error e | .ok (a, b) => k a b`, under a
  name, so that what a decoder does on a given input can be stated as a chain of steps and compared with another chain
  read by read.
-/
namespace Goflow

def thenR {α β γ : Type} (r : Res (α × β)) (k : α → β → Res γ) : Res γ :=
  match r with
  | .error e => .error e
  | .ok (a, b) => k a b

theorem thenR_map {α β γ δ : Type} (r : Res (α × β)) (k : α → β → Res γ) (g : γ → δ) :
    (thenR r k).map g = thenR r fun a b => (k a b).map g := by
  cases r with
  | error e => rfl
  | ok p => rfl

section
variable {γ : Type}

theorem thenR_readFields_nil (b : Bytes) (k : List Nat → Bytes → Res γ) : thenR (readFields [] b) k = k [] b := rfl

theorem thenR_readFields_cons (w : Nat) (ws : List Nat) (b : Bytes) (k : List Nat → Bytes → Res γ) :
    thenR (readFields (w :: ws) b) k = thenR (readU w b) fun v b' => thenR (readFields ws b') fun vs => k (v :: vs) := by
  rw [readFields]
  cases readU w b with
  | error e => rfl
  | ok r =>
    obtain ⟨v, b'⟩ := r
    show thenR (match readFields ws b' with | .error e => .error e | .ok (vs, b'') => .ok (v :: vs, b'')) k =
      thenR (readFields ws b') fun vs => k (v :: vs)
    cases readFields ws b' <;> rfl

end

end Goflow
