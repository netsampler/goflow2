import Proofs.Lemmas.Netflow
/-! The error classes the safety statements are phrased in (`ErrIn P x`: every error of `x` lies in `P`;
    `Ends`: and every result satisfies `Q`), then the NetFlow v9 / IPFIX decoder model: with the fuel
    the callers pass, no loop runs out of fuel (`diverge`) and no panic point is reachable; every error
    is a returned error. -/
namespace Goflow

/-- outcome classes that are *returned* errors -/
def Err.Returned (e : Err) : Prop := e = .eof ∨ e = .bad ∨ e = .tnf

theorem Err.Returned.ne_panic {e : Err} (h : e.Returned) : e ≠ .panic ∧ e ≠ .diverge := by
  rcases h with rfl | rfl | rfl <;> exact ⟨by decide, by decide⟩

def ErrIn {α} (P : Err → Prop) (x : Res α) : Prop := ∀ e, x = .error e → P e

theorem ErrIn.ok {α} {P : Err → Prop} {a : α} : ErrIn P (.ok a) := fun _ h => nomatch h

theorem ErrIn.error {α} {P : Err → Prop} {e : Err} (h : P e) : ErrIn P (.error e : Res α) :=
  fun _ h' => by cases h'; exact h

theorem ErrIn.ite {α} {P : Err → Prop} {c : Prop} [Decidable c] {x y : Res α}
    (hx : c → ErrIn P x) (hy : ¬ c → ErrIn P y) : ErrIn P (if c then x else y) := by
  split
  · exact hx ‹_›
  · exact hy ‹_›

theorem ErrIn.mono {α} {P Q : Err → Prop} {x : Res α} (h : ErrIn P x) (hPQ : ∀ e, P e → Q e) : ErrIn Q x :=
  fun e he => hPQ e (h e he)

theorem ErrIn.exists_ok {α} {x : Res α} (h : ErrIn (fun _ => False) x) : ∃ a, x = .ok a := by
  cases x with
  | error e => exact (h e rfl).elim
  | ok a => exact ⟨a, rfl⟩

def Ends {α} (P : Err → Prop) (Q : α → Prop) (x : Res α) : Prop := ErrIn P x ∧ ∀ a, x = .ok a → Q a

theorem Ends.ok {α} {P : Err → Prop} {Q : α → Prop} {a : α} (h : Q a) : Ends P Q (.ok a) :=
  ⟨.ok, fun _ h' => by cases h'; exact h⟩

theorem Ends.error {α} {P : Err → Prop} {Q : α → Prop} {e : Err} (h : P e) : Ends P Q (.error e) :=
  ⟨.error h, fun _ h' => nomatch h'⟩

theorem Ends.ite {α} {P : Err → Prop} {Q : α → Prop} {c : Prop} [Decidable c] {x y : Res α}
    (hx : c → Ends P Q x) (hy : ¬ c → Ends P Q y) : Ends P Q (if c then x else y) := by
  split
  · exact hx ‹_›
  · exact hy ‹_›

namespace Netflow

/-- DecodeTemplateSet's field loop: errors are short reads, the cursor only moves forward -/
theorem decodeTemplateFields_safe (version n : Nat) (b : Bytes) :
    (∀ e, decodeTemplateFields version n b = .error e → e = .eof) ∧
    (∀ fs b', decodeTemplateFields version n b = .ok (fs, b') → b'.length ≤ b.length) := by
  induction n generalizing b with
  | zero => simp [decodeTemplateFields]
  | succ n ih =>
    unfold decodeTemplateFields
    cases hr : readFields [2, 2] b with
    | error e => exact ⟨fun e' h => (by cases h; exact readFields_err hr), fun _ _ h => by cases h⟩
    | ok p =>
      obtain ⟨vs, b1⟩ := p
      obtain ⟨x, y, rfl, hl⟩ := readFields2_shape hr
      simp only
      split
      · cases hp : readU 4 b1 with
        | error e => exact ⟨fun e' h => (by cases h; exact readU_err hp), fun _ _ h => by cases h⟩
        | ok q =>
          obtain ⟨pen, b2⟩ := q
          have hl2 := readU_ok_length hp
          obtain ⟨i1, i2⟩ := ih b2
          simp only
          cases hd : decodeTemplateFields version n b2 with
          | error e => exact ⟨fun e' h => (by cases h; exact i1 e hd), fun _ _ h => by cases h⟩
          | ok r =>
            obtain ⟨fs, b3⟩ := r
            refine ⟨fun _ h => (by cases h), fun _ _ h => ?_⟩
            cases h
            have := i2 fs _ hd
            omega
      · obtain ⟨i1, i2⟩ := ih b1
        cases hd : decodeTemplateFields version n b1 with
        | error e => exact ⟨fun e' h => (by cases h; exact i1 e hd), fun _ _ h => by cases h⟩
        | ok r =>
          obtain ⟨fs, b3⟩ := r
          refine ⟨fun _ h => (by cases h), fun _ _ h => ?_⟩
          cases h
          have := i2 fs _ hd
          omega

/-- DecodeTemplateSet with more fuel than payload bytes never runs out of it: each iteration consumes
    at least four bytes -/
theorem decodeTemplateSet_safe (version fuel : Nat) (b : Bytes) (hf : b.length < fuel) :
    ∀ e, decodeTemplateSet version fuel b = .error e → e = .eof := by
  induction fuel generalizing b with
  | zero => omega
  | succ fuel ih =>
    intro e h
    unfold decodeTemplateSet at h
    by_cases h4 : 4 ≤ b.length
    · simp only [h4, if_true] at h
      cases hr : readFields [2, 2] b with
      | error e' => rw [hr] at h; cases h; exact readFields_err hr
      | ok p =>
        obtain ⟨vs, b1⟩ := p
        obtain ⟨x, y, rfl, hl⟩ := readFields2_shape hr
        rw [hr] at h
        simp only at h
        obtain ⟨s1, s2⟩ := decodeTemplateFields_safe version y b1
        cases hd : decodeTemplateFields version y b1 with
        | error e' => rw [hd] at h; cases h; exact s1 _ hd
        | ok r =>
          obtain ⟨fs, b2⟩ := r
          rw [hd] at h
          simp only at h
          have := s2 fs b2 hd
          cases hrec : decodeTemplateSet version fuel b2 with
          | error e' => rw [hrec] at h; cases h; exact ih b2 (by omega) _ hrec
          | ok rs => rw [hrec] at h; cases h
    · simp [h4] at h

theorem decodeField_safe (pen : Bool) (b : Bytes) :
    (∀ e, decodeField pen b = .error e → e = .eof) ∧
    (∀ f b', decodeField pen b = .ok (f, b') → b'.length + 4 ≤ b.length) := by
  unfold decodeField
  cases hr : readFields [2, 2] b with
  | error e => exact ⟨fun e' h => (by cases h; exact readFields_err hr), fun _ _ h => by cases h⟩
  | ok p =>
    obtain ⟨vs, b1⟩ := p
    obtain ⟨x, y, rfl, hl⟩ := readFields2_shape hr
    simp only
    split
    · cases hp : readU 4 b1 with
      | error e => exact ⟨fun e' h => (by cases h; exact readU_err hp), fun _ _ h => by cases h⟩
      | ok q =>
        obtain ⟨p', b2⟩ := q
        have := readU_ok_length hp
        exact ⟨fun _ h => (by cases h), fun _ _ h => by cases h; omega⟩
    · exact ⟨fun _ h => (by cases h), fun _ _ h => by cases h; omega⟩

theorem decodeFieldsN_safe (pen : Bool) (n : Nat) (b : Bytes) :
    (∀ e, decodeFieldsN pen n b = .error e → e = .eof) ∧
    (∀ fs b', decodeFieldsN pen n b = .ok (fs, b') → b'.length ≤ b.length) := by
  induction n generalizing b with
  | zero => simp [decodeFieldsN]
  | succ n ih =>
    unfold decodeFieldsN
    obtain ⟨f1, f2⟩ := decodeField_safe pen b
    cases hd : decodeField pen b with
    | error e => exact ⟨fun e' h => (by cases h; exact f1 _ hd), fun _ _ h => by cases h⟩
    | ok p =>
      obtain ⟨f, b1⟩ := p
      have := f2 f b1 hd
      obtain ⟨i1, i2⟩ := ih b1
      simp only
      cases hr : decodeFieldsN pen n b1 with
      | error e => exact ⟨fun e' h => (by cases h; exact i1 _ hr), fun _ _ h => by cases h⟩
      | ok q =>
        obtain ⟨fs, b2⟩ := q
        have := i2 fs b2 hr
        exact ⟨fun _ h => (by cases h), fun _ _ h => by cases h; omega⟩

theorem decodeNFv9OptionsTemplateSet_safe (fuel : Nat) (b : Bytes) (hf : b.length < fuel) :
    ∀ e, decodeNFv9OptionsTemplateSet fuel b = .error e → e = .eof := by
  induction fuel generalizing b with
  | zero => omega
  | succ fuel ih =>
    intro e h
    unfold decodeNFv9OptionsTemplateSet at h
    by_cases h4 : 4 ≤ b.length
    · simp only [h4, if_true] at h
      cases hr : readFields [2, 2, 2] b with
      | error e' => rw [hr] at h; cases h; exact readFields_err hr
      | ok p =>
        obtain ⟨vs, b1⟩ := p
        obtain ⟨x, y, z, rfl, hl⟩ := readFields3_shape hr
        rw [hr] at h
        simp only at h
        obtain ⟨s1, s2⟩ := decodeFieldsN_safe false (y / 4) b1
        cases hd : decodeFieldsN false (y / 4) b1 with
        | error e' => rw [hd] at h; cases h; exact s1 _ hd
        | ok r =>
          obtain ⟨sc, b2⟩ := r
          rw [hd] at h
          simp only at h
          have := s2 sc b2 hd
          obtain ⟨t1, t2⟩ := decodeFieldsN_safe false (z / 4) b2
          cases hd2 : decodeFieldsN false (z / 4) b2 with
          | error e' => rw [hd2] at h; cases h; exact t1 _ hd2
          | ok r2 =>
            obtain ⟨op, b3⟩ := r2
            rw [hd2] at h
            simp only at h
            have := t2 op b3 hd2
            cases hrec : decodeNFv9OptionsTemplateSet fuel b3 with
            | error e' => rw [hrec] at h; cases h; exact ih b3 (by omega) _ hrec
            | ok rs => rw [hrec] at h; cases h
    · simp [h4] at h

theorem decodeIPFIXOptionsTemplateSet_safe (fuel : Nat) (b : Bytes) (hf : b.length < fuel) :
    ∀ e, decodeIPFIXOptionsTemplateSet fuel b = .error e → e = .eof ∨ e = .bad := by
  induction fuel generalizing b with
  | zero => omega
  | succ fuel ih =>
    intro e h
    unfold decodeIPFIXOptionsTemplateSet at h
    by_cases h4 : 4 ≤ b.length
    · simp only [h4, if_true] at h
      cases hr : readFields [2, 2, 2] b with
      | error e' => rw [hr] at h; cases h; left; exact readFields_err hr
      | ok p =>
        obtain ⟨vs, b1⟩ := p
        obtain ⟨x, y, z, rfl, hl⟩ := readFields3_shape hr
        rw [hr] at h
        simp only at h
        obtain ⟨s1, s2⟩ := decodeFieldsN_safe true z b1
        cases hd : decodeFieldsN true z b1 with
        | error e' => rw [hd] at h; cases h; left; exact s1 _ hd
        | ok r =>
          obtain ⟨sc, b2⟩ := r
          rw [hd] at h
          simp only at h
          have := s2 sc b2 hd
          split at h
          · cases h; right; rfl
          · obtain ⟨t1, t2⟩ := decodeFieldsN_safe true (y - z) b2
            cases hd2 : decodeFieldsN true (y - z) b2 with
            | error e' => rw [hd2] at h; cases h; left; exact t1 _ hd2
            | ok r2 =>
              obtain ⟨op, b3⟩ := r2
              rw [hd2] at h
              simp only at h
              have := t2 op b3 hd2
              cases hrec : decodeIPFIXOptionsTemplateSet fuel b3 with
              | error e' => rw [hrec] at h; cases h; exact ih b3 (by omega) _ hrec
              | ok rs => rw [hrec] at h; cases h
    · simp [h4] at h

theorem decodeDataSetUsingFields_safe (fs : List Field) (b : Bytes) :
    (∀ e, decodeDataSetUsingFields fs b = .error e → e = .eof) ∧
    (∀ vs b', decodeDataSetUsingFields fs b = .ok (vs, b') →
        b'.length ≤ b.length ∧ (templateSize fs ≤ b.length → b'.length ≤ b.length - templateSize fs)) := by
  unfold decodeDataSetUsingFields
  by_cases h : templateSize fs ≤ b.length
  · simp only [h, if_true]
    refine ⟨fun e he => decodeFieldValues_err _ _ _ he, fun vs b' he => ?_⟩
    have := (decodeFieldValues_consumes _ _ _ _ he).1
    exact ⟨by omega, fun _ => this⟩
  · simp only [h, if_false]
    exact ⟨fun e he => (by cases he), fun vs b' he => (by cases he; exact ⟨Nat.le_refl _, fun h' => h'.elim⟩)⟩

theorem decodeDataSetLoop_safe (fs : List Field) (hpos : 0 < templateSize fs) (fuel : Nat) (b : Bytes)
    (hf : b.length < fuel) : ∀ e, decodeDataSetLoop fs fuel b = .error e → e = .eof := by
  induction fuel generalizing b with
  | zero => omega
  | succ fuel ih =>
    intro e h
    unfold decodeDataSetLoop at h
    by_cases hsz : templateSize fs ≤ b.length
    · simp only [hsz, if_true] at h
      obtain ⟨s1, s2⟩ := decodeDataSetUsingFields_safe fs b
      cases hd : decodeDataSetUsingFields fs b with
      | error e' => rw [hd] at h; cases h; exact s1 _ hd
      | ok r =>
        obtain ⟨vs, b1⟩ := r
        rw [hd] at h
        simp only at h
        have := (s2 vs b1 hd).2 hsz
        cases hrec : decodeDataSetLoop fs fuel b1 with
        | error e' => rw [hrec] at h; cases h; exact ih b1 (by omega) _ hrec
        | ok rs => rw [hrec] at h; cases h
    · simp [hsz] at h

theorem decodeDataSet_safe (fs : List Field) (fuel : Nat) (b : Bytes) (hf : b.length < fuel) :
    ∀ e, decodeDataSet fs fuel b = .error e → e = .eof ∨ e = .bad := by
  intro e h
  unfold decodeDataSet at h
  split at h
  · cases h; right; rfl
  · rename_i hz
    left; exact decodeDataSetLoop_safe fs (Nat.pos_of_ne_zero hz) fuel b hf e h

theorem decodeOptionsDataSetLoop_safe (sc op : List Field) (hpos : 0 < templateSize sc + templateSize op)
    (fuel : Nat) (b : Bytes) (hf : b.length < fuel) :
    ∀ e, decodeOptionsDataSetLoop sc op fuel b = .error e → e = .eof := by
  induction fuel generalizing b with
  | zero => omega
  | succ fuel ih =>
    intro e h
    unfold decodeOptionsDataSetLoop at h
    by_cases hsz : templateSize sc + templateSize op ≤ b.length
    · simp only [hsz, if_true] at h
      obtain ⟨s1, s2⟩ := decodeDataSetUsingFields_safe sc b
      cases hd : decodeDataSetUsingFields sc b with
      | error e' => rw [hd] at h; cases h; exact s1 _ hd
      | ok r =>
        obtain ⟨sv, b1⟩ := r
        rw [hd] at h
        simp only at h
        obtain ⟨a1, a2⟩ := s2 sv b1 hd
        have a2' := a2 (by omega)
        obtain ⟨t1, t2⟩ := decodeDataSetUsingFields_safe op b1
        cases hd2 : decodeDataSetUsingFields op b1 with
        | error e' => rw [hd2] at h; cases h; exact t1 _ hd2
        | ok r2 =>
          obtain ⟨ov, b2⟩ := r2
          rw [hd2] at h
          simp only at h
          obtain ⟨c1, c2⟩ := t2 ov b2 hd2
          have hprog : b2.length < b.length := by
            by_cases hs0 : templateSize sc = 0
            · by_cases heq : b1.length = b.length
              · have := c2 (by omega); omega
              · omega
            · omega
          cases hrec : decodeOptionsDataSetLoop sc op fuel b2 with
          | error e' => rw [hrec] at h; cases h; exact ih b2 (by omega) _ hrec
          | ok rs => rw [hrec] at h; cases h
    · simp [hsz] at h

theorem decodeOptionsDataSet_safe (sc op : List Field) (fuel : Nat) (b : Bytes) (hf : b.length < fuel) :
    ∀ e, decodeOptionsDataSet sc op fuel b = .error e → e = .eof ∨ e = .bad := by
  intro e h
  unfold decodeOptionsDataSet at h
  split at h
  · cases h; right; rfl
  · rename_i hz
    left; exact decodeOptionsDataSetLoop_safe sc op (Nat.pos_of_ne_zero hz) fuel b hf e h

/-- DecodeMessageCommonFlowSet: every error is a returned error, and on success at least the 4-byte
    set header is consumed -/
theorem decodeFlowSet_safe (fuel version dom : Nat) (s : Store) (b : Bytes) (hf : b.length < fuel) :
    (∀ e, decodeFlowSet fuel version dom s b = .error e → e = .eof ∨ e = .bad) ∧
    (∀ o, decodeFlowSet fuel version dom s b = .ok o → o.rest.length + 4 ≤ b.length) := by
  show Ends (fun e => e = .eof ∨ e = .bad) (fun o : SetOut => o.rest.length + 4 ≤ b.length) _
  unfold decodeFlowSet
  split
  · exact .error (.inl (readFields_err ‹_›))
  · rename_i vs b1 hr
    obtain ⟨id, len, rfl, hl⟩ := readFields2_shape hr
    refine .ite (fun _ => .error (.inr rfl)) fun h4 => ?_
    have hbody : (b1.take (len - 4)).length < fuel := by simp; omega
    have hrest : (b1.drop (len - 4)).length + 4 ≤ b.length := by simp; omega
    simp only [nextN]
    refine .ite (fun _ => ?_) fun _ => .ite (fun _ => ?_) fun _ => .ite (fun _ => ?_) fun _ =>
      .ite (fun _ => ?_) fun _ => .error (.inr rfl)
    · split
      · exact .error (.inl (decodeTemplateSet_safe _ _ _ hbody _ ‹_›))
      · exact .ok hrest
    · split
      · exact .error (.inl (decodeNFv9OptionsTemplateSet_safe _ _ hbody _ ‹_›))
      · exact .ok hrest
    · split
      · exact .error (decodeIPFIXOptionsTemplateSet_safe _ _ hbody _ ‹_›)
      · exact .ok hrest
    · split
      · exact .ok hrest
      · split
        · exact .error (decodeDataSet_safe _ _ _ hbody _ ‹_›)
        · exact .ok hrest
      · split
        · exact .error (decodeOptionsDataSet_safe _ _ _ _ hbody _ ‹_›)
        · exact .ok hrest
      · split
        · exact .error (decodeOptionsDataSet_safe _ _ _ _ hbody _ ‹_›)
        · exact .ok hrest

/-- DecodeMessageCommon: the set loop never runs out of fuel and never reaches a panic point -/
theorem decodeSets_safe (version dom size startLen : Nat) (fuel i : Nat) (s : Store) (b : Bytes) (hf : b.length < fuel) :
    ∀ e, (decodeSets version dom size startLen fuel i s b).err = some e → e = .eof ∨ e = .bad := by
  induction fuel generalizing i s b with
  | zero => omega
  | succ fuel ih =>
    intro e h
    unfold decodeSets at h
    simp only at h
    split at h
    · obtain ⟨f1, f2⟩ := decodeFlowSet_safe (b.length + 2) version dom s b (by omega)
      cases hd : decodeFlowSet (b.length + 2) version dom s b with
      | error e' => rw [hd] at h; simp at h; subst h; exact f1 _ hd
      | ok o =>
        rw [hd] at h
        simp only at h
        have := f2 o hd
        exact ih (i + 1) o.store o.rest (by omega) e h
    · simp at h

theorem decodeMessageNetFlow_safe (s : Store) (b : Bytes) :
    ∀ e, (decodeMessageNetFlow s b).err = some e → e = .eof ∨ e = .bad := by
  intro e h
  cases hh : readFields [2, 4, 4, 4, 4] b with
  | error e' => rw [decodeMessageNetFlow_err hh] at h; cases h; exact .inl (readFields_err hh)
  | ok q =>
    obtain ⟨vs, b2⟩ := q
    obtain ⟨c, u, t, sq, sid, rfl⟩ := list_len5 (readFields_length hh).1
    obtain ⟨r, rfl, hd⟩ := decodeMessageNetFlow_ok (s := s) hh
    rw [hd] at h
    exact decodeSets_safe 9 sid c b2.length (b2.length + 2) 0 s b2 (by omega) e h

theorem decodeMessageIPFIX_safe (s : Store) (b : Bytes) :
    ∀ e, (decodeMessageIPFIX s b).err = some e → e = .eof ∨ e = .bad := by
  intro e h
  cases hh : readFields [2, 4, 4, 4] b with
  | error e' => rw [decodeMessageIPFIX_err hh] at h; cases h; exact .inl (readFields_err hh)
  | ok q =>
    obtain ⟨vs, b2⟩ := q
    obtain ⟨l, t, sq, dom, rfl⟩ := list_len4 (readFields_length hh).1
    obtain ⟨size, r, -, rfl, hd⟩ := decodeMessageIPFIX_ok (s := s) hh
    rw [hd] at h
    exact decodeSets_safe 10 dom size b2.length (b2.length + 2) 0 s b2 (by omega) e h

theorem decodeMessageVersion_safe (s : Store) (b : Bytes) :
    ∀ e, (decodeMessageVersion s b).err = some e → e = .eof ∨ e = .bad := by
  intro e h
  unfold decodeMessageVersion at h
  split at h
  · cases h; exact .inl (readU_err ‹_›)
  · split at h
    · exact decodeMessageNetFlow_safe _ _ e h
    · split at h
      · exact decodeMessageIPFIX_safe _ _ e h
      · cases h; exact .inr rfl

end Netflow
end Goflow
