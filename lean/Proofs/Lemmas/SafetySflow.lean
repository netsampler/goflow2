import Proofs.Lemmas.Safety
import Goflow.Decoders.Sflow
import Goflow.Decoders.NetflowLegacy
/-! Safety lemmas for the sFlow v5 and NetFlow v5 decoder models: every error is `eof` or `bad`. -/
namespace Goflow

def Err.R (e : Err) : Prop := e = .eof ∨ e = .bad

namespace Sflow

theorem readItems_err {is : List Item} {b : Bytes} {e : Err} (h : readItems is b = .error e) : e = .eof := by
  induction is generalizing b with
  | nil => simp [readItems] at h
  | cons i is ih =>
    cases i with
    | u w =>
      unfold readItems at h
      cases hr : readU w b with
      | error e' => rw [hr] at h; cases h; exact readU_err hr
      | ok p =>
        obtain ⟨v, b1⟩ := p
        rw [hr] at h
        simp only at h
        cases hi : readItems is b1 with
        | error e' => rw [hi] at h; cases h; exact ih hi
        | ok q => rw [hi] at h; cases h
    | b n =>
      unfold readItems at h
      cases hr : takeN n b with
      | error e' => rw [hr] at h; cases h; exact takeN_err hr
      | ok p =>
        obtain ⟨v, b1⟩ := p
        rw [hr] at h
        simp only at h
        cases hi : readItems is b1 with
        | error e' => rw [hi] at h; cases h; exact ih hi
        | ok q => rw [hi] at h; cases h

theorem decodeIP_err {b : Bytes} {e : Err} (h : decodeIP b = .error e) : e.R := by
  unfold decodeIP at h
  cases hr : readU 4 b with
  | error e' => rw [hr] at h; cases h; left; exact readU_err hr
  | ok p =>
    obtain ⟨v, b1⟩ := p
    rw [hr] at h
    simp only at h
    generalize (if v = 1 then 4 else if v = 2 then 16 else 0) = n at h
    by_cases h0 : n = 0
    · simp only [h0, if_true] at h; cases h; right; rfl
    · simp only [h0, if_false] at h
      by_cases hle : n ≤ b1.length
      · simp only [hle, if_true] at h; cases h
      · simp only [hle, if_false] at h; cases h; right; rfl

theorem readString_err {b : Bytes} {e : Err} (h : readString b = .error e) : e = .eof := by
  unfold readString at h
  cases hr : readU 4 b with
  | error e' => rw [hr] at h; cases h; exact readU_err hr
  | ok p =>
    obtain ⟨n, b1⟩ := p
    rw [hr] at h
    simp only at h
    cases ht : takeN n b1 with
    | error e' => rw [ht] at h; cases h; exact takeN_err ht
    | ok q => rw [ht] at h; cases h

theorem readCapped_err {len : Nat} {b : Bytes} {e : Err} (h : readCapped len b = .error e) : e.R := by
  unfold readCapped at h
  split at h
  · cases h; right; rfl
  · split at h
    · cases h; right; rfl
    · left; exact readWords_err h

theorem decodeCounterRecord_err {fmt len : Nat} {b : Bytes} {e : Err} (h : decodeCounterRecord fmt len b = .error e) : e.R := by
  unfold decodeCounterRecord at h
  split at h
  · cases hr : readFields ifCountersW b with
    | error e' => rw [hr] at h; cases h; left; exact readFields_err hr
    | ok p => rw [hr] at h; cases h
  · split at h
    · cases hr : readFields ethCountersW b with
      | error e' => rw [hr] at h; cases h; left; exact readFields_err hr
      | ok p => rw [hr] at h; cases h
    · cases h

theorem decodeFlowRecord_err (fmt len : Nat) (b : Bytes) : ErrIn Err.R (decodeFlowRecord fmt len b) := by
  unfold decodeFlowRecord
  refine .ite (fun _ => ?_) fun _ => .ite (fun _ => ?_) fun _ => .ite (fun _ => ?_) fun _ =>
    .ite (fun _ => ?_) fun _ => .ite (fun _ => ?_) fun _ => ?_
  · -- raw header
    split
    · exact .error (.inl (readFields_err ‹_›))
    · exact .ok
  · -- extended router
    split
    · exact .error (decodeIP_err ‹_›)
    · split
      · exact .error (.inl (readFields_err ‹_›))
      · rename_i vs _ hr
        match vs, (readFields_length hr).1 with
        | [x, y], _ => exact .ok
  · -- extended gateway
    split
    · exact .error (decodeIP_err ‹_›)
    · split
      · exact .error (.inl (readFields_err ‹_›))
      · simp only
        split
        · -- the AS-path part
          rename_i hpath
          refine .error ?_
          split at hpath
          · split at hpath
            · cases hpath; exact .inl (readFields_err ‹_›)
            · rename_i tl _ hr2
              match tl, (readFields_length hr2).1 with
              | [pt, pl], _ =>
                simp only at hpath
                split at hpath
                · cases hpath; exact readCapped_err ‹_›
                · cases hpath
          · cases hpath
        · split
          · exact .error (.inl (readU_err ‹_›))
          · split
            · exact .error (readCapped_err ‹_›)
            · split
              · exact .error (.inl (readU_err ‹_›))
              · exact .ok
  · -- ACL
    split
    · exact .error (.inl (readU_err ‹_›))
    · split
      · exact .error (.inl (readString_err ‹_›))
      · split
        · exact .error (.inl (readU_err ‹_›))
        · exact .ok
  · split
    · exact .error (.inl (readString_err ‹_›))
    · exact .ok
  · split
    · split
      · exact .error (.inl (readItems_err ‹_›))
      · exact .ok
    · exact .ok

/-- the record loop: errors come only from the record header read and from the record decoder -/
theorem recordLoop_err {α} (dec : Nat → Nat → Bytes → Res α)
    (hdec : ∀ f l b e, dec f l b = .error e → e.R) (n : Nat) (b : Bytes) (e : Err)
    (h : recordLoop dec n b = .error e) : e.R := by
  induction n generalizing b with
  | zero => simp [recordLoop] at h
  | succ n ih =>
    unfold recordLoop at h
    split at h
    · cases hr : readFields [4, 4] b with
      | error e' => rw [hr] at h; cases h; left; exact readFields_err hr
      | ok q =>
        obtain ⟨vs, b1⟩ := q
        rw [hr] at h
        obtain ⟨hl, _⟩ := readFields_length hr
        match vs, hl with
        | [fmt, len], _ =>
          simp only at h
          split at h
          · cases h
          · cases hd : dec fmt len (b1.take len) with
            | error e' => rw [hd] at h; cases h; exact hdec _ _ _ _ hd
            | ok r =>
              rw [hd] at h
              simp only at h
              cases hrec : recordLoop dec n (b1.drop len) with
              | error e' => rw [hrec] at h; cases h; exact ih _ hrec
              | ok rs => rw [hrec] at h; cases h
    · cases h

theorem decodeSample_err {fmt len : Nat} {b : Bytes} {e : Err} (h : decodeSample fmt len b = .error e) : e.R := by
  revert e
  show ErrIn Err.R _
  unfold decodeSample
  split
  · exact .error (.inl (readU_err ‹_›))
  · simp only
    split
    · -- the source id
      rename_i hsrc
      refine .error ?_
      revert hsrc
      refine ErrIn.ite (fun _ => ?_) (fun _ => .ite (fun _ => ?_) fun _ => .error (.inr rfl)) _
      · split
        · exact .error (.inl (readU_err ‹_›))
        · exact .ok
      · split
        · exact .error (.inl (readFields_err ‹_›))
        · rename_i vs _ hr
          match vs, (readFields_length hr).1 with
          | [t, v], _ => exact .ok
    · refine .ite (fun _ => ?_) fun _ => .ite (fun _ => ?_) fun _ => .ite (fun _ => ?_) fun _ => ?_
      · split
        · exact .error (.inl (readFields_err ‹_›))
        · refine .ite (fun _ => .error (.inr rfl)) fun _ => ?_
          split
          · exact .error (recordLoop_err _ decodeFlowRecord_err _ _ _ ‹_›)
          · exact .ok
      · split
        · exact .error (.inl (readU_err ‹_›))
        · refine .ite (fun _ => .error (.inr rfl)) fun _ => ?_
          split
          · exact .error (recordLoop_err _ (fun _ _ _ _ hd => decodeCounterRecord_err hd) _ _ _ ‹_›)
          · exact .ok
      · split
        · exact .error (.inl (readFields_err ‹_›))
        · refine .ite (fun _ => .error (.inr rfl)) fun _ => ?_
          split
          · exact .error (recordLoop_err _ decodeFlowRecord_err _ _ _ ‹_›)
          · exact .ok
      · split
        · exact .error (.inl (readFields_err ‹_›))
        · refine .ite (fun _ => .error (.inr rfl)) fun _ => ?_
          split
          · exact .error (recordLoop_err _ decodeFlowRecord_err _ _ _ ‹_›)
          · exact .ok

theorem sampleLoop_err (n : Nat) (b : Bytes) (e : Err) (h : sampleLoop n b = .error e) : e.R := by
  induction n generalizing b with
  | zero => simp [sampleLoop] at h
  | succ n ih =>
    unfold sampleLoop at h
    split at h
    · cases hr : readFields [4, 4] b with
      | error e' => rw [hr] at h; cases h; left; exact readFields_err hr
      | ok q =>
        obtain ⟨vs, b1⟩ := q
        rw [hr] at h
        obtain ⟨hl, _⟩ := readFields_length hr
        match vs, hl with
        | [fmt, len], _ =>
          simp only at h
          split at h
          · cases h
          · cases hd : decodeSample fmt len (b1.take len) with
            | error e' => rw [hd] at h; cases h; exact decodeSample_err hd
            | ok r =>
              rw [hd] at h
              simp only at h
              cases hrec : sampleLoop n (b1.drop len) with
              | error e' => rw [hrec] at h; cases h; exact ih _ hrec
              | ok rs => rw [hrec] at h; cases h
    · cases h

theorem decodeMessageVersion_err {b : Bytes} {e : Err} (h : decodeMessageVersion b = .error e) : e.R := by
  unfold decodeMessageVersion at h
  cases hu : readU 4 b with
  | error e' => rw [hu] at h; cases h; left; exact readU_err hu
  | ok q =>
    obtain ⟨v, b1⟩ := q
    rw [hu] at h
    simp only at h
    split at h
    · cases h; right; rfl
    · unfold decodeMessage at h
      cases hu2 : readU 4 b1 with
      | error e' => rw [hu2] at h; cases h; left; exact readU_err hu2
      | ok q2 =>
        obtain ⟨ipv, b2⟩ := q2
        rw [hu2] at h
        simp only at h
        generalize (if ipv = 1 then 4 else if ipv = 2 then 16 else 0) = n at h
        by_cases h0 : n = 0
        · simp only [h0, if_true] at h; cases h; right; rfl
        · simp only [h0, if_false] at h
          cases ht : takeN n b2 with
          | error e' => rw [ht] at h; cases h; left; exact takeN_err ht
          | ok q3 =>
            obtain ⟨ip, b3⟩ := q3
            rw [ht] at h
            simp only at h
            cases hr : readFields [4, 4, 4, 4] b3 with
            | error e' => rw [hr] at h; cases h; left; exact readFields_err hr
            | ok q4 =>
              obtain ⟨hd, b4⟩ := q4
              rw [hr] at h
              simp only at h
              split at h
              · cases h; right; rfl
              · cases hs : sampleLoop (hd.getD 3 0) b4 with
                | error e' => rw [hs] at h; cases h; exact sampleLoop_err _ _ _ hs
                | ok ss => rw [hs] at h; cases h

end Sflow

namespace V5

private theorem length_succ {vs : List Nat} {n : Nat} (h : vs.length = n + 1) : ∃ a t, vs = a :: t ∧ t.length = n := by
  cases vs with
  | nil => cases h
  | cons a t => exact ⟨a, t, rfl, Nat.succ.inj h⟩

theorem Record.ofList_of_length {vs : List Nat} (h : vs.length = Record.widths.length) : ∃ r, Record.ofList vs = some r := by
  change vs.length = 20 at h
  -- peel the twenty fields off one by one
  repeat (replace h := length_succ h; obtain ⟨_, _, rfl, h⟩ := h)
  cases List.eq_nil_of_length_eq_zero h
  exact ⟨_, rfl⟩

theorem Header.ofList_of_length {vs : List Nat} (h : vs.length = Header.widths.length) : ∃ r, Header.ofList vs = some r := by
  change vs.length = 8 at h
  repeat (replace h := length_succ h; obtain ⟨_, _, rfl, h⟩ := h)
  cases List.eq_nil_of_length_eq_zero h
  exact ⟨_, rfl⟩

theorem readRecords_err (n : Nat) (b : Bytes) : ErrIn Err.R (readRecords n b) := by
  induction n generalizing b with
  | zero => exact .ok
  | succ n ih =>
    unfold readRecords
    refine .ite (fun _ => ?_) fun _ => .ok
    split
    · rename_i he
      refine .error ?_
      unfold readRecord at he
      split at he
      · cases he; exact .inl (readFields_err ‹_›)
      · rename_i hr
        obtain ⟨r, hr'⟩ := Record.ofList_of_length (readFields_length hr).1
        rw [hr'] at he
        cases he
    · split
      · exact .error (ih _ _ ‹_›)
      · exact .ok

theorem decodeMessage_err (b : Bytes) : ErrIn Err.R (decodeMessage b) := by
  unfold decodeMessage
  split
  · exact .error (.inl (readFields_err ‹_›))
  · rename_i hr
    obtain ⟨hdr, hh⟩ := Header.ofList_of_length (readFields_length hr).1
    rw [hh]
    simp only
    split
    · exact .error (readRecords_err _ _ _ ‹_›)
    · exact .ok

theorem decodeMessageVersion_err {b : Bytes} {e : Err} (h : decodeMessageVersion b = .error e) : e.R := by
  unfold decodeMessageVersion at h
  split at h
  · cases h; exact .inl (readU_err ‹_›)
  · exact ErrIn.ite (fun _ => .error (.inr rfl)) (fun _ => decodeMessage_err _) e h

end V5
end Goflow
