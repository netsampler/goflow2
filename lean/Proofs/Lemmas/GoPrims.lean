import Goflow.Producer.GoPrims
import Proofs.Lemmas.Bytes
import Proofs.Lemmas.ThenR
/-!
  Lemmas relating the Go-faithful primitives of Goflow/Producer/GoPrims.lean (fixed-width integers,
  partial indexing / slicing) to the Nat-valued readers `u8`, `be`, `sl` of the hand-written model.
  * Atoms: after rewriting with `idx_ok`, `beU16_sl`, … the two sides of a `parseX_eq` goal of C10Trans speak about the
    same opaque atoms `u8 d i`, `be d i n`, `sl d i j`, and what is left is arithmetic.
  * `Int` indices (`idxI_nat`, `sliceI_nat`, `shr8I_nat`, `tmod_nat`, …): a Go `int` that is a natural number, for C14Trans.
  * Readers: `readU16_sim`, `readU32_simP`, … reduce "generated chain of `Go.readUN … >>=` agrees with the model's chain
    of `thenR (readU n b)`" to the continuations (`_sim` under a map `φ`, `_simP` under the rest `P` of a function);
    `cond_sim*`, `ite_sim`, `map_sim`, `bind_simP` do the same for a Go `if` and for a decoder already tied.
  * `map_ok` / `map_err` read a tie `g.map φ = m` backwards; the `tryCatch` case lemmas split a read whose error is
    handled in place (C03Trans3).
-/
namespace Goflow.Go
open Goflow Goflow.Producer

theorem u8_lt (d : Bytes) (i : Nat) : u8 d i < 256 := (d.getD i 0).toNat_lt

theorem beNat_take_lt (l : Bytes) (n : Nat) : beNat (l.take n) < 256 ^ n :=
  Nat.lt_of_lt_of_le (beNat_lt _) (Nat.pow_le_pow_right (by decide) (List.length_take_le _ _))

theorem be_lt (d : Bytes) (i n : Nat) : be d i n < 256 ^ n := beNat_take_lt (d.drop i) n

theorem idx_ok {d : Bytes} {i : Nat} (h : i < d.length) : Go.idx d i = .ok (UInt8.ofNat (u8 d i)) := by
  simp [Go.idx, u8, List.getD_eq_getElem?_getD, List.getElem?_eq_getElem h]

theorem idx_panic {d : Bytes} {i : Nat} (h : d.length ≤ i) : Go.idx d i = .error .panic := by
  simp [Go.idx, List.getElem?_eq_none h]

theorem slice_ok {d : Bytes} {a b : Nat} (h1 : a ≤ b) (h2 : b ≤ d.length) : Go.slice d a b = .ok (sl d a b) := by
  simp [Go.slice, sl, h1, h2]

@[simp] theorem toNat_ofNat_u8 (d : Bytes) (i : Nat) : (UInt8.ofNat (u8 d i)).toNat = u8 d i := by
  rw [UInt8.toNat_ofNat']; exact Nat.mod_eq_of_lt (u8_lt d i)

theorem ofNat_u8_eq (d : Bytes) (i : Nat) (c : UInt8) : UInt8.ofNat (u8 d i) = c ↔ u8 d i = c.toNat := by
  rw [← UInt8.toNat_inj, toNat_ofNat_u8]

theorem sl_length {d : Bytes} {i j : Nat} (h : j ≤ d.length) : (sl d i j).length = j - i := by
  simp [sl, List.length_take, List.length_drop]; omega

theorem beNat_sl {d : Bytes} {i j n : Nat} (hj : j = i + n) : beNat (sl d i j) = be d i n := by
  subst hj; simp [sl, be]

theorem sl_two {d : Bytes} {i j : Nat} (hj : j = i + 2) (h : j ≤ d.length) :
    sl d i j = [UInt8.ofNat (u8 d i), UInt8.ofNat (u8 d (i + 1))] := by
  subst hj
  have h0 : i < d.length := by omega
  have h1 : i + 1 < d.length := by omega
  apply List.ext_getElem
  · simp [sl, List.length_take, List.length_drop]; omega
  · intro k hk1 hk2
    simp only [List.length_cons, List.length_nil] at hk2
    have : k = 0 ∨ k = 1 := by omega
    rcases this with rfl | rfl <;>
      simp [sl, u8, List.getD_eq_getElem?_getD, h0, h1]

theorem take_self {α : Type} {b : List α} {n : Nat} (h : b.length = n) : b.take n = b := by
  subst h; simp

theorem beU16_sl {d : Bytes} {i j : Nat} (hj : j = i + 2) (h : j ≤ d.length) :
    Go.beU16 (sl d i j) = .ok (UInt16.ofNat (be d i 2)) := by
  have hl : (sl d i j).length = 2 := by rw [sl_length h]; omega
  simp [Go.beU16, hl, take_self hl, beNat_sl hj]

theorem beU32_sl {d : Bytes} {i j : Nat} (hj : j = i + 4) (h : j ≤ d.length) :
    Go.beU32 (sl d i j) = .ok (UInt32.ofNat (be d i 4)) := by
  have hl : (sl d i j).length = 4 := by rw [sl_length h]; omega
  simp [Go.beU32, hl, take_self hl, beNat_sl hj]

theorem beU64_sl {d : Bytes} {i j : Nat} (hj : j = i + 8) (h : j ≤ d.length) :
    Go.beU64 (sl d i j) = .ok (UInt64.ofNat (be d i 8)) := by
  have hl : (sl d i j).length = 8 := by rw [sl_length h]; omega
  simp [Go.beU64, hl, take_self hl, beNat_sl hj]

/-- `binary.BigEndian.Uint64(append([]byte{0, 0}, data[i:i+6]...))` -/
theorem beU64_pad2 {d : Bytes} {i j : Nat} (hj : j = i + 6) (h : j ≤ d.length) :
    Go.beU64 (0 :: 0 :: sl d i j) = .ok (UInt64.ofNat (be d i 6)) := by
  have hl : (([0, 0] : Bytes) ++ sl d i j).length = 8 := by simp [sl_length h]; omega
  show Go.beU64 (([0, 0] : Bytes) ++ sl d i j) = _
  simp only [Go.beU64, hl, Nat.le_refl, if_true, take_self hl]
  rw [beNat_append, beNat_sl hj]; simp [beNat]

/-- `binary.BigEndian.Uint32(append([]byte{0}, data[i:i+3]...))` -/
theorem beU32_pad1 {d : Bytes} {i j : Nat} (hj : j = i + 3) (h : j ≤ d.length) :
    Go.beU32 (0 :: sl d i j) = .ok (UInt32.ofNat (be d i 3)) := by
  have hl : (([0] : Bytes) ++ sl d i j).length = 4 := by simp [sl_length h]; omega
  show Go.beU32 (([0] : Bytes) ++ sl d i j) = _
  simp only [Go.beU32, hl, Nat.le_refl, if_true, take_self hl]
  rw [beNat_append, beNat_sl hj]; simp [beNat]

theorem toNat_ofNat_be16 (d : Bytes) (i : Nat) {n : Nat} (hn : n ≤ 2) : (UInt16.ofNat (be d i n)).toNat = be d i n := by
  rw [UInt16.toNat_ofNat']; apply Nat.mod_eq_of_lt
  exact Nat.lt_of_lt_of_le (be_lt d i n) (Nat.pow_le_pow_right (by decide) hn)

theorem toNat_ofNat_be32 (d : Bytes) (i : Nat) {n : Nat} (hn : n ≤ 4) : (UInt32.ofNat (be d i n)).toNat = be d i n := by
  rw [UInt32.toNat_ofNat']; apply Nat.mod_eq_of_lt
  exact Nat.lt_of_lt_of_le (be_lt d i n) (Nat.pow_le_pow_right (by decide) hn)

theorem toNat_ofNat_be64 (d : Bytes) (i : Nat) {n : Nat} (hn : n ≤ 8) : (UInt64.ofNat (be d i n)).toNat = be d i n := by
  rw [UInt64.toNat_ofNat']; apply Nat.mod_eq_of_lt
  exact Nat.lt_of_lt_of_le (be_lt d i n) (Nat.pow_le_pow_right (by decide) hn)

/-- simp rewrites `(UIntN.ofNat x).toNat` to `x % 2^N` by itself; these remove the `%` again -/
@[simp] theorem u8_mod (d : Bytes) (i : Nat) : u8 d i % 256 = u8 d i := Nat.mod_eq_of_lt (u8_lt d i)
theorem be1_lt (d : Bytes) (i : Nat) : be d i 1 < 256 := be_lt d i 1
theorem be3_lt (d : Bytes) (i : Nat) : be d i 3 < 16777216 := be_lt d i 3

theorem shr8_toNat (x : UInt8) (n : Nat) : (Go.shr8 x n).toNat = x.toNat / 2 ^ n := by
  rw [Go.shr8, UInt8.toNat_ofNat', Nat.shiftRight_eq_div_pow]
  exact Nat.mod_eq_of_lt (Nat.lt_of_le_of_lt (Nat.div_le_self _ _) x.toNat_lt)
theorem shr16_toNat (x : UInt16) (n : Nat) : (Go.shr16 x n).toNat = x.toNat / 2 ^ n := by
  rw [Go.shr16, UInt16.toNat_ofNat', Nat.shiftRight_eq_div_pow]
  exact Nat.mod_eq_of_lt (Nat.lt_of_le_of_lt (Nat.div_le_self _ _) x.toNat_lt)
theorem shr32_toNat (x : UInt32) (n : Nat) : (Go.shr32 x n).toNat = x.toNat / 2 ^ n := by
  rw [Go.shr32, UInt32.toNat_ofNat', Nat.shiftRight_eq_div_pow]
  exact Nat.mod_eq_of_lt (Nat.lt_of_le_of_lt (Nat.div_le_self _ _) x.toNat_lt)
theorem shr64_toNat (x : UInt64) (n : Nat) : (Go.shr64 x n).toNat = x.toNat / 2 ^ n := by
  rw [Go.shr64, UInt64.toNat_ofNat', Nat.shiftRight_eq_div_pow]
  exact Nat.mod_eq_of_lt (Nat.lt_of_le_of_lt (Nat.div_le_self _ _) x.toNat_lt)

theorem shl16_toNat (x : UInt16) (n : Nat) : (Go.shl16 x n).toNat = x.toNat * 2 ^ n % 2 ^ 16 := by
  rw [Go.shl16, UInt16.toNat_ofNat', Nat.shiftLeft_eq]

theorem and_1 (x : Nat) : x &&& 1 = x % 2 := Nat.and_two_pow_sub_one_eq_mod x 1
theorem and_7 (x : Nat) : x &&& 7 = x % 8 := Nat.and_two_pow_sub_one_eq_mod x 3
theorem and_15 (x : Nat) : x &&& 15 = x % 16 := Nat.and_two_pow_sub_one_eq_mod x 4
theorem and_63 (x : Nat) : x &&& 63 = x % 64 := Nat.and_two_pow_sub_one_eq_mod x 6
theorem and_255 (x : Nat) : x &&& 255 = x % 256 := Nat.and_two_pow_sub_one_eq_mod x 8
theorem and_8191 (x : Nat) : x &&& 8191 = x % 8192 := Nat.and_two_pow_sub_one_eq_mod x 13
theorem and_1048575 (x : Nat) : x &&& 1048575 = x % 1048576 := Nat.and_two_pow_sub_one_eq_mod x 20

/-- `x & 0xf0 >> 4` (Go parses `(x & 0xf0) >> 4`) -/
theorem and_240_shr_4 (x : Nat) : (x &&& 240) / 16 = x / 16 % 16 := by
  have h := @Nat.shiftRight_and_distrib 4 x 240
  simp only [Nat.shiftRight_eq_div_pow] at h
  rw [show (2:Nat) ^ 4 = 16 from rfl, show (240:Nat) / 16 = 15 from rfl, and_15] at h
  exact h

/-- `x & 0x0ff0 >> 4` -/
theorem and_4080_shr_4 (x : Nat) : (x &&& 4080) / 16 = x / 16 % 256 := by
  have h := @Nat.shiftRight_and_distrib 4 x 4080
  simp only [Nat.shiftRight_eq_div_pow] at h
  rw [show (2:Nat) ^ 4 = 16 from rfl, show (4080:Nat) / 16 = 255 from rfl, and_255] at h
  exact h

/-- `uint16(b0)<<8 | uint16(b1)` -/
theorem shl8_or (a b : Nat) (ha : a < 256) (hb : b < 256) : (a * 256 % 65536) ||| b = a * 256 + b := by
  rw [Nat.mod_eq_of_lt (by omega)]
  have := Nat.shiftLeft_add_eq_or_of_lt (i := 8) (b := b) (by omega) a
  rw [Nat.shiftLeft_eq] at this
  exact this.symm

theorem u8_and1_eq (d : Bytes) (i : Nat) : (UInt8.ofNat (u8 d i) &&& 1 = 1) ↔ u8 d i % 2 = 1 := by
  rw [← UInt8.toNat_inj, UInt8.toNat_and, toNat_ofNat_u8]
  simp

theorem shr8_and240_eq (x c : UInt8) : Go.shr8 (x &&& 240) 4 = c ↔ x.toNat / 16 = c.toNat := by
  rw [← UInt8.toNat_inj, shr8_toNat, UInt8.toNat_and]
  have h : (x.toNat &&& 240) / 16 = x.toNat / 16 % 16 := and_240_shr_4 x.toNat
  have hx := x.toNat_lt
  simp only [show (240 : UInt8).toNat = 240 from rfl, show (2:Nat) ^ 4 = 16 from rfl, h]
  omega

theorem shr32_be3_le (d : Bytes) (i : Nat) (c : UInt32) :
    Go.shr32 (UInt32.ofNat (be d i 3)) 4 ≤ c ↔ be d i 3 / 16 ≤ c.toNat := by
  rw [UInt32.le_iff_toNat_le, shr32_toNat, toNat_ofNat_be32 d i (by omega)]

theorem u8_eq_iff (a b : UInt8) : a = b ↔ a.toNat = b.toNat := UInt8.toNat_inj.symm
theorem u16_eq_iff (a b : UInt16) : a = b ↔ a.toNat = b.toNat := UInt16.toNat_inj.symm

theorem etype_or (a b : UInt8) : (Go.shl16 a.toUInt16 8).toNat ||| b.toNat = a.toNat * 256 + b.toNat := by
  rw [shl16_toNat, UInt8.toNat_toUInt16]
  exact shl8_or a.toNat b.toNat a.toNat_lt b.toNat_lt

theorem etype_toNat (a b : UInt8) : (Go.shl16 a.toUInt16 8 ||| b.toUInt16).toNat = a.toNat * 256 + b.toNat := by
  rw [UInt16.toNat_or, UInt8.toNat_toUInt16, etype_or]

@[simp] theorem envIsNil_eq (pc : PC) : Go.envIsNil pc = false := rfl

theorem nextParserEtype_sl (pc : PC) {d : Bytes} {i j : Nat} (hj : j = i + 2) (h : j ≤ d.length) :
    Go.NextParserEtype pc (sl d i j) = .ok (nextParserEtype (u8 d i) (u8 d (i + 1)), none) := by
  rw [sl_two hj h]; simp only [Go.NextParserEtype, toNat_ofNat_u8]

theorem idx_getElem {b : Bytes} {i : Nat} (h : i < b.length) : Go.idx b i = .ok b[i] := by
  simp [Go.idx, List.getElem?_eq_getElem h]

theorem shl64_toNat (x : UInt64) (n : Nat) : (Go.shl64 x n).toNat = x.toNat * 2 ^ n % 2 ^ 64 := by
  rw [Go.shl64, UInt64.toNat_ofNat', Nat.shiftLeft_eq]

/-- one byte shifted into a 64-bit accumulator below bit 56 is not truncated -/
theorem shl64_byte (x : UInt8) (k : Nat) (hk : k ≤ 6) :
    (Go.shl64 (UInt64.ofNat x.toNat) (8 * k)).toNat = x.toNat <<< (8 * k) := by
  have hx := x.toNat_lt
  have e0 : x.toNat % 2 ^ 64 = x.toNat := Nat.mod_eq_of_lt (Nat.lt_of_lt_of_le hx (by decide))
  rw [shl64_toNat, Nat.shiftLeft_eq, UInt64.toNat_ofNat', e0]
  apply Nat.mod_eq_of_lt
  have h1 : 2 ^ (8 * k) ≤ 2 ^ 48 := Nat.pow_le_pow_right (by decide) (by omega)
  have h2 : x.toNat * 2 ^ (8 * k) < 256 * 2 ^ 48 := by
    calc x.toNat * 2 ^ (8 * k) ≤ x.toNat * 2 ^ 48 := Nat.mul_le_mul_left _ h1
      _ < 256 * 2 ^ 48 := Nat.mul_lt_mul_of_pos_right hx (by decide)
  exact Nat.lt_of_lt_of_le h2 (by decide)

theorem leNat_lt (b : Bytes) : leNat b < 256 ^ b.length := by
  induction b with
  | nil => simp [leNat]
  | cons x xs ih =>
    have hx := x.toNat_lt
    simp only [leNat, List.length_cons, Nat.pow_succ]
    omega

theorem widen16 {n : Nat} (h : n < 65536) : (UInt16.ofNat n).toUInt64 = UInt64.ofNat n := by
  rw [← UInt64.toNat_inj]; simp [UInt64.toNat_ofNat', UInt16.toNat_ofNat']; omega

theorem widen32 {n : Nat} (h : n < 4294967296) : (UInt32.ofNat n).toUInt64 = UInt64.ofNat n := by
  rw [← UInt64.toNat_inj]; simp [UInt64.toNat_ofNat', UInt32.toNat_ofNat']; omega

theorem trunc8 (v : Nat) : UInt8.ofNat (v % 18446744073709551616) = UInt8.ofNat (v % 256) := by
  rw [← UInt8.toNat_inj]; simp [UInt8.toNat_ofNat']

theorem trunc16 (v : Nat) : UInt16.ofNat (v % 18446744073709551616) = UInt16.ofNat (v % 65536) := by
  rw [← UInt16.toNat_inj]; simp [UInt16.toNat_ofNat']

theorem trunc32 (v : Nat) : UInt32.ofNat (v % 18446744073709551616) = UInt32.ofNat (v % 4294967296) := by
  rw [← UInt32.toNat_inj]; simp [UInt32.toNat_ofNat']

theorem trunc64 (v : Nat) : UInt64.ofNat v = UInt64.ofNat (v % 18446744073709551616) := by
  rw [← UInt64.toNat_inj]; simp [UInt64.toNat_ofNat']

theorem or3 (v o t : Nat) (hv : v < 65536) (ho : o < 4294967296) (ht : t < 65536) :
    (v * 281474976710656 % 18446744073709551616) ||| (o * 65536 % 18446744073709551616) ||| t
      = v * 281474976710656 + o * 65536 + t := by
  have h1 := Nat.shiftLeft_add_eq_or_of_lt (i := 48) (b := o * 65536) (by omega) v
  have h2 := Nat.shiftLeft_add_eq_or_of_lt (i := 16) (b := t) (by omega) (v * 4294967296 + o)
  simp only [Nat.shiftLeft_eq, Nat.reducePow] at h1 h2
  have e1 : v * 281474976710656 % 18446744073709551616 = v * 281474976710656 := Nat.mod_eq_of_lt (by omega)
  have e2 : o * 65536 % 18446744073709551616 = o * 65536 := by
    apply Nat.mod_eq_of_lt; omega
  have e3 : v * 281474976710656 + o * 65536 = (v * 4294967296 + o) * 65536 := by
    rw [Nat.add_mul, Nat.mul_assoc]
  rw [e1, e2, ← h1, e3, ← h2]

theorem shl8_model (x : UInt8) (n : Nat) : Go.shl8 x n = Producer.shl8 x n := by
  rw [← UInt8.toNat_inj]; simp [Go.shl8, Producer.shl8, Nat.shiftLeft_eq, UInt8.toNat_ofNat']

theorem shr8_model (x : UInt8) (n : Nat) : Go.shr8 x n = Producer.shr8 x n := by
  simp [Go.shr8, Producer.shr8, Nat.shiftRight_eq_div_pow]

theorem tmod_nat (m : Nat) : Int.tmod (m : Int) 8 = ((m % 8 : Nat) : Int) := (Int.ofNat_tmod m 8).symm

theorem tdiv_nat (m : Nat) : Int.tdiv (m : Int) 8 = ((m / 8 : Nat) : Int) := (Int.ofNat_tdiv m 8).symm

theorem idxI_nat (d : Bytes) (i : Nat) : Go.idxI d (i : Int) = Go.idx d i := by
  have h : ¬ ((i : Int) < 0) := by omega
  simp [Go.idxI, h]

theorem idxI_nat_succ (d : Bytes) (i : Nat) : Go.idxI d ((i : Int) + 1) = Go.idx d (i + 1) := by
  have h : ¬ ((i : Int) + 1 < 0) := by omega
  have e : ((i : Int) + 1).toNat = i + 1 := by omega
  simp [Go.idxI, h, e]

theorem setIdxI_nat (d : Bytes) (i : Nat) (v : UInt8) : Go.setIdxI d (i : Int) v = Go.setIdx d i v := by
  have h : ¬ ((i : Int) < 0) := by omega
  simp [Go.setIdxI, h]

theorem shl8I_nat (x : UInt8) (s : Nat) : Go.shl8I x (s : Int) = .ok (Producer.shl8 x s) := by
  simp [Go.shl8I, shl8_model]

theorem shr8I_nat (x : UInt8) (s : Nat) : Go.shr8I x (s : Int) = .ok (Producer.shr8 x s) := by
  simp [Go.shr8I, shr8_model]

theorem shr8I_sub (x : UInt8) (s : Nat) (hs : s ≤ 8) : Go.shr8I x (8 - (s : Int)) = .ok (Producer.shr8 x (8 - s)) := by
  have h : ¬ (8 - (s : Int) < 0) := by omega
  have e : (8 - (s : Int)).toNat = 8 - s := by omega
  simp [Go.shr8I, h, e, shr8_model]

theorem sliceI_nat (d : Bytes) (a b : Nat) (h1 : a ≤ b) (h2 : b ≤ d.length) :
    Go.sliceI d (a : Int) (b : Int) = .ok ((d.take b).drop a) := by
  have h : ¬ ((a : Int) < 0 ∨ (b : Int) < 0) := by omega
  simp [Go.sliceI, h, Go.slice, h1, h2, List.drop_take]

theorem tdiv_tmod_spec (x : Int) :
    x = 8 * Int.tdiv x 8 + Int.tmod x 8 ∧ (0 ≤ x → 0 ≤ Int.tmod x 8 ∧ Int.tmod x 8 < 8) ∧
      (x ≤ 0 → -8 < Int.tmod x 8 ∧ Int.tmod x 8 ≤ 0) := by
  refine ⟨(Int.mul_tdiv_add_tmod x 8).symm, ?_, ?_⟩
  · intro h
    obtain ⟨n, rfl⟩ := Int.eq_ofNat_of_zero_le h
    rw [tmod_nat]; omega
  · intro h
    obtain ⟨n, rfl⟩ := Int.exists_eq_neg_ofNat h
    rw [Int.neg_tmod, tmod_nat]; omega

theorem sliceI_ok_bounds {d : Bytes} {a b : Int} {v : Bytes} (h : Go.sliceI d a b = .ok v) :
    0 ≤ a ∧ 0 ≤ b ∧ a ≤ b ∧ b ≤ (d.length : Int) := by
  unfold Go.sliceI at h
  split at h
  · cases h
  · unfold Go.slice at h
    split at h
    · omega
    · cases h

theorem sliceI_cases (d : Bytes) (a b : Int) : Go.sliceI d a b = .error .panic ∨ ∃ v, Go.sliceI d a b = .ok v := by
  unfold Go.sliceI Go.slice
  split
  · exact Or.inl rfl
  · split
    · exact Or.inr ⟨_, rfl⟩
    · exact Or.inl rfl

/-! The generated wire decoders are chains `Go.readU16 payload >>= fun t => …`; the models are chains of `thenR (readU 2 b) …`.
  For every reader one `_sim` lemma reduces "the two chains agree" to "the two continuations agree, for every value and
  every rest": the value ranges over the whole machine type and the model sees its `toNat`, so no length is computed and
  no word is converted twice. -/

theorem readU8_ok {b : Bytes} (h : 1 ≤ b.length) : Go.readU8 b = .ok (UInt8.ofNat (beNat (b.take 1)), b.drop 1) := by
  have : ¬ (min 1 b.length < 1) := by omega
  simp [Go.readU8, Go.next, List.length_take, this]
theorem readU16_ok {b : Bytes} (h : 2 ≤ b.length) : Go.readU16 b = .ok (UInt16.ofNat (beNat (b.take 2)), b.drop 2) := by
  have : ¬ (min 2 b.length < 2) := by omega
  simp [Go.readU16, Go.next, List.length_take, this]
theorem readU32_ok {b : Bytes} (h : 4 ≤ b.length) : Go.readU32 b = .ok (UInt32.ofNat (beNat (b.take 4)), b.drop 4) := by
  have : ¬ (min 4 b.length < 4) := by omega
  simp [Go.readU32, Go.next, List.length_take, this]
theorem readU64_ok {b : Bytes} (h : 8 ≤ b.length) : Go.readU64 b = .ok (UInt64.ofNat (beNat (b.take 8)), b.drop 8) := by
  have : ¬ (min 8 b.length < 8) := by omega
  simp [Go.readU64, Go.next, List.length_take, this]
theorem readU8_short {b : Bytes} (h : b.length < 1) : Go.readU8 b = .error .eof := by
  have : (min 1 b.length < 1) := by omega
  simp [Go.readU8, Go.next, List.length_take, this]
theorem readU16_short {b : Bytes} (h : b.length < 2) : Go.readU16 b = .error .eof := by
  have : (min 2 b.length < 2) := by omega
  simp [Go.readU16, Go.next, List.length_take, this]
theorem readU32_short {b : Bytes} (h : b.length < 4) : Go.readU32 b = .error .eof := by
  have : (min 4 b.length < 4) := by omega
  simp [Go.readU32, Go.next, List.length_take, this]
theorem readU64_short {b : Bytes} (h : b.length < 8) : Go.readU64 b = .error .eof := by
  have : (min 8 b.length < 8) := by omega
  simp [Go.readU64, Go.next, List.length_take, this]

theorem readBytes_ok {b : Bytes} {n : Nat} (hn : 0 < n) (h : n ≤ b.length) : Go.readBytes b n = .ok (b.take n, b.drop n) := by
  have h0 : ¬ n = 0 := by omega
  have h1 : ¬ (min n b.length < n) := by omega
  simp [Go.readBytes, Go.next, List.length_take, h0, h1]
theorem readBytes_short {b : Bytes} {n : Nat} (hn : 0 < n) (h : b.length < n) : Go.readBytes b n = .error .eof := by
  have h0 : ¬ n = 0 := by omega
  have h1 : (min n b.length < n) := by omega
  simp [Go.readBytes, Go.next, List.length_take, h0, h1]

theorem beNat_take1_lt (l : Bytes) : beNat (l.take 1) < 256 := beNat_take_lt l 1
theorem beNat_take2_lt (l : Bytes) : beNat (l.take 2) < 65536 := beNat_take_lt l 2
theorem beNat_take4_lt (l : Bytes) : beNat (l.take 4) < 4294967296 := beNat_take_lt l 4
theorem beNat_take8_lt (l : Bytes) : beNat (l.take 8) < 18446744073709551616 := beNat_take_lt l 8

theorem beNat_take1_mod (l : Bytes) : beNat (l.take 1) % 256 = beNat (l.take 1) := Nat.mod_eq_of_lt (beNat_take1_lt l)
theorem beNat_take2_mod (l : Bytes) : beNat (l.take 2) % 65536 = beNat (l.take 2) := Nat.mod_eq_of_lt (beNat_take2_lt l)
theorem beNat_take4_mod (l : Bytes) : beNat (l.take 4) % 4294967296 = beNat (l.take 4) := Nat.mod_eq_of_lt (beNat_take4_lt l)

theorem u8_beNat (l : Bytes) : (UInt8.ofNat (beNat (l.take 1))).toNat = beNat (l.take 1) := by
  rw [UInt8.toNat_ofNat']; exact beNat_take1_mod l
theorem u16_beNat (l : Bytes) : (UInt16.ofNat (beNat (l.take 2))).toNat = beNat (l.take 2) := by
  rw [UInt16.toNat_ofNat']; exact beNat_take2_mod l
theorem u32_beNat (l : Bytes) : (UInt32.ofNat (beNat (l.take 4))).toNat = beNat (l.take 4) := by
  rw [UInt32.toNat_ofNat']; exact beNat_take4_mod l
theorem u64_beNat (l : Bytes) : (UInt64.ofNat (beNat (l.take 8))).toNat = beNat (l.take 8) := by
  rw [UInt64.toNat_ofNat']; exact Nat.mod_eq_of_lt (beNat_take8_lt l)

theorem cond_simR {β γ : Type} (R : Res β → Res γ → Prop) {c : Bool} {q : Prop} [Decidable q] (hcq : c = true ↔ q)
    {A B : Res β} {A' B' : Res γ} (hA : q → R A A') (hB : ¬ q → R B B') : R (if c then A else B) (if q then A' else B') := by
  by_cases hq : q
  · rw [if_pos hq, if_pos (hcq.2 hq)]; exact hA hq
  · rw [if_neg hq, if_neg (mt hcq.1 hq)]; exact hB hq

/-- `cond_sim` inside a loop: `P` is the rest of the function -/
theorem cond_simP {β γ : Type} (P : Res β → Res γ) {c : Bool} {q : Prop} [Decidable q] (hcq : c = true ↔ q) {A B : Res β}
    {A' B' : Res γ} (hA : q → P A = A') (hB : ¬ q → P B = B') : P (if c then A else B) = if q then A' else B' :=
  cond_simR (fun x y => P x = y) hcq hA hB

section sim
variable {β γ : Type} (φ : β → γ)

theorem readU8_sim (b : Bytes) (f : UInt8 × Bytes → Res β) (k : Nat → Bytes → Res γ)
    (h : ∀ x b', (f (x, b')).map φ = k x.toNat b') : (Go.readU8 b >>= f).map φ = thenR (readU 1 b) k := by
  by_cases hb : 1 ≤ b.length
  · rw [readU8_ok hb, readU_ok hb, ok_bind, h, u8_beNat]; rfl
  · rw [readU8_short (Nat.lt_of_not_le hb), readU_short (Nat.lt_of_not_le hb)]; rfl

theorem readU16_sim (b : Bytes) (f : UInt16 × Bytes → Res β) (k : Nat → Bytes → Res γ)
    (h : ∀ x b', (f (x, b')).map φ = k x.toNat b') : (Go.readU16 b >>= f).map φ = thenR (readU 2 b) k := by
  by_cases hb : 2 ≤ b.length
  · rw [readU16_ok hb, readU_ok hb, ok_bind, h, u16_beNat]; rfl
  · rw [readU16_short (Nat.lt_of_not_le hb), readU_short (Nat.lt_of_not_le hb)]; rfl

theorem readU32_sim (b : Bytes) (f : UInt32 × Bytes → Res β) (k : Nat → Bytes → Res γ)
    (h : ∀ x b', (f (x, b')).map φ = k x.toNat b') : (Go.readU32 b >>= f).map φ = thenR (readU 4 b) k := by
  by_cases hb : 4 ≤ b.length
  · rw [readU32_ok hb, readU_ok hb, ok_bind, h, u32_beNat]; rfl
  · rw [readU32_short (Nat.lt_of_not_le hb), readU_short (Nat.lt_of_not_le hb)]; rfl

theorem readU64_sim (b : Bytes) (f : UInt64 × Bytes → Res β) (k : Nat → Bytes → Res γ)
    (h : ∀ x b', (f (x, b')).map φ = k x.toNat b') : (Go.readU64 b >>= f).map φ = thenR (readU 8 b) k := by
  by_cases hb : 8 ≤ b.length
  · rw [readU64_ok hb, readU_ok hb, ok_bind, h, u64_beNat]; rfl
  · rw [readU64_short (Nat.lt_of_not_le hb), readU_short (Nat.lt_of_not_le hb)]; rfl

/-- a `[]byte` destination of length `n > 0` (an empty one is an error of another class) -/
theorem readBytes_sim (b : Bytes) (n : Nat) (hn : 0 < n) (f : Bytes × Bytes → Res β) (k : Bytes → Bytes → Res γ)
    (h : ∀ x b', (f (x, b')).map φ = k x b') : (Go.readBytes b n >>= f).map φ = thenR (takeN n b) k := by
  by_cases hb : n ≤ b.length
  · rw [readBytes_ok hn hb, ok_bind, h]
    simp only [takeN, hb, if_true, thenR]
  · rw [readBytes_short hn (Nat.lt_of_not_le hb)]
    simp only [takeN, hb, if_false, thenR]
    rfl

theorem ite_sim {p q : Prop} [Decidable p] [Decidable q] (hpq : p ↔ q) {A B : Res β} {A' B' : Res γ}
    (hA : A.map φ = A') (hB : B.map φ = B') : (if decide p then A else B).map φ = if q then A' else B' := by
  by_cases hq : q
  · rw [if_pos hq, if_pos (decide_eq_true (hpq.2 hq))]; exact hA
  · rw [if_neg hq, if_neg (by simpa using mt hpq.1 hq)]; exact hB

theorem cond_sim {c : Bool} {q : Prop} [Decidable q] (hcq : c = true ↔ q) {A B : Res β} {A' B' : Res γ}
    (hA : q → A.map φ = A') (hB : ¬ q → B.map φ = B') : (if c then A else B).map φ = if q then A' else B' :=
  cond_simP (fun r => r.map φ) hcq hA hB

end sim

theorem map_ok {α β : Type} {φ : α → β} {g : Res α} {m : Res β} (h : g.map φ = m) {a : α} (hg : g = .ok a) : m = .ok (φ a) := by
  subst hg; exact h.symm
theorem map_err {α β : Type} {φ : α → β} {g : Res α} {m : Res β} (h : g.map φ = m) {e : Err} (hg : g = .error e) : m = .error e := by
  subst hg; exact h.symm

/-! The same for any way `P` of going on from the chain that passes an error through (inside a loop: the rest of the
    function). Here the rest of the buffer comes with its length, which is what the fuel of a loop is measured against. -/
section simP
variable {β γ : Type} (P : Res β → Res γ) (hP : ∀ e, P (.error e) = .error e)
include hP
theorem readU8_simP (b : Bytes) (f : UInt8 × Bytes → Res β) (k : Nat → Bytes → Res γ)
    (h : ∀ x b', b'.length + 1 = b.length → P (f (x, b')) = k x.toNat b') : P (Go.readU8 b >>= f) = thenR (readU 1 b) k := by
  by_cases hb : 1 ≤ b.length
  · rw [readU8_ok hb, readU_ok hb, ok_bind, h _ _ (by simp only [List.length_drop]; omega), u8_beNat]; rfl
  · rw [readU8_short (Nat.lt_of_not_le hb), readU_short (Nat.lt_of_not_le hb)]; exact hP _
theorem readU16_simP (b : Bytes) (f : UInt16 × Bytes → Res β) (k : Nat → Bytes → Res γ)
    (h : ∀ x b', b'.length + 2 = b.length → P (f (x, b')) = k x.toNat b') : P (Go.readU16 b >>= f) = thenR (readU 2 b) k := by
  by_cases hb : 2 ≤ b.length
  · rw [readU16_ok hb, readU_ok hb, ok_bind, h _ _ (by simp only [List.length_drop]; omega), u16_beNat]; rfl
  · rw [readU16_short (Nat.lt_of_not_le hb), readU_short (Nat.lt_of_not_le hb)]; exact hP _
theorem readU32_simP (b : Bytes) (f : UInt32 × Bytes → Res β) (k : Nat → Bytes → Res γ)
    (h : ∀ x b', b'.length + 4 = b.length → P (f (x, b')) = k x.toNat b') : P (Go.readU32 b >>= f) = thenR (readU 4 b) k := by
  by_cases hb : 4 ≤ b.length
  · rw [readU32_ok hb, readU_ok hb, ok_bind, h _ _ (by simp only [List.length_drop]; omega), u32_beNat]; rfl
  · rw [readU32_short (Nat.lt_of_not_le hb), readU_short (Nat.lt_of_not_le hb)]; exact hP _
end simP

theorem take_set_succ {α : Type} (l : List α) (i : Nat) (r : α) (h : i < l.length) :
    (l.set i r).take (i + 1) = l.take i ++ [r] := by
  induction l generalizing i with
  | nil => simp at h
  | cons a as ih =>
    cases i with
    | zero => simp
    | succ i => simp at h; simp [ih i (by omega)]

theorem readU16_tryCatch {β : Type} {b : Bytes} (h : 2 ≤ b.length) (onErr : Err → Res β) (k : UInt16 × Bytes → Res β) :
    Go.tryCatch (Go.readU16 b) onErr k = k (UInt16.ofNat (beNat (b.take 2)), b.drop 2) := by
  rw [readU16_ok h]; rfl
theorem readU32_tryCatch {β : Type} {b : Bytes} (h : 4 ≤ b.length) (onErr : Err → Res β) (k : UInt32 × Bytes → Res β) :
    Go.tryCatch (Go.readU32 b) onErr k = k (UInt32.ofNat (beNat (b.take 4)), b.drop 4) := by
  rw [readU32_ok h]; rfl
theorem readU16_tryCatch_short {β : Type} {b : Bytes} (h : b.length < 2) (onErr : Err → Res β) (k : UInt16 × Bytes → Res β) :
    Go.tryCatch (Go.readU16 b) onErr k = onErr .eof := by
  rw [readU16_short h]; rfl
theorem readU32_tryCatch_short {β : Type} {b : Bytes} (h : b.length < 4) (onErr : Err → Res β) (k : UInt32 × Bytes → Res β) :
    Go.tryCatch (Go.readU32 b) onErr k = onErr .eof := by
  rw [readU32_short h]; rfl

/-! The same for steps that are not reads: a result handed on as it is, and a decoder already known to agree with the model's. -/
section
variable {α β γ A B : Type} (P : Res β → Res γ) (hP : ∀ e, P (.error e) = .error e)
include hP
theorem bind_sim (r : Res (A × B)) (f : A × B → Res β) (k : A → B → Res γ) (h : ∀ a b, P (f (a, b)) = k a b) :
    P (r >>= f) = thenR r k := by
  cases r with
  | error e => exact hP e
  | ok x => exact h x.1 x.2

theorem map_sim {φ : α → A × B} {g : Res α} {m : Res (A × B)} (hm : g.map φ = m) (f : α → Res β) (k : A → B → Res γ)
    (h : ∀ a, m = .ok (φ a) → P (f a) = k (φ a).1 (φ a).2) : P (g >>= f) = thenR m k := by
  subst hm
  cases g with
  | error e => exact hP e
  | ok a => exact h a rfl
end

theorem thenR_pure {A B : Type} (r : Res (A × B)) : thenR r (fun a b => .ok (a, b)) = r := by
  cases r <;> rfl

theorem readU16_tryCatch_cases {β : Type} (P : Res β → Prop) (b : Bytes) (onErr : Err → Res β) (k : UInt16 × Bytes → Res β)
    (hs : b.length < 2 → P (onErr .eof))
    (hk : ∀ x : UInt16, x.toNat = beNat (b.take 2) → 2 ≤ b.length → P (k (x, b.drop 2))) :
    P (Go.tryCatch (Go.readU16 b) onErr k) := by
  by_cases hb : 2 ≤ b.length
  · rw [readU16_tryCatch hb]; exact hk _ (u16_beNat b) hb
  · rw [readU16_tryCatch_short (Nat.lt_of_not_le hb)]; exact hs (Nat.lt_of_not_le hb)

theorem readU32_tryCatch_cases {β : Type} (P : Res β → Prop) (b : Bytes) (onErr : Err → Res β) (k : UInt32 × Bytes → Res β)
    (hs : b.length < 4 → P (onErr .eof))
    (hk : ∀ x : UInt32, x.toNat = beNat (b.take 4) → 4 ≤ b.length → P (k (x, b.drop 4))) :
    P (Go.tryCatch (Go.readU32 b) onErr k) := by
  by_cases hb : 4 ≤ b.length
  · rw [readU32_tryCatch hb]; exact hk _ (u32_beNat b) hb
  · rw [readU32_tryCatch_short (Nat.lt_of_not_le hb)]; exact hs (Nat.lt_of_not_le hb)

section
variable {β γ : Type} (φ : β → γ)

/-- a word read by the generated code against the next field of a `readFields` of the model -/
theorem readU32_simF (b : Bytes) (ws : List Nat) (f : UInt32 × Bytes → Res β) (k : List Nat → Bytes → Res γ)
    (h : ∀ x b', (f (x, b')).map φ = thenR (readFields ws b') fun vs => k (x.toNat :: vs)) :
    (Go.readU32 b >>= f).map φ = thenR (readFields (4 :: ws) b) k := by
  rw [thenR_readFields_cons]; exact readU32_sim φ b f _ h

theorem readU64_simF (b : Bytes) (ws : List Nat) (f : UInt64 × Bytes → Res β) (k : List Nat → Bytes → Res γ)
    (h : ∀ x b', (f (x, b')).map φ = thenR (readFields ws b') fun vs => k (x.toNat :: vs)) :
    (Go.readU64 b >>= f).map φ = thenR (readFields (8 :: ws) b) k := by
  rw [thenR_readFields_cons]; exact readU64_sim φ b f _ h

/-- a test of the generated code that is known to fail -/
theorem skip_sim {c : Bool} (hc : c = false) {A B : Res β} {R : Res γ} (h : B.map φ = R) : (if c then A else B).map φ = R := by
  subst hc; exact h

end

/-- a decoder already tied to its model, as one more reader; `P` is the rest of the function and passes errors through -/
theorem bind_simP {α α' β γ : Type} (P : Res β → Res γ) (hP : ∀ e, P (.error e) = .error e) {φ : α → α'} {g : Res α} {m : Res α'}
    (h : g.map φ = m) (f : α → Res β) (k : α' → Res γ) (hk : ∀ t, P (f t) = k (φ t)) : P (g >>= f) = m >>= k := by
  subst h
  cases g with
  | error e => exact hP e
  | ok t => exact hk t

/-- `make([]byte, n)` with an `int` that is not negative -/
theorem makeBytesI_ofNat (n : Nat) : Go.makeBytesI (n : Int) = .ok (List.replicate n 0) := by
  have h : ¬ (n : Int) < 0 := by omega
  simp only [Go.makeBytesI, h, if_false, Int.toNat_natCast]

theorem idxLI_nat {α : Type} {l : List α} {k : Nat} (h : k < l.length) : Go.idxLI l (k : Int) = .ok l[k] := by
  have : ¬ ((k : Int) < 0) := by omega
  simp [Go.idxLI, Go.idxL, this, List.getElem?_eq_getElem h]

end Goflow.Go
