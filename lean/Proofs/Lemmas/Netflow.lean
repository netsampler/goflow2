import Proofs.Lemmas.Fields
import Goflow.Decoders.Netflow
/-! The NetFlow v9 / IPFIX decoder makes progress: a decoded record consumed at least the size of its
    template, so the data-set loop ends within its fuel and a template holds as many fields as it
    announced. Then the message decoders behind a header that could be read. -/
namespace Goflow.Netflow

theorem templateSize_cons (f : Field) (fs : List Field) :
    templateSize (f :: fs) = (if f.length = 0xffff then 1 else f.length) + templateSize fs := by
  simp [templateSize]

/-- one step of the field loop: what it goes on with is shorter by at least the minimal size of the field -/
theorem decodeFieldValues_cons (f : Field) (fs : List Field) (b : Bytes) :
    decodeFieldValues (f :: fs) b = .error .eof ∨
    ∃ (n : Nat) (b1 : Bytes), (b1.drop n).length ≤ b.length - (if f.length = 0xffff then 1 else f.length) ∧
      decodeFieldValues (f :: fs) b =
        match decodeFieldValues fs (b1.drop n) with
        | .error e => .error e
        | .ok (dfs, b3) => .ok (⟨f.penProvided, f.type, f.pen, some (b1.take n)⟩ :: dfs, b3) := by
  rw [decodeFieldValues]
  by_cases hv : f.length = 0xffff
  · simp only [hv, if_true]
    by_cases h1 : 1 ≤ b.length
    · rw [readU_ok h1]
      by_cases h255 : beNat (b.take 1) = 0xff
      · simp only [h255, if_true]
        by_cases h2 : 2 ≤ (b.drop 1).length
        · rw [readU_ok h2]
          refine Or.inr ⟨_, _, ?_, rfl⟩
          simp only [List.length_drop]
          omega
        · rw [readU_short (Nat.lt_of_not_le h2)]
          exact Or.inl rfl
      · simp only [h255, if_false]
        refine Or.inr ⟨_, _, ?_, rfl⟩
        simp only [List.length_drop]
        omega
    · rw [readU_short (Nat.lt_of_not_le h1)]
      exact Or.inl rfl
  · simp only [hv, if_false]
    exact Or.inr ⟨_, _, by rw [List.length_drop]; exact Nat.le_refl _, rfl⟩

/-- every fixed field takes its length (or everything that is left), every variable-length field at
    least its one-byte prefix -/
theorem decodeFieldValues_consumes (fs : List Field) (b b' : Bytes) (dfs : List DataField)
    (h : decodeFieldValues fs b = .ok (dfs, b')) :
    b'.length ≤ b.length - templateSize fs ∧ dfs.length = fs.length := by
  induction fs generalizing b b' dfs with
  | nil =>
    simp only [decodeFieldValues, Except.ok.injEq, Prod.mk.injEq] at h
    obtain ⟨rfl, rfl⟩ := h
    simp [templateSize]
  | cons f fs ih =>
    rcases decodeFieldValues_cons f fs b with he | ⟨n, b1, hlen, he⟩
    · rw [he] at h; cases h
    · rw [he] at h
      cases hrec : decodeFieldValues fs (b1.drop n) with
      | error e => rw [hrec] at h; cases h
      | ok r =>
        rw [hrec] at h
        cases h
        have := ih _ _ _ hrec
        rw [templateSize_cons, List.length_cons, this.2]
        generalize (if f.length = 0xffff then 1 else f.length) = k at hlen ⊢
        exact ⟨by omega, rfl⟩

theorem decodeFieldValues_err (fs : List Field) (b : Bytes) (e : Err)
    (h : decodeFieldValues fs b = .error e) : e = .eof := by
  induction fs generalizing b with
  | nil => simp [decodeFieldValues] at h
  | cons f fs ih =>
    rcases decodeFieldValues_cons f fs b with he | ⟨n, b1, _, he⟩
    · rw [he] at h; cases h; rfl
    · rw [he] at h
      split at h
      · rename_i e' hrec; cases h; exact ih _ hrec
      · cases h

theorem decodeDataSetLoop_bound (fs : List Field) (fuel : Nat) (b : Bytes) (rs : List DataRecord)
    (h : decodeDataSetLoop fs fuel b = .ok rs) : rs.length * templateSize fs ≤ b.length := by
  induction fuel generalizing b rs with
  | zero => simp [decodeDataSetLoop] at h
  | succ fuel ih =>
    unfold decodeDataSetLoop at h
    by_cases hsz : templateSize fs ≤ b.length
    · simp only [hsz, if_true, decodeDataSetUsingFields] at h
      split at h
      · cases h
      · rename_i vs b1 hdec
        split at h
        · cases h
        · rename_i rs' hrec
          cases h
          have h1 := (decodeFieldValues_consumes _ _ _ _ hdec).1
          have h2 := ih _ _ hrec
          simp only [List.length_cons, Nat.add_mul, Nat.one_mul]
          omega
    · simp only [hsz, if_false] at h
      cases h
      simp

theorem decodeDataSetLoop_terminates (fs : List Field) (hpos : 0 < templateSize fs) (fuel : Nat) (b : Bytes)
    (hf : b.length < fuel) : decodeDataSetLoop fs fuel b ≠ .error .diverge := by
  induction fuel generalizing b with
  | zero => omega
  | succ fuel ih =>
    unfold decodeDataSetLoop
    by_cases hsz : templateSize fs ≤ b.length
    · simp only [hsz, if_true, decodeDataSetUsingFields]
      split
      · rename_i e hdec
        intro h
        cases h
        have := decodeFieldValues_err _ _ _ hdec
        cases this
      · rename_i vs b1 hdec
        have h1 := (decodeFieldValues_consumes _ _ _ _ hdec).1
        have hlt : b1.length < fuel := by omega
        have := ih b1 hlt
        split
        · rename_i e he
          intro h; cases h; exact this he
        · intro h; cases h
    · simp [hsz]

/-- A successful read of `n` template fields returns `n` fields. Proved by the function's own induction principle here,
    in a module that every user of that principle imports: Lean generates the principle and the matcher equations under it
    on first use, and two modules that generate them independently cannot be imported together. -/
theorem decodeTemplateFields_length (version n : Nat) (b b' : Bytes) (fs : List Field)
    (h : decodeTemplateFields version n b = .ok (fs, b')) : fs.length = n := by
  fun_induction decodeTemplateFields version n b generalizing fs b' <;> cases h
  · rfl
  · rename_i ih; exact congrArg (· + 1) (ih _ _ ‹_›)
  · rename_i ih; exact congrArg (· + 1) (ih _ _ ‹_›)

/-!
The IPFIX set-area size `(length + 65536 - 16) % 65536` is bound to a variable: a numeral of that size
next to a free variable is evaluated in unary by the kernel (and by `simp`'s arithmetic on literals)
as soon as anything looks under `decodeSets`, so proofs should never see the expression itself. -/

theorem decodeMessageNetFlow_ok {s : Store} {b b1 : Bytes} {count x y z sourceId : Nat}
    (h : readFields [2, 4, 4, 4, 4] b = .ok ([count, x, y, z, sourceId], b1)) :
    ∃ r, r = decodeSets 9 sourceId count b1.length (b1.length + 2) 0 s b1 ∧
      decodeMessageNetFlow s b = ⟨⟨9, [count, x, y, z, sourceId], r.flowSets⟩, r.tnf, r.store, r.err⟩ := by
  refine ⟨_, rfl, ?_⟩
  unfold decodeMessageNetFlow
  rw [h]

theorem decodeMessageIPFIX_ok {s : Store} {b b1 : Bytes} {length x y dom : Nat}
    (h : readFields [2, 4, 4, 4] b = .ok ([length, x, y, dom], b1)) :
    ∃ size r, size = (length + 65536 - 16) % 65536 ∧
      r = decodeSets 10 dom size b1.length (b1.length + 2) 0 s b1 ∧
      decodeMessageIPFIX s b = ⟨⟨10, [length, x, y, dom], r.flowSets⟩, r.tnf, r.store, r.err⟩ := by
  refine ⟨_, _, rfl, rfl, ?_⟩
  unfold decodeMessageIPFIX
  rw [h]

theorem decodeMessageNetFlow_err {s : Store} {b : Bytes} {e : Err}
    (h : readFields [2, 4, 4, 4, 4] b = .error e) :
    decodeMessageNetFlow s b = ⟨⟨9, [], []⟩, false, s, some e⟩ := by
  unfold decodeMessageNetFlow
  rw [h]

theorem decodeMessageIPFIX_err {s : Store} {b : Bytes} {e : Err}
    (h : readFields [2, 4, 4, 4] b = .error e) :
    decodeMessageIPFIX s b = ⟨⟨10, [], []⟩, false, s, some e⟩ := by
  unfold decodeMessageIPFIX
  rw [h]

end Goflow.Netflow
