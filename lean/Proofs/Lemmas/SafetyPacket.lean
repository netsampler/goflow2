import Proofs.Lemmas.SafetySflow
import Goflow.Producer.Packet
/-! The parser chain of ParsePacket terminates: every parser except Teredo consumes at least one
    byte when it hands over to another parser, and Teredo hands over to IPv6. -/
namespace Goflow.Producer

/-- remaining work: twice the bytes left, plus one if the next parser is the zero-size Teredo parser -/
def mu (len : Nat) (next : Next) (offset : Nat) : Nat :=
  if next.callable then 2 * (len + 1 - offset) + (if next.parser = .teredo then 1 else 0) else 0

private theorem mplsLoop_off (d : Bytes) (fuel off : Nat) (ls ts : List Nat) (hd : off + 4 ≤ d.length) (hf : 0 < fuel) :
    off + 4 ≤ (mplsLoop d fuel off ls ts).2.2.1 := by
  induction fuel generalizing off ls ts with
  | zero => omega
  | succ fuel ih =>
    unfold mplsLoop
    have : ¬ d.length < off + 4 := by omega
    simp only [this, if_false]
    split
    · simp
    · by_cases hf0 : 0 < fuel
      · by_cases hd2 : off + 4 + 4 ≤ d.length
        · have := ih (off + 4) (ls ++ [be d off 3 / 16]) (ts ++ [u8 d (off + 3)]) hd2 hf0
          omega
        · cases fuel with
          | zero => omega
          | succ f =>
            unfold mplsLoop
            have : d.length < off + 4 + 4 := by omega
            simp [this]
      · have : fuel = 0 := by omega
        subst this
        simp [mplsLoop]

theorem runParser_progress (p : Parser) (m : FlowMsg) (d : Bytes) (pc : PC)
    (hc : (runParser p m d pc).next.callable = true) :
    (1 ≤ (runParser p m d pc).size) ∨ (p = .teredo ∧ (runParser p m d pc).next.parser = .ipv6) := by
  cases p <;> simp only [runParser] at hc ⊢
  · simp [tooShort, Next.none, Next.callable] at hc
  · unfold parseEthernet at hc ⊢
    by_cases h : d.length < 14
    · simp [h, tooShort, Next.none, Next.callable] at hc
    · simp [h]
  · unfold parse8021Q at hc ⊢
    by_cases h : d.length < 4
    · simp [h, tooShort, Next.none, Next.callable] at hc
    · simp [h]
  · unfold parseMPLS at hc ⊢
    split at hc
    · simp [tooShort, Next.none, Next.callable] at hc
    · rename_i h4
      have h4' : 0 + 4 ≤ d.length := by omega
      have := mplsLoop_off d (d.length / 4 + 1) 0 [] [] h4' (by omega)
      simp only [h4, if_false]
      generalize mplsLoop d (d.length / 4 + 1) 0 [] [] = r at *
      obtain ⟨ls, ts, off, et⟩ := r
      simp only at this hc ⊢
      cases et with
      | none => simp [Next.none, Next.callable] at hc
      | some e => obtain ⟨a, b⟩ := e; left; simp only; omega
  · unfold parseIPv4 at hc ⊢
    by_cases h : d.length < 20
    · simp [h, tooShort, Next.none, Next.callable] at hc
    · simp [h]
  · unfold parseIPv6 at hc ⊢
    by_cases h : d.length < 40
    · simp [h, tooShort, Next.none, Next.callable] at hc
    · simp [h]
  · unfold parseIPv6HeaderRouting at hc ⊢
    by_cases h : d.length < 8
    · simp [h, tooShort, Next.none, Next.callable] at hc
    · left; simp only [h, if_false]; omega
  · unfold parseIPv6HeaderFragment at hc ⊢
    by_cases h : d.length < 8
    · simp [h, tooShort, Next.none, Next.callable] at hc
    · simp [h]
  · unfold parseTCP at hc ⊢
    by_cases h : d.length < 20
    · simp [h, tooShort, Next.none, Next.callable] at hc
    · left; simp only [h, if_false]; omega
  · unfold parseUDP at hc ⊢
    by_cases h : d.length < 8
    · simp [h, tooShort, Next.none, Next.callable] at hc
    · simp [h]
  · unfold parseICMP at hc; split at hc <;> simp [tooShort, Next.none, Next.callable] at hc
  · unfold parseICMPv6 at hc; split at hc <;> simp [tooShort, Next.none, Next.callable] at hc
  · unfold parseGRE at hc ⊢
    by_cases h : d.length < 4
    · simp [h, tooShort, Next.none, Next.callable] at hc
    · simp [h]
  · right; simp [parseTeredoDst]
  · unfold parseGeneve at hc ⊢
    by_cases h : d.length < 8
    · simp [h, tooShort, Next.none, Next.callable] at hc
    · left; simp only [h, if_false]; omega

theorem mu_runParser_lt (len : Nat) (next : Next) (offset : Nat) (m : FlowMsg) (d : Bytes) (pc : PC)
    (hc : next.callable = true) (ho : offset ≤ len) :
    mu len (runParser next.parser m d pc).next (offset + (runParser next.parser m d pc).size) < mu len next offset := by
  have hprog := runParser_progress next.parser m d pc
  generalize runParser next.parser m d pc = r at *
  unfold mu
  rw [if_pos hc]
  by_cases hc' : r.next.callable = true
  · rw [if_pos hc']
    rcases hprog hc' with h1 | ⟨h1, h2⟩
    · split <;> split <;> omega
    · rw [if_pos h1, h2, if_neg (by decide)]
      omega
  · rw [if_neg hc']
    omega

/-- the layer mappings `es` fail only within `P`: the cut of `GetBytes` at every frame offset and the
    `MapCustom` onto the destination of each entry -/
def LayersIn (P : Err → Prop) (es : List LayerMapEntry) : Prop :=
  ∀ x ∈ es, (∀ (data : Bytes) (offset : Nat), ErrIn P (getBytes data ((offset : Int) * 8 + x.offset) x.length true)) ∧
    ∀ m v, ErrIn P (mapCustom m v x.field)

theorem mapLayerEntries_errIn {P : Err → Prop} (data : Bytes) (offset : Nat) (encap : Bool) (es : List LayerMapEntry)
    (hes : LayersIn P es) (m : FlowMsg) : ErrIn P (mapLayerEntries data offset encap es m) := by
  induction es generalizing m with
  | nil => exact .ok
  | cons x xs ih =>
    have ih := ih fun y hy => hes y (List.mem_cons_of_mem _ hy)
    obtain ⟨hg, hm⟩ := hes x List.mem_cons_self
    unfold mapLayerEntries
    split
    · exact ih m
    · split
      · exact .error (hg _ _ _ ‹_›)
      · split
        · exact .error (hm _ _ _ ‹_›)
        · exact ih _

theorem mapLayerKeys_errIn {P : Err → Prop} (cfg : Config) (hcfg : LayersIn P cfg.layers) (data : Bytes) (offset : Nat)
    (encap : Bool) (ks : List String) (m : FlowMsg) : ErrIn P (mapLayerKeys cfg data offset encap ks m) := by
  induction ks generalizing m with
  | nil => exact .ok
  | cons k ks ih =>
    unfold mapLayerKeys
    split
    · exact .error (mapLayerEntries_errIn data offset encap _ (fun x hx => hcfg x (List.mem_filter.mp hx).1) m _ ‹_›)
    · exact ih _

/-- the loop of ParsePacket stops within 2·|data| + 3 rounds whatever the layer mappings are: a round
    either ends the loop (failing mapping step, parser without successor, end of data) or lowers the
    measure `mu`, which the result of the mapping step does not enter -/
theorem parseLoop_errIn {P : Err → Prop} (cfg : Config) (hcfg : LayersIn P cfg.layers) (data : Bytes) (fuel : Nat)
    (next : Next) (offset : Nat) (encap : Bool) (encapIndex : Nat) (calls : List (Nat × Nat)) (m : FlowMsg)
    (hf : mu data.length next offset + 1 ≤ fuel) :
    ErrIn P (parseLoop cfg data fuel next offset encap encapIndex calls m) := by
  induction fuel generalizing next offset encap encapIndex calls m with
  | zero => omega
  | succ fuel ih =>
    unfold parseLoop
    refine .ite (fun hc => ?_) fun _ => .ok
    simp only
    split
    · rename_i he
      refine .error ?_
      split at he
      · exact mapLayerKeys_errIn cfg hcfg _ _ _ _ _ _ he
      · cases he
    · apply ih
      have := mu_runParser_lt data.length next offset m (data.drop offset)
        ⟨encap, (calls.lookup next.parserIndex).getD 0, cfg.ports⟩ hc.1 hc.2
      omega

theorem parsePacket_errIn {P : Err → Prop} (cfg : Config) (hcfg : LayersIn P cfg.layers) (m : FlowMsg) (data : Bytes) :
    ErrIn P (parsePacket cfg m data) := by
  unfold parsePacket
  apply parseLoop_errIn cfg hcfg
  unfold mu
  split <;> simp <;> omega

/-- without layer mappings ParsePacket never fails -/
theorem parsePacket_safe (cfg : Config) (hcfg : cfg.layers = []) (m : FlowMsg) (data : Bytes) :
    ∃ m', parsePacket cfg m data = .ok m' :=
  (parsePacket_errIn cfg (by rw [hcfg]; exact fun _ h => nomatch h) m data).exists_ok

end Goflow.Producer
