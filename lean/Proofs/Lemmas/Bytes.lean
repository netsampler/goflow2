import Goflow.Basic.Bytes
/-! Big-endian numbers (`beNat` against `encBE`), the readers `takeN` / `readU` on enough and on too
    few bytes, and `ByteArray.toList` as the list of the underlying array. -/
namespace Goflow

theorem beNat_foldl (bs : Bytes) (a : Nat) :
    bs.foldl (fun a b => a * 256 + b.toNat) a = a * 256 ^ bs.length + beNat bs := by
  induction bs generalizing a with
  | nil => simp [beNat]
  | cons b bs ih =>
    simp only [List.foldl_cons, List.length_cons, beNat]
    rw [ih, ih (0 * 256 + b.toNat)]
    simp [Nat.pow_succ, Nat.add_mul, Nat.mul_assoc, Nat.mul_comm 256, Nat.add_assoc]

theorem beNat_nil : beNat [] = 0 := rfl

theorem beNat_cons (b : UInt8) (bs : Bytes) :
    beNat (b :: bs) = b.toNat * 256 ^ bs.length + beNat bs := by
  simp only [beNat, List.foldl_cons]
  rw [beNat_foldl]; simp [beNat]

theorem beNat_append (a b : Bytes) :
    beNat (a ++ b) = beNat a * 256 ^ b.length + beNat b := by
  simp only [beNat, List.foldl_append]
  rw [beNat_foldl]; simp [beNat]

theorem beNat_lt (b : Bytes) : beNat b < 256 ^ b.length := by
  induction b with
  | nil => simp [beNat]
  | cons x xs ih =>
    rw [beNat_cons, List.length_cons, Nat.pow_succ]
    have hx : x.toNat < 256 := x.toNat_lt
    have : x.toNat * 256 ^ xs.length + 256 ^ xs.length ≤ 256 * 256 ^ xs.length := by
      have : (x.toNat + 1) * 256 ^ xs.length ≤ 256 * 256 ^ xs.length :=
        Nat.mul_le_mul_right _ (by omega)
      simpa [Nat.add_mul] using this
    rw [Nat.mul_comm (256 ^ xs.length) 256]; omega

@[simp] theorem encBE_length (n v : Nat) : (encBE n v).length = n := by
  induction n generalizing v with
  | zero => simp [encBE]
  | succ n ih => simp [encBE, ih]

theorem beNat_encBE (n v : Nat) : beNat (encBE n v) = v % 256 ^ n := by
  induction n generalizing v with
  | zero => simp [encBE, beNat, Nat.mod_one]
  | succ n ih =>
    simp only [encBE]
    rw [beNat_append, ih]
    simp only [List.length_singleton, Nat.pow_one]
    have h1 : beNat [UInt8.ofNat (v % 256)] = v % 256 := by
      simp [beNat, UInt8.toNat_ofNat']
    rw [h1, Nat.pow_succ, Nat.mul_comm (256 ^ n) 256, Nat.mod_mul]
    omega

theorem beNat_encBE_of_lt {n v : Nat} (h : v < 256 ^ n) : beNat (encBE n v) = v := by
  rw [beNat_encBE, Nat.mod_eq_of_lt h]

theorem takeN_append {n : Nat} (x r : Bytes) (h : x.length = n) :
    takeN n (x ++ r) = .ok (x, r) := by
  subst h; simp [takeN]

theorem takeN_ok_iff {n : Nat} {b x r : Bytes} :
    takeN n b = .ok (x, r) ↔ n ≤ b.length ∧ x = b.take n ∧ r = b.drop n := by
  unfold takeN
  by_cases h : n ≤ b.length
  · simp only [h, if_true, Except.ok.injEq, Prod.mk.injEq, true_and]
    constructor
    · rintro ⟨h1, h2⟩; exact ⟨h1.symm, h2.symm⟩
    · rintro ⟨h1, h2⟩; exact ⟨h1.symm, h2.symm⟩
  · simp [h]

theorem readU_enc {n v : Nat} (r : Bytes) (h : v < 256 ^ n) :
    readU n (encBE n v ++ r) = .ok (v, r) := by
  simp [readU, takeN_append _ _ (encBE_length n v), beNat_encBE_of_lt h]

theorem readU_append {n : Nat} (x r : Bytes) (h : x.length = n) :
    readU n (x ++ r) = .ok (beNat x, r) := by
  simp [readU, takeN_append _ _ h]

theorem readU_short {n : Nat} {b : Bytes} (h : b.length < n) : readU n b = .error .eof := by
  have : ¬ n ≤ b.length := by omega
  simp [readU, takeN, this]

theorem readU_ok {n : Nat} {b : Bytes} (h : n ≤ b.length) :
    readU n b = .ok (beNat (b.take n), b.drop n) := by
  simp [readU, takeN, h]

theorem readU_err {n : Nat} {b : Bytes} {e : Err} (h : readU n b = .error e) : e = .eof := by
  by_cases hn : n ≤ b.length
  · rw [readU_ok hn] at h; cases h
  · rw [readU_short (Nat.lt_of_not_le hn)] at h; cases h; rfl

theorem readU_ok_length {n : Nat} {b b' : Bytes} {v : Nat} (h : readU n b = .ok (v, b')) : b'.length + n = b.length := by
  by_cases hn : n ≤ b.length
  · rw [readU_ok hn] at h
    simp only [Except.ok.injEq, Prod.mk.injEq] at h
    rw [← h.2]; simp; omega
  · rw [readU_short (Nat.lt_of_not_le hn)] at h; cases h

theorem takeN_err {n : Nat} {b : Bytes} {e : Err} (h : takeN n b = .error e) : e = .eof := by
  unfold takeN at h; split at h <;> cases h; rfl

theorem toList_loop (bs : ByteArray) (i : Nat) (r : List UInt8) :
    ByteArray.toList.loop bs i r = r.reverse ++ bs.data.toList.drop i := by
  induction hn : bs.size - i generalizing i r with
  | zero =>
    unfold ByteArray.toList.loop
    have h : ¬ i < bs.size := by omega
    rw [if_neg h, List.drop_eq_nil_of_le (Nat.le_of_not_lt h), List.append_nil]
  | succ n ih =>
    unfold ByteArray.toList.loop
    have hi : i < bs.size := by omega
    have e : bs.get! i = bs.data.toList[i] := by
      show bs.data[i]! = _
      rw [getElem!_pos bs.data i hi, Array.getElem_toList]
    rw [if_pos hi, ih _ _ (by omega), List.drop_eq_getElem_cons hi, e, List.reverse_cons, List.append_assoc]
    rfl

/-- `ByteArray.toList` without its well-founded loop, which is slow to evaluate in the kernel -/
theorem toList_eq_data (bs : ByteArray) : bs.toList = bs.data.toList := by
  unfold ByteArray.toList
  rw [toList_loop]; rfl

end Goflow
