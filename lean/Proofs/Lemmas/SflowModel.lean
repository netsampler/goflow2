import Goflow.Decoders.Sflow
import Proofs.Lemmas.ThenR
/-!
  What the sFlow model (Goflow/Decoders/Sflow.lean) does on each format, as a chain of `thenR` steps: one lemma per branch of
  `decodeIP`, `decodeCounterRecord`, `decodeFlowRecord`, `decodeSample` and `decodeMessage`, and one pass of the record loop
  (of which the sample loop is an instance). Nothing here mentions generated code.
-/
namespace Goflow.Sflow
open Goflow

section
variable {γ : Type}

theorem thenR_readItems_nil (b : Bytes) (k : List V → Bytes → Res γ) : thenR (readItems [] b) k = k [] b := rfl

theorem thenR_readItems_u (w : Nat) (is : List Item) (b : Bytes) (k : List V → Bytes → Res γ) :
    thenR (readItems (.u w :: is) b) k = thenR (readU w b) fun v b' => thenR (readItems is b') fun vs => k (.n v :: vs) := by
  rw [readItems]
  cases readU w b with
  | error e => rfl
  | ok r =>
    obtain ⟨v, b'⟩ := r
    show thenR (match readItems is b' with | .error e => .error e | .ok (vs, b'') => .ok (V.n v :: vs, b'')) k =
      thenR (readItems is b') fun vs => k (.n v :: vs)
    cases readItems is b' <;> rfl

theorem thenR_readItems_b (n : Nat) (is : List Item) (b : Bytes) (k : List V → Bytes → Res γ) :
    thenR (readItems (.b n :: is) b) k = thenR (takeN n b) fun x b' => thenR (readItems is b') fun vs => k (.b x :: vs) := by
  rw [readItems]
  cases takeN n b with
  | error e => rfl
  | ok r =>
    obtain ⟨x, b'⟩ := r
    show thenR (match readItems is b' with | .error e => .error e | .ok (vs, b'') => .ok (V.b x :: vs, b'')) k =
      thenR (readItems is b') fun vs => k (.b x :: vs)
    cases readItems is b' <;> rfl

end

theorem decodeIP_thenR (b : Bytes) :
    decodeIP b = thenR (readU 4 b) fun v b1 =>
      if v = 1 then (if 4 ≤ b1.length then .ok (v, b1.take 4, b1.drop 4) else .error .bad)
      else if v = 2 then (if 16 ≤ b1.length then .ok (v, b1.take 16, b1.drop 16) else .error .bad)
      else .error .bad := by
  unfold decodeIP thenR
  cases readU 4 b with
  | error e => rfl
  | ok r =>
    obtain ⟨v, b1⟩ := r
    dsimp only
    by_cases h1 : v = 1
    · rw [if_pos h1, if_pos h1, if_neg (by decide)]
    · rw [if_neg h1, if_neg h1]
      by_cases h2 : v = 2
      · rw [if_pos h2, if_pos h2, if_neg (by decide)]
      · rw [if_neg h2, if_neg h2, if_pos rfl]

theorem decodeCounterRecord_one (len : Nat) (b : Bytes) :
    decodeCounterRecord 1 len b = thenR (readFields ifCountersW b) fun vs _ => .ok ⟨1, len, .ifc vs⟩ := by
  unfold decodeCounterRecord thenR; cases readFields ifCountersW b <;> rfl

theorem decodeCounterRecord_two (len : Nat) (b : Bytes) :
    decodeCounterRecord 2 len b = thenR (readFields ethCountersW b) fun vs _ => .ok ⟨2, len, .eth vs⟩ := by
  unfold decodeCounterRecord thenR; cases readFields ethCountersW b <;> rfl

theorem decodeFlowRecord_raw (len : Nat) (b : Bytes) :
    decodeFlowRecord 1 len b = thenR (readFields [4, 4, 4, 4] b) fun vs b1 => .ok ⟨1, len, .raw vs b1⟩ := by
  unfold decodeFlowRecord thenR; cases readFields [4, 4, 4, 4] b <;> rfl

/-- a format that has a fixed layout is none of the formats decoded by hand, since those have none -/
theorem decodeFlowRecord_fixed {fmt : Nat} {lay : List Item} (h : layoutOf fmt = some lay) (len : Nat) (b : Bytes) :
    decodeFlowRecord fmt len b = thenR (readItems lay b) fun vs _ => .ok ⟨fmt, len, .fixed fmt vs⟩ := by
  have ne : ∀ c, layoutOf c = none → fmt ≠ c := fun c hc e => by rw [e, hc] at h; cases h
  unfold decodeFlowRecord thenR
  rw [if_neg (ne 1 rfl), if_neg (ne 1002 rfl), if_neg (ne 1003 rfl), if_neg (ne 1037 rfl), if_neg (ne 1038 rfl), h]
  dsimp only
  cases readItems lay b <;> rfl

theorem decodeFlowRecord_router (len : Nat) (b : Bytes) :
    decodeFlowRecord 1002 len b = thenR (decodeIP b) fun v r => thenR (readFields [4, 4] r.2) fun vs _ =>
      match vs with
      | [s, d] => .ok ⟨1002, len, .router v r.1 s d⟩
      | _ => .error .panic := by
  unfold decodeFlowRecord thenR
  cases decodeIP b with
  | error e => rfl
  | ok r =>
    obtain ⟨v, ip, b1⟩ := r
    dsimp only [reduceIte, Nat.reduceEqDiff]
    cases readFields [4, 4] b1 <;> rfl

theorem decodeFlowRecord_acl (len : Nat) (b : Bytes) :
    decodeFlowRecord 1037 len b = thenR (readU 4 b) fun num b1 => thenR (readString b1) fun name b2 =>
      thenR (readU 4 b2) fun dir _ => .ok ⟨1037, len, .acl num name dir⟩ := by
  unfold decodeFlowRecord thenR
  cases readU 4 b with
  | error e => rfl
  | ok r =>
    obtain ⟨num, b1⟩ := r
    dsimp only [reduceIte, Nat.reduceEqDiff]
    cases readString b1 with
    | error e => rfl
    | ok r =>
      obtain ⟨name, b2⟩ := r
      dsimp only
      cases readU 4 b2 <;> rfl

theorem decodeFlowRecord_function (len : Nat) (b : Bytes) :
    decodeFlowRecord 1038 len b = thenR (readString b) fun sym _ => .ok ⟨1038, len, .function sym⟩ := by
  unfold decodeFlowRecord thenR
  cases readString b <;> rfl

theorem decodeFlowRecord_unknown {fmt : Nat} (h1 : fmt ≠ 1) (h2 : fmt ≠ 1002) (h3 : fmt ≠ 1003) (h4 : fmt ≠ 1037) (h5 : fmt ≠ 1038)
    (h : layoutOf fmt = none) (len : Nat) (b : Bytes) : decodeFlowRecord fmt len b = .ok ⟨fmt, len, .unknown b⟩ := by
  unfold decodeFlowRecord
  rw [if_neg h1, if_neg h2, if_neg h3, if_neg h4, if_neg h5, h]

/-- the model's gateway record from the communities on -/
def mTail (len v : Nat) (ip : Bytes) (hd : List Nat) (pt pl : Nat) (path : List Nat) (b4 : Bytes) : Res Sflow.FlowRecord :=
  thenR (readU 4 b4) fun cl b5 => thenR (readCapped cl b5) fun comm b6 => thenR (readU 4 b6) fun lp _ =>
    .ok ⟨1003, len, .gateway v ip hd pt pl path cl comm lp⟩

theorem mTail_eq (len v : Nat) (ip : Bytes) (hd : List Nat) (pt pl : Nat) (path : List Nat) (b4 : Bytes) :
    (match readU 4 b4 with
    | .error e => .error e
    | .ok (cl, b5) =>
      match readCapped cl b5 with
      | .error e => .error e
      | .ok (comm, b6) =>
        match readU 4 b6 with
        | .error e => .error e
        | .ok (lp, _) => .ok ⟨1003, len, .gateway v ip hd pt pl path cl comm lp⟩) = mTail len v ip hd pt pl path b4 := by
  unfold mTail thenR
  cases readU 4 b4 with
  | error e => rfl
  | ok r =>
    obtain ⟨cl, b5⟩ := r
    dsimp only
    cases readCapped cl b5 with
    | error e => rfl
    | ok r =>
      obtain ⟨comm, b6⟩ := r
      dsimp only
      cases readU 4 b6 <;> rfl

theorem decodeFlowRecord_gateway (len : Nat) (b : Bytes) :
    decodeFlowRecord 1003 len b = thenR (decodeIP b) fun v r => thenR (readFields [4, 4, 4, 4] r.2) fun hd b2 =>
      if hd.getD 3 0 ≠ 0 then
        thenR (readFields [4, 4] b2) fun tl b3 =>
          match tl with
          | [pt, pl] => thenR (readCapped pl b3) fun path b4 => mTail len v r.1 hd pt pl path b4
          | _ => .error .panic
      else mTail len v r.1 hd 0 0 [] b2 := by
  unfold decodeFlowRecord thenR
  cases decodeIP b with
  | error e => rfl
  | ok r =>
    obtain ⟨v, ip, b1⟩ := r
    dsimp only [reduceIte, Nat.reduceEqDiff]
    cases readFields [4, 4, 4, 4] b1 with
    | error e => rfl
    | ok r =>
      obtain ⟨hd, b2⟩ := r
      dsimp only
      by_cases hz : hd.getD 3 0 ≠ 0
      · rw [if_pos hz, if_pos hz]
        cases readFields [4, 4] b2 with
        | error e => rfl
        | ok r =>
          obtain ⟨tl, b3⟩ := r
          rcases tl with _ | ⟨pt, _ | ⟨pl, _ | _⟩⟩ <;> try rfl
          dsimp only
          cases readCapped pl b3 with
          | error e => rfl
          | ok r => exact mTail_eq ..
      · rw [if_neg hz, if_neg hz]; exact mTail_eq ..

/-- the two loops have the same text; their `match`es are different constants, so the equality goes case by case -/
theorem sampleLoop_eq (n : Nat) (b : Bytes) : sampleLoop n b = recordLoop decodeSample n b := by
  induction n generalizing b with
  | zero => rfl
  | succ n ih =>
    rw [sampleLoop, recordLoop]
    simp only [ih]
    split
    · cases readFields [4, 4] b with
      | error e => rfl
      | ok r =>
        obtain ⟨vs, b1⟩ := r
        rcases vs with _ | ⟨f, _ | ⟨l, _ | _⟩⟩ <;> try rfl
        dsimp only
        split
        · rfl
        · cases decodeSample f l (b1.take l) with
          | error e => rfl
          | ok s => cases recordLoop decodeSample n (b1.drop l) <;> rfl
    · rfl

/-- one pass of the loop read by read, under whatever is made of the records afterwards -/
theorem recordLoop_succ_map {α β : Type} (dec : Nat → Nat → Bytes → Res α) (g : List α → β) (n : Nat) (b : Bytes) :
    (recordLoop dec (n + 1) b).map g =
      if 8 ≤ b.length then
        thenR (readU 4 b) fun fmt b0 => thenR (readU 4 b0) fun len b1 =>
          if len > b1.length then .ok (g [])
          else dec fmt len (b1.take len) >>= fun r => (recordLoop dec n (b1.drop len)).map fun rs => g (r :: rs)
      else .ok (g []) := by
  rw [recordLoop]
  split
  · simp only [readFields]
    cases readU 4 b with
    | error e => rfl
    | ok r =>
      obtain ⟨f, b0⟩ := r
      simp only [thenR]
      cases readU 4 b0 with
      | error e => rfl
      | ok r =>
        obtain ⟨l, b1⟩ := r
        simp only
        split
        · rfl
        · cases dec f l (b1.take l) with
          | error e => rfl
          | ok x => cases recordLoop dec n (b1.drop l) <;> rfl
  · rfl

theorem recordLoop_stop {α : Type} (dec : Nat → Nat → Bytes → Res α) {n : Nat} {b : Bytes} (h : n = 0 ∨ b.length < 8) :
    recordLoop dec n b = .ok [] := by
  cases n with
  | zero => rfl
  | succ n => rw [recordLoop, if_neg (by omega)]

/-- the loop as a loop that counts up from `i` to `rc` sees it -/
theorem recordLoop_sub_map {α β : Type} (dec : Nat → Nat → Bytes → Res α) (g : List α → β) (rc i : Nat) (b : Bytes) :
    (recordLoop dec (rc - i) b).map g =
      if i < rc ∧ 8 ≤ b.length then
        thenR (readU 4 b) fun fmt b0 => thenR (readU 4 b0) fun len b1 =>
          if len > b1.length then .ok (g [])
          else dec fmt len (b1.take len) >>= fun r => (recordLoop dec (rc - (i + 1)) (b1.drop len)).map fun rs => g (r :: rs)
      else .ok (g []) := by
  by_cases hc : i < rc ∧ 8 ≤ b.length
  · obtain ⟨k, rfl⟩ := Nat.exists_eq_add_of_lt hc.1
    rw [if_pos hc, Nat.add_sub_add_right, Nat.add_assoc, Nat.add_sub_cancel_left, Nat.add_sub_cancel_left, recordLoop_succ_map,
      if_pos hc.2]
  · rw [if_neg hc, recordLoop_stop dec (by omega)]
    rfl

theorem recordLoop_length {α : Type} (dec : Nat → Nat → Bytes → Res α) : ∀ (n : Nat) (b : Bytes) (rs : List α),
    recordLoop dec n b = .ok rs → rs.length ≤ n := by
  intro n
  induction n with
  | zero => intro b rs h; cases h; exact Nat.le_refl 0
  | succ n ih =>
    intro b rs h
    rw [recordLoop] at h
    split at h
    · split at h
      · cases h
      · split at h
        · split at h
          · cases h; exact Nat.zero_le _
          · split at h
            · cases h
            · split at h
              · cases h
              · rename_i rs' hr
                cases h
                exact Nat.succ_le_succ (ih _ _ hr)
        · cases h
    · cases h; exact Nat.zero_le _

theorem decodeSample_flow (len : Nat) (b : Bytes) :
    decodeSample 1 len b = thenR (readU 4 b) fun seq b1 => thenR (readU 4 b1) fun sid b2 =>
      thenR (readFields [4, 4, 4, 4, 4, 4] b2) fun vs b3 =>
        if vs.getD 5 0 > 1000 then .error .bad else
        match recordLoop decodeFlowRecord (vs.getD 5 0) b3 with
        | .error e => .error e
        | .ok rs => .ok (.flow ⟨1, len, seq, sid / 2 ^ 24, sid % 2 ^ 24⟩ vs (padTo (vs.getD 5 0) zeroFlowRecord rs)) := by
  unfold decodeSample thenR
  cases readU 4 b with
  | error e => rfl
  | ok r =>
    obtain ⟨seq, b1⟩ := r
    dsimp only
    cases readU 4 b1 with
    | error e => rfl
    | ok r =>
      obtain ⟨sid, b2⟩ := r
      simp (config := { decide := true }) only [reduceIte]
      cases readFields [4, 4, 4, 4, 4, 4] b2 <;> rfl

theorem decodeSample_counter (len : Nat) (b : Bytes) :
    decodeSample 2 len b = thenR (readU 4 b) fun seq b1 => thenR (readU 4 b1) fun sid b2 =>
      thenR (readU 4 b2) fun cnt b3 =>
        if cnt > 1000 then .error .bad else
        match recordLoop decodeCounterRecord cnt b3 with
        | .error e => .error e
        | .ok rs => .ok (.counter ⟨2, len, seq, sid / 2 ^ 24, sid % 2 ^ 24⟩ cnt (padTo cnt zeroCounterRecord rs)) := by
  unfold decodeSample thenR
  cases readU 4 b with
  | error e => rfl
  | ok r =>
    obtain ⟨seq, b1⟩ := r
    dsimp only
    cases readU 4 b1 with
    | error e => rfl
    | ok r =>
      obtain ⟨sid, b2⟩ := r
      simp (config := { decide := true }) only [reduceIte]
      cases readU 4 b2 <;> rfl

/-- the expanded formats 3, 4, 5 read the source id as two words -/
theorem decodeSample_expanded (fmt len : Nat) (b : Bytes) (h : fmt = 3 ∨ fmt = 4 ∨ fmt = 5) :
    decodeSample fmt len b = thenR (readU 4 b) fun seq b1 => thenR (readFields [4, 4] b1) fun tv b2 =>
      match tv with
      | [t, v] =>
        if fmt = 4 then
          thenR (readU 4 b2) fun cnt b3 =>
            if cnt > 1000 then .error .bad else
            match recordLoop decodeCounterRecord cnt b3 with
            | .error e => .error e
            | .ok rs => .ok (.counter ⟨fmt, len, seq, t, v⟩ cnt (padTo cnt zeroCounterRecord rs))
        else if fmt = 3 then
          thenR (readFields [4, 4, 4, 4, 4, 4, 4, 4] b2) fun vs b3 =>
            if vs.getD 7 0 > 1000 then .error .bad else
            match recordLoop decodeFlowRecord (vs.getD 7 0) b3 with
            | .error e => .error e
            | .ok rs => .ok (.expFlow ⟨fmt, len, seq, t, v⟩ vs (padTo (vs.getD 7 0) zeroFlowRecord rs))
        else
          thenR (readFields [4, 4, 4, 4, 4] b2) fun vs b3 =>
            if vs.getD 4 0 > 1000 then .error .bad else
            match recordLoop decodeFlowRecord (vs.getD 4 0) b3 with
            | .error e => .error e
            | .ok rs => .ok (.drop ⟨fmt, len, seq, t, v⟩ vs (padTo (vs.getD 4 0) zeroFlowRecord rs))
      | _ => .error .panic := by
  unfold decodeSample thenR
  cases readU 4 b with
  | error e => rfl
  | ok r =>
    obtain ⟨seq, b1⟩ := r
    have h12 : ¬ (fmt = 1 ∨ fmt = 2) := by omega
    have h1 : ¬ fmt = 1 := by omega
    dsimp only
    rw [if_neg h12, if_pos h]
    cases readFields [4, 4] b1 with
    | error e => rfl
    | ok r =>
      obtain ⟨tv, b2⟩ := r
      rcases tv with _ | ⟨t, _ | ⟨v, _ | _⟩⟩ <;> try rfl
      dsimp only
      rw [if_neg h1]
      rcases h with rfl | rfl | rfl
      · simp (config := { decide := true }) only [reduceIte]
        cases readFields [4, 4, 4, 4, 4, 4, 4, 4] b2 <;> rfl
      · simp (config := { decide := true }) only [reduceIte]
        cases readU 4 b2 <;> rfl
      · simp (config := { decide := true }) only [reduceIte]
        cases readFields [4, 4, 4, 4, 4] b2 <;> rfl

theorem decodeSample_other (fmt len : Nat) (b : Bytes) (h : ¬ (fmt = 1 ∨ fmt = 2)) (h' : ¬ (fmt = 3 ∨ fmt = 4 ∨ fmt = 5)) :
    decodeSample fmt len b = thenR (readU 4 b) fun _ _ => .error .bad := by
  unfold decodeSample thenR
  cases readU 4 b with
  | error e => rfl
  | ok r => dsimp only; rw [if_neg h, if_neg h']

/-- the model's packet from the agent address (of `n` bytes) on, with `ver` as its version -/
def mPacket (ver ipv n : Nat) (b1 : Bytes) : Res Sflow.Packet :=
  thenR (takeN n b1) fun ip b2 => thenR (readFields [4, 4, 4, 4] b2) fun hd b3 =>
    if hd.getD 3 0 > 1000 then .error .bad else
    (sampleLoop (hd.getD 3 0) b3).map fun ss => ⟨ver, ipv, ip, hd, padTo (hd.getD 3 0) Sample.none ss⟩

theorem mPacket_version (ver v ipv n : Nat) (b1 : Bytes) :
    (mPacket v ipv n b1).map (fun p => { p with version := ver }) = mPacket ver ipv n b1 := by
  unfold mPacket
  rw [thenR_map]
  congr 1; funext ip b2
  rw [thenR_map]
  congr 1; funext hd b3
  split
  · rfl
  · cases sampleLoop (hd.getD 3 0) b3 <;> rfl

theorem mPacket_eq (ipv n : Nat) (b1 : Bytes) :
    (match takeN n b1 with
    | .error e => .error e
    | .ok (ip, b2) =>
      match readFields [4, 4, 4, 4] b2 with
      | .error e => .error e
      | .ok (hd, b3) =>
        if hd.getD 3 0 > 1000 then .error .bad else
        match sampleLoop (hd.getD 3 0) b3 with
        | .error e => .error e
        | .ok ss => .ok ⟨5, ipv, ip, hd, padTo (hd.getD 3 0) Sample.none ss⟩ : Res Sflow.Packet) = mPacket 5 ipv n b1 := by
  unfold mPacket thenR
  cases takeN n b1 with
  | error e => rfl
  | ok r =>
    obtain ⟨ip, b2⟩ := r
    dsimp only
    cases readFields [4, 4, 4, 4] b2 with
    | error e => rfl
    | ok r =>
      obtain ⟨hd, b3⟩ := r
      dsimp only
      split
      · rfl
      · cases sampleLoop (hd.getD 3 0) b3 <;> rfl

theorem decodeMessage_thenR (b : Bytes) :
    decodeMessage b = thenR (readU 4 b) fun ipv b1 =>
      if ipv = 1 then mPacket 5 ipv 4 b1 else if ipv = 2 then mPacket 5 ipv 16 b1 else .error .bad := by
  unfold decodeMessage thenR
  cases readU 4 b with
  | error e => rfl
  | ok r =>
    obtain ⟨ipv, b1⟩ := r
    dsimp only
    by_cases h1 : ipv = 1
    · rw [if_pos h1, if_pos h1, if_neg (by decide)]; exact mPacket_eq ..
    · rw [if_neg h1, if_neg h1]
      by_cases h2 : ipv = 2
      · rw [if_pos h2, if_pos h2, if_neg (by decide)]; exact mPacket_eq ..
      · rw [if_neg h2, if_neg h2, if_pos rfl]

/-- the same with the version word of the caller in place of the model's 5 -/
theorem decodeMessage_eq (ver : Nat) (b : Bytes) :
    (decodeMessage b).map (fun p => { p with version := ver }) = thenR (readU 4 b) fun ipv b1 =>
      if ipv = 1 then mPacket ver ipv 4 b1 else if ipv = 2 then mPacket ver ipv 16 b1 else .error .bad := by
  rw [decodeMessage_thenR, thenR_map]
  congr 1; funext ipv b1
  simp only [apply_ite (Except.map _), mPacket_version]
  rfl

end Goflow.Sflow
