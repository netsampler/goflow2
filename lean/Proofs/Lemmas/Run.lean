/-!
  Transition systems whose threads are the positions of a list and whose runs are schedules:
  the invariant principle for `run`, and the frame lemma for `List.set`.
-/
namespace Goflow

/-- `run` is any function with the two equations of a schedule runner that skips disabled events. -/
theorem inv_run {σ ε : Type} {step : σ → ε → Option σ} {run : σ → List ε → σ}
    (run_nil : ∀ s, run s [] = s) (run_cons : ∀ s e es, run s (e :: es) = run ((step s e).getD s) es)
    {P : σ → Prop} (hstep : ∀ s e s', P s → step s e = some s' → P s')
    (es : List ε) (s : σ) (h : P s) : P (run s es) := by
  induction es generalizing s with
  | nil => rw [run_nil]; exact h
  | cons e es ih =>
    rw [run_cons]
    cases hs : step s e with
    | none => exact ih _ h
    | some s' => exact ih _ (hstep _ _ _ h hs)

theorem inv_run_total {σ ε : Type} {step : σ → ε → σ} {run : σ → List ε → σ}
    (run_nil : ∀ s, run s [] = s) (run_cons : ∀ s e es, run s (e :: es) = run (step s e) es)
    {P : σ → Prop} (hstep : ∀ s e, P s → P (step s e)) (es : List ε) (s : σ) (h : P s) : P (run s es) :=
  inv_run (step := fun s e => some (step s e)) run_nil run_cons
    (fun s e _ hs he => Option.some.inj he ▸ hstep s e hs) es s h

theorem getElem?_set_cases {α} {l : List α} {i j : Nat} {a b : α} (h : (l.set i a)[j]? = some b) :
    (i = j ∧ a = b) ∨ (i ≠ j ∧ l[j]? = some b) := by
  rw [List.getElem?_set] at h
  by_cases hij : i = j
  · rw [if_pos hij] at h
    split at h
    · exact .inl ⟨hij, Option.some.inj h⟩
    · cases h
  · rw [if_neg hij] at h
    exact .inr ⟨hij, h⟩

theorem getElem?_set_of_some {α} {l : List α} {i : Nat} {old : α} (a : α) (h : l[i]? = some old) (j : Nat) :
    (l.set i a)[j]? = if i = j then some a else l[j]? := by
  rw [List.getElem?_set]
  split
  · rw [if_pos (List.getElem?_eq_some_iff.mp h).1]
  · rfl

theorem forall_getElem?_set {α} {l : List α} {i : Nat} {a : α} {Q : Nat → α → Prop}
    (hold : ∀ j b, l[j]? = some b → Q j b) (hnew : Q i a) :
    ∀ j b, (l.set i a)[j]? = some b → Q j b := by
  intro j b h
  rcases getElem?_set_cases h with ⟨rfl, rfl⟩ | ⟨_, h'⟩
  · exact hnew
  · exact hold j b h'

theorem getElem?_replicate_eq {α} {n i : Nat} {a b : α} (h : (List.replicate n a)[i]? = some b) : b = a := by
  rw [List.getElem?_replicate] at h
  split at h
  · exact (Option.some.inj h).symm
  · cases h

end Goflow
