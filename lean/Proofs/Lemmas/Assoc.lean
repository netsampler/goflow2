/-! association lists used as Go maps: lookup after "filter out the key, then cons" -/
namespace Goflow

theorem lookup_filter_ne {α β} [BEq α] [LawfulBEq α] (s : List (α × β)) (k k' : α) (h : k' ≠ k) :
    List.lookup k' (s.filter (fun e => e.1 != k)) = List.lookup k' s := by
  induction s with
  | nil => rfl
  | cons e s ih =>
    obtain ⟨a, t⟩ := e
    by_cases hak : a = k
    · subst hak
      have h2 : (k' == a) = false := by simpa using h
      simp [List.filter, List.lookup, h2, ih]
    · have h1 : ((a, t).1 != k) = true := by simpa using hak
      simp only [List.filter, h1, List.lookup]
      split <;> simp_all

theorem lookup_cons_filter {α β} [BEq α] [LawfulBEq α] (s : List (α × β)) (k k' : α) (v : β) :
    List.lookup k' ((k, v) :: s.filter (fun e => e.1 != k)) = if (k' == k) = true then some v else List.lookup k' s := by
  by_cases h : k' = k
  · subst h; simp [List.lookup]
  · have h2 : (k' == k) = false := by simpa using h
    simp only [List.lookup, h2]
    simpa using lookup_filter_ne s k k' h

/-- the same for a map read with a default, as `m[k]` on a Go map of values -/
theorem lookup_cons_filter_getD {α β} [BEq α] [LawfulBEq α] [DecidableEq α] (s : List (α × β)) (k k' : α) (v d : β) :
    (List.lookup k' ((k, v) :: s.filter (fun e => e.1 != k))).getD d =
      if k' = k then v else (List.lookup k' s).getD d := by
  rw [lookup_cons_filter]
  by_cases h : k' = k <;> simp [h]

theorem lookup_cons_filter_same {α β} [BEq α] [LawfulBEq α] (s : List (α × β)) (k k' : α) (v : β)
    (h : List.lookup k s = some v) : List.lookup k' ((k, v) :: s.filter (fun e => e.1 != k)) = List.lookup k' s := by
  rw [lookup_cons_filter]
  split
  · rename_i hk; rw [eq_of_beq hk, h]
  · rfl

theorem lookup_cons_filter_congr {α β} [BEq α] [LawfulBEq α] (s s' : List (α × β)) (k k' : α) (v : β)
    (h : List.lookup k' s = List.lookup k' s') :
    List.lookup k' ((k, v) :: s.filter (fun e => e.1 != k)) = List.lookup k' ((k, v) :: s'.filter (fun e => e.1 != k)) := by
  rw [lookup_cons_filter, lookup_cons_filter, h]

end Goflow
