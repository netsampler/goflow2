/-!
  Counting in `l.filterMap f` when one entry of `l` is replaced, appended or taken from the front,
  and sums over a list when one entry is replaced.
-/
namespace Goflow

/-- kept folded so that `omega` takes it for an atom -/
def hit (a x : Nat) : Nat := [a].count x

theorem hit_self (a : Nat) : hit a a = 1 := List.count_cons_self

theorem hit_of_ne {a x : Nat} (h : a ≠ x) : hit a x = 0 := List.count_eq_zero_of_not_mem (by simpa using h.symm)

theorem count_filterMap_set {α} (f : α → Option Nat) (l : List α) (i : Nat) (a old : α)
    (h : l[i]? = some old) (d : Nat) :
    ((l.set i a).filterMap f).count d + (f old).toList.count d =
      (l.filterMap f).count d + (f a).toList.count d := by
  induction l generalizing i with
  | nil => simp at h
  | cons x xs ih =>
    cases i with
    | zero =>
      simp only [List.getElem?_cons_zero, Option.some.injEq] at h
      subst h
      simp only [List.set_cons_zero, List.filterMap_cons]
      cases hx : f x <;> cases ha : f a <;> simp [List.count_cons] <;> omega
    | succ i =>
      simp only [List.getElem?_cons_succ] at h
      have := ih i h
      simp only [List.set_cons_succ, List.filterMap_cons]
      cases hx : f x <;> simp [List.count_cons] <;> omega

variable {α : Type} {f : α → Option Nat} {l : List α} {i : Nat} {old new a : α} {t : Nat}

theorem count_set_take (h : l[i]? = some old) (ho : f old = none) (hn : f new = some t) (x : Nat) :
    ((l.set i new).filterMap f).count x = (l.filterMap f).count x + hit t x := by
  simpa [ho, hn, hit] using count_filterMap_set f l i new old h x

theorem count_set_give (h : l[i]? = some old) (ho : f old = some t) (hn : f new = none) (x : Nat) :
    ((l.set i new).filterMap f).count x + hit t x = (l.filterMap f).count x := by
  simpa [ho, hn, hit] using count_filterMap_set f l i new old h x

theorem count_set_keep (h : l[i]? = some old) (ho : f old = none) (hn : f new = none) (x : Nat) :
    ((l.set i new).filterMap f).count x = (l.filterMap f).count x := by
  simpa [ho, hn, hit] using count_filterMap_set f l i new old h x

theorem count_push_some (l : List α) (hf : f a = some t) (x : Nat) :
    ((l ++ [a]).filterMap f).count x = (l.filterMap f).count x + hit t x := by
  simp [List.filterMap_append, hf, hit]

theorem count_push_none (l : List α) (hf : f a = none) (x : Nat) :
    ((l ++ [a]).filterMap f).count x = (l.filterMap f).count x := by
  simp [List.filterMap_append, hf]

theorem count_cons_hit (a : Nat) (l : List Nat) (x : Nat) : (a :: l).count x = hit a x + l.count x :=
  List.count_append (l₁ := [a])

theorem count_pop_some (l : List α) (hf : f a = some t) (x : Nat) :
    ((a :: l).filterMap f).count x = hit t x + (l.filterMap f).count x := by
  rw [List.filterMap_cons, hf, count_cons_hit]

theorem count_pop_none (l : List α) (hf : f a = none) (x : Nat) :
    ((a :: l).filterMap f).count x = (l.filterMap f).count x := by
  rw [List.filterMap_cons, hf]

theorem sum_map_set {β} (f : β → Nat) (l : List β) (i : Nat) (a b : β) (h : l[i]? = some a) :
    ((l.set i b).map f).sum + f a = (l.map f).sum + f b := by
  induction l generalizing i with
  | nil => cases h
  | cons x xs ih =>
    cases i with
    | zero =>
      cases Option.some.inj h
      simp only [List.set_cons_zero, List.map_cons, List.sum_cons]; omega
    | succ i =>
      have := ih i h
      simp only [List.set_cons_succ, List.map_cons, List.sum_cons]; omega

end Goflow
