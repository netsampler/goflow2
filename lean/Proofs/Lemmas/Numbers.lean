import Proofs.Lemmas.Bytes
import Goflow.Producer.Numbers
/-! the shift loops of DecodeUNumber / DecodeUNumberLE compute the big- / little-endian value; DecodeUNumber
    accepts every value of up to 8 bytes and returns a number below 2 ^ bits -/
namespace Goflow.Producer

theorem shiftLoopBE_eq (l : Nat) (xs : Bytes) (iter P : Nat) (h : iter + xs.length = l) :
    shiftLoopBE l xs iter (P * 2 ^ (8 * xs.length)) = P * 256 ^ xs.length + beNat xs := by
  induction xs generalizing iter P with
  | nil => simp [shiftLoopBE, beNat]
  | cons x xs ih =>
    simp only [List.length_cons] at h
    unfold shiftLoopBE
    have hk : l - iter - 1 = xs.length := by omega
    rw [hk]
    have hx : x.toNat <<< (8 * xs.length) < 2 ^ (8 * (xs.length + 1)) := by
      rw [Nat.shiftLeft_eq]
      have : x.toNat < 256 := x.toNat_lt
      calc x.toNat * 2 ^ (8 * xs.length) < 256 * 2 ^ (8 * xs.length) :=
            Nat.mul_lt_mul_of_pos_right this (Nat.two_pow_pos _)
        _ = 2 ^ (8 * (xs.length + 1)) := by
            rw [show 8 * (xs.length + 1) = 8 + 8 * xs.length by omega, Nat.pow_add]
    have hor : P * 2 ^ (8 * (xs.length + 1)) ||| x.toNat <<< (8 * xs.length)
        = (P * 256 + x.toNat) * 2 ^ (8 * xs.length) := by
      rw [← Nat.shiftLeft_eq P, ← Nat.shiftLeft_add_eq_or_of_lt hx, Nat.shiftLeft_eq, Nat.shiftLeft_eq]
      rw [show 8 * (xs.length + 1) = 8 + 8 * xs.length by omega, Nat.pow_add, Nat.add_mul]
      rw [show (2:Nat) ^ 8 = 256 by rfl, Nat.mul_assoc]
    simp only [List.length_cons]
    rw [hor, ih (iter + 1) (P * 256 + x.toNat) (by omega)]
    rw [beNat_cons, Nat.pow_succ]
    rw [Nat.add_mul, Nat.mul_assoc, Nat.mul_comm 256 (256 ^ xs.length)]
    omega

theorem shiftLoopBE_beNat (xs : Bytes) : shiftLoopBE xs.length xs 0 0 = beNat xs := by
  have := shiftLoopBE_eq xs.length xs 0 0 (by omega)
  simpa using this

theorem shiftLoopLE_eq (xs : Bytes) (iter o : Nat) (ho : o < 2 ^ (8 * iter)) :
    shiftLoopLE xs iter o = o + leNat xs * 2 ^ (8 * iter) := by
  induction xs generalizing iter o with
  | nil => simp [shiftLoopLE, leNat]
  | cons x xs ih =>
    unfold shiftLoopLE
    have hor : o ||| x.toNat <<< (8 * iter) = x.toNat * 2 ^ (8 * iter) + o := by
      rw [Nat.or_comm, ← Nat.shiftLeft_add_eq_or_of_lt ho, Nat.shiftLeft_eq]
    have hlt : x.toNat * 2 ^ (8 * iter) + o < 2 ^ (8 * (iter + 1)) := by
      have hx : x.toNat < 256 := x.toNat_lt
      have : x.toNat * 2 ^ (8 * iter) + 2 ^ (8 * iter) ≤ 256 * 2 ^ (8 * iter) := by
        have := Nat.mul_le_mul_right (2 ^ (8 * iter)) (show x.toNat + 1 ≤ 256 by omega)
        simpa [Nat.add_mul] using this
      rw [show 8 * (iter + 1) = 8 + 8 * iter by omega, Nat.pow_add, show (2:Nat) ^ 8 = 256 by rfl]
      omega
    rw [hor, ih (iter + 1) _ hlt]
    have hA : 2 ^ (8 * (iter + 1)) = 256 * 2 ^ (8 * iter) := by
      rw [show 8 * (iter + 1) = 8 + 8 * iter by omega, Nat.pow_add]
    simp only [leNat]
    rw [hA, Nat.add_mul, Nat.mul_left_comm (leNat xs) 256, Nat.mul_assoc 256 (leNat xs)]
    omega

theorem shiftLoopLE_leNat (xs : Bytes) : shiftLoopLE xs 0 0 = leNat xs := by
  have := shiftLoopLE_eq xs 0 0 (by simp)
  simpa using this

theorem decodeUNumber_short (bits : Nat) (v : Bytes) (h : ¬ v.length > 8) : ∃ x, decodeUNumber bits v = .ok x := by
  unfold decodeUNumber decodeUNumberRaw
  by_cases h1 : v.length = 1 ∨ v.length = 2 ∨ v.length = 4 ∨ v.length = 8
  · simp [h1]
  · have h2 : v.length < 8 := by omega
    simp [h1, h2]

theorem decodeUNumber_lt {bits : Nat} {v : Bytes} {x : Nat} (h : decodeUNumber bits v = .ok x) : x < 2 ^ bits := by
  unfold decodeUNumber at h
  split at h
  · cases h; exact Nat.mod_lt _ (Nat.two_pow_pos _)
  · cases h

end Goflow.Producer
