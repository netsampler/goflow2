import Goflow.Conc.GetOrCreateMulti
import Proofs.Lemmas.Run
/-!
  C16 over the whole exporter map — first contact with an exporter is atomic also when workers on different new
  exporters race. For the locked protocol (re-check under the write lock, insert into the current map), every list of
  keys and every schedule: every finished thread's announcement is visible under its key, and a key never loses or
  changes its published system. The copy-on-write variant that publishes a snapshot taken at the lookup loses a
  registration with two different keys (`Findings.cow_stale_loses`), while with all keys equal it never does
  (`Findings.cow_stale_equal_keys`), which is why the one-key model could not see it.
-/
namespace Goflow.C16Multi
open Goflow.Conc.GetOrCreateMulti

/-- the invariant of Proofs/C16.lean, per key -/
def Inv (st : St) : Prop :=
  (∀ (i s : Nat) (k : Key), st.threads[i]? = some (Pc.holding s) → st.keys[i]? = some k →
      st.map.lookup k = some s) ∧
  (∀ (i s : Nat) (k : Key), st.threads[i]? = some (Pc.finished s) → st.keys[i]? = some k →
      st.map.lookup k = some s ∧ (s, i) ∈ st.items)

def Ok (map : Map) (items : List (Nat × Nat)) (keys : List Key) (j : Nat) : Pc → Prop
  | .holding s => ∀ k, keys[j]? = some k → map.lookup k = some s
  | .finished s => ∀ k, keys[j]? = some k → map.lookup k = some s ∧ (s, j) ∈ items
  | _ => True

theorem inv_iff (st : St) :
    Inv st ↔ ∀ j pc, st.threads[j]? = some pc → Ok st.map st.items st.keys j pc := by
  constructor
  · intro ⟨h1, h2⟩ j pc hj
    cases pc with
    | holding s => exact fun k => h1 j s k hj
    | finished s => exact fun k => h2 j s k hj
    | _ => trivial
  · intro h
    exact ⟨fun i s k hi => h i _ hi k, fun i s k hi => h i _ hi k⟩

theorem Ok.mono {map map' : Map} {items items' keys j pc}
    (hm : ∀ k s, map.lookup k = some s → map'.lookup k = some s)
    (hi : ∀ x ∈ items, x ∈ items') (h : Ok map items keys j pc) : Ok map' items' keys j pc := by
  cases pc with
  | holding s => exact fun k hk => hm k s (h k hk)
  | finished s => exact fun k hk => ⟨hm k s (h k hk).1, hi _ (h k hk).2⟩
  | _ => trivial

theorem inv_init (keys : List Key) : Inv (init keys) := by
  rw [inv_iff]
  intro j pc h
  cases getElem?_replicate_eq h
  trivial

theorem lookup_append_of_some (m m' : Map) (k : Key) (s : Nat) (h : m.lookup k = some s) :
    (m ++ m').lookup k = some s := by
  rw [List.lookup_append, h]; rfl

theorem lookup_append_self (m : Map) (k : Key) (s : Nat) (h : m.lookup k = none) :
    (m ++ [(k, s)]).lookup k = some s := by
  rw [List.lookup_append, h]; simp [List.lookup]

theorem step_keys (v : Variant) (st st' : St) (i : Nat) (h : step v st i = some st') : st'.keys = st.keys := by
  unfold step at h
  split at h
  · split at h
    · split at h <;> cases h <;> rfl
    · cases h; rfl
    · split at h <;> cases h <;> rfl
    · cases h; rfl
    · cases h
  · cases h

theorem inv_step (st st' : St) (i : Nat) (hinv : Inv st) (h : step .locked st i = some st') :
    Inv st' ∧ (∀ k s, st.map.lookup k = some s → st'.map.lookup k = some s) := by
  rw [inv_iff] at hinv ⊢
  unfold step at h
  split at h
  · rename_i pc k hth hk
    -- thread `i` works for `k`, so a claim about its key is a claim about `k`
    have own : ∀ {p : Key → Prop}, p k → ∀ k', st.keys[i]? = some k' → p k' :=
      fun hp k' hk' => Option.some.inj (hk.symm.trans hk') ▸ hp
    split at h
    · -- lookup under the read lock
      split at h <;> cases h
      · exact ⟨forall_getElem?_set hinv (own ‹st.map.lookup k = some _›), fun _ _ h => h⟩
      · exact ⟨forall_getElem?_set hinv trivial, fun _ _ h => h⟩
    · -- the factory
      cases h
      exact ⟨forall_getElem?_set hinv trivial, fun _ _ h => h⟩
    · -- publish: re-check under the write lock
      split at h <;> cases h
      · exact ⟨forall_getElem?_set hinv (own ‹st.map.lookup k = some _›), fun _ _ h => h⟩
      · have hmono := fun m' k' s => lookup_append_of_some st.map m' k' s
        exact ⟨forall_getElem?_set (fun j pc hj => (hinv j pc hj).mono (hmono _) fun _ h => h)
          (own (lookup_append_self _ _ _ ‹st.map.lookup k = none›)), hmono _⟩
    · -- use
      cases h
      have hm := hinv i _ hth k hk
      exact ⟨forall_getElem?_set
        (fun j pc hj => (hinv j pc hj).mono (fun _ _ h => h) fun _ h => List.mem_cons_of_mem _ h)
        (own (p := fun k => _ ∧ _) ⟨hm, List.mem_cons_self⟩), fun _ _ h => h⟩
    · cases h
  · cases h

theorem run_cons (v : Variant) (st : St) (i : Nat) (sched : List Nat) :
    run v st (i :: sched) = run v ((step v st i).getD st) sched := by
  rw [run]
  cases step v st i <;> rfl

theorem inv_run (st : St) (sched : List Nat) (hinv : Inv st) : Inv (run .locked st sched) :=
  Goflow.inv_run (fun _ => rfl) (run_cons .locked) (fun s i s' hs h => (inv_step s s' i hs h).1) sched st hinv

theorem run_keys (v : Variant) (st : St) (sched : List Nat) : (run v st sched).keys = st.keys :=
  Goflow.inv_run (P := fun s => s.keys = st.keys) (fun _ => rfl) (run_cons v)
    (fun s i s' hs h => (step_keys v s s' i h).trans hs) sched st rfl

/-- once a system is published for an exporter it stays that exporter's system, whatever the other exporters' workers
    do: no key is ever lost or re-bound -/
theorem published_stable (st : St) (sched : List Nat) (hinv : Inv st) (k : Key) (s : Nat)
    (h : st.map.lookup k = some s) : (run .locked st sched).map.lookup k = some s :=
  (Goflow.inv_run (P := fun st => Inv st ∧ st.map.lookup k = some s) (fun _ => rfl) (run_cons .locked)
    (fun st i st' hs h => ⟨(inv_step st st' i hs.1 h).1, (inv_step st st' i hs.1 h).2 k s hs.2⟩) sched st ⟨hinv, h⟩).2

/-- the same between any two points of one execution -/
theorem published_stable_from_init (keys : List Key) (s₁ s₂ : List Nat) (k : Key) (s : Nat)
    (h : (run .locked (init keys) s₁).map.lookup k = some s) :
    (run .locked (run .locked (init keys) s₁) s₂).map.lookup k = some s :=
  published_stable _ s₂ (inv_run _ s₁ (inv_init keys)) k s h

/-- all threads of one exporter that returned worked on the one published system -/
theorem single_system_per_key (keys : List Key) (sched : List Nat) (i j s t : Nat) (k : Key)
    (hki : keys[i]? = some k) (hkj : keys[j]? = some k)
    (hi : (run .locked (init keys) sched).threads[i]? = some (Pc.finished s))
    (hj : (run .locked (init keys) sched).threads[j]? = some (Pc.finished t)) : s = t := by
  have hinv := inv_run (init keys) sched (inv_init keys)
  have hk : (run .locked (init keys) sched).keys = keys := run_keys _ _ _
  have a := (hinv.2 i s k hi (by rw [hk]; exact hki)).1
  have b := (hinv.2 j t k hj (by rw [hk]; exact hkj)).1
  rw [a] at b; cases b; rfl

/-- C16 for many exporters: for every list of keys (threads with equal keys race on one exporter, threads with
    different keys on different new exporters) and every interleaving of their lookup / create / publish / use steps,
    at every point of the execution the announcement of every worker that has returned is visible to later datagrams
    of its exporter -/
theorem nothing_lost_multi (keys : List Key) (sched : List Nat) :
    NothingLost (run .locked (init keys) sched) := by
  intro i s k hi hk
  have hinv := inv_run (init keys) sched (inv_init keys)
  obtain ⟨hm, hmem⟩ := hinv.2 i s k hi hk
  simp only [visible, hm, List.mem_map, List.mem_filter]
  exact ⟨(s, i), ⟨hmem, by simp⟩, rfl⟩

theorem lost_nil_iff (st : St) : lost st = [] ↔ NothingLost st := by
  unfold lost NothingLost
  rw [List.filter_eq_nil_iff]
  constructor
  · intro h i s k hi hk
    have hlt : i < st.threads.length := by
      rcases Nat.lt_or_ge i st.threads.length with hl | hl
      · exact hl
      · rw [List.getElem?_eq_none hl] at hi; cases hi
    have := h i (List.mem_range.mpr hlt)
    simp only [hi, hk] at this
    simpa using this
  · intro h i _
    split
    · rename_i s k hi hk
      have := h i s k hi hk
      simpa using this
    · simp

/-- two workers on exporter 7 and two on exporter 9, all racing through the factory -/
example : (run .locked (init [7, 9, 7, 9]) [0, 1, 2, 3, 0, 1, 2, 3, 3, 2, 1, 0, 0, 1, 2, 3]).threads =
      [.finished 2, .finished 3, .finished 2, .finished 3] ∧
    (run .locked (init [7, 9, 7, 9]) [0, 1, 2, 3, 0, 1, 2, 3, 3, 2, 1, 0, 0, 1, 2, 3]).map = [(9, 3), (7, 2)] := by
  decide

/-! the copy-on-write variant (seeded change C16-7) -/
namespace Findings

/-- Two workers on two different new exporters (keys 1 and 2). T0 and T1 both load the empty map and miss; both run the
    factory; T0 publishes `[] ++ [(1, 0)]`, announces and returns; T1 re-checks its own key 2 in the current map
    (absent) and publishes its stale snapshot `[] ++ [(2, 1)]`: exporter 1 is no longer registered and T0's template
    is not visible any more. -/
theorem cow_stale_loses :
    ¬ NothingLost (run .cowStale (init [1, 2]) [0, 1, 0, 1, 0, 0, 1, 1]) := by
  intro h
  have := h 0 0 1 (by decide) (by decide)
  revert this
  decide

theorem cow_stale_loses_lost :
    lost (run .cowStale (init [1, 2]) [0, 1, 0, 1, 0, 0, 1, 1]) = [0] ∧
    (run .cowStale (init [1, 2]) [0, 1, 0, 1, 0, 0, 1, 1]).map = [(2, 1)] ∧
    (run .cowStale (init [1, 2]) [0, 1, 0, 1, 0, 0, 0, 0]).map.lookup 1 = some 0 := by
  decide

/-- contrast `published_stable`: key 1 is bound after 6 steps and unbound after the 7th -/
theorem cow_stale_not_stable :
    (run .cowStale (init [1, 2]) [0, 1, 0, 1, 0, 0]).map.lookup 1 = some 0 ∧
    (run .cowStale (run .cowStale (init [1, 2]) [0, 1, 0, 1, 0, 0]) [1]).map.lookup 1 = none := by
  decide

theorem locked_same_schedule :
    lost (run .locked (init [1, 2]) [0, 1, 0, 1, 0, 0, 1, 1]) = [] ∧
    (run .locked (init [1, 2]) [0, 1, 0, 1, 0, 0, 1, 1]).map = [(1, 0), (2, 1)] := by
  decide

/-- with equal keys the same schedule is harmless: the re-check of the thread's own key finds the other worker's system -/
theorem cow_stale_equal_keys_instance :
    lost (run .cowStale (init [1, 1]) [0, 1, 0, 1, 0, 0, 1, 1]) = [] ∧
    (run .cowStale (init [1, 1]) [0, 1, 0, 1, 0, 0, 1, 1]).threads = [.finished 0, .finished 0] := by
  decide

def SnapNil : Pc → Prop
  | .needCreate snap => snap = []
  | .created snap _ => snap = []
  | _ => True

/-- with one key, a snapshot taken at a missed lookup is the empty map, so publishing it loses nothing -/
def AllK (k : Key) (st : St) : Prop :=
  (∀ (i : Nat) (kk : Key), st.keys[i]? = some kk → kk = k) ∧
  (∀ e ∈ st.map, e.1 = k) ∧
  (∀ (i : Nat) (pc : Pc), st.threads[i]? = some pc → SnapNil pc)

private theorem map_nil_of_miss (m : Map) (k : Key) (hall : ∀ e ∈ m, e.1 = k) (h : m.lookup k = none) :
    m = [] := by
  cases m with
  | nil => rfl
  | cons e rest =>
    obtain ⟨a, b⟩ := e
    have : a = k := hall (a, b) (by simp)
    subst this
    simp [List.lookup] at h

theorem step_cow_eq_locked (k : Key) (st : St) (i : Nat) (h : AllK k st) :
    step .cowStale st i = step .locked st i := by
  obtain ⟨hk, hm, hc⟩ := h
  unfold step
  split
  · rename_i pc kk hth hkk
    cases hk i kk hkk
    split
    · rfl
    · rfl
    · split
      · rfl
      · have h1 := hc i _ hth
        have h2 := map_nil_of_miss st.map k hm ‹st.map.lookup k = none›
        simp only [SnapNil] at h1
        simp only [publishMap, h1, h2]
    · rfl
    · rfl
  · rfl

theorem allK_step (k : Key) (st st' : St) (i : Nat) (h : AllK k st) (hs : step .locked st i = some st') :
    AllK k st' := by
  obtain ⟨hk, hm, hc⟩ := h
  unfold step at hs
  split at hs
  · rename_i pc kk hth hkk
    cases hk i kk hkk
    split at hs
    · split at hs <;> cases hs
      · exact ⟨hk, hm, forall_getElem?_set hc trivial⟩
      · exact ⟨hk, hm, forall_getElem?_set hc (map_nil_of_miss st.map k hm ‹st.map.lookup k = none›)⟩
    · cases hs
      exact ⟨hk, hm, forall_getElem?_set hc (hc i (.needCreate _) hth)⟩
    · split at hs <;> cases hs
      · exact ⟨hk, hm, forall_getElem?_set hc trivial⟩
      · refine ⟨hk, fun e he => ?_, forall_getElem?_set hc trivial⟩
        rcases List.mem_append.mp he with he | he
        · exact hm e he
        · cases List.mem_singleton.mp he; rfl
    · cases hs
      exact ⟨hk, hm, forall_getElem?_set hc trivial⟩
    · cases hs
  · cases hs

theorem allK_init (k : Key) (n : Nat) : AllK k (init (List.replicate n k)) := by
  refine ⟨fun _ _ h => getElem?_replicate_eq h, fun _ he => (List.not_mem_nil he).elim, fun _ _ h => ?_⟩
  cases getElem?_replicate_eq h
  trivial

theorem run_cow_eq_locked (k : Key) (st : St) (sched : List Nat) (h : AllK k st) :
    run .cowStale st sched = run .locked st sched := by
  induction sched generalizing st with
  | nil => rfl
  | cons i rest ih =>
    rw [run_cons, run_cons, step_cow_eq_locked k st i h]
    cases hs : step .locked st i with
    | none => exact ih st h
    | some st' => exact ih st' (allK_step k st st' i h hs)

/-- with all keys equal (any number of workers on one exporter, every schedule) the copy-on-write variant behaves
    exactly like the locked protocol and loses nothing: the defect is invisible to the one-key model of
    Goflow/Conc/GetOrCreate.lean and needs two different exporters -/
theorem cow_stale_equal_keys (k : Key) (n : Nat) (sched : List Nat) :
    run .cowStale (init (List.replicate n k)) sched = run .locked (init (List.replicate n k)) sched ∧
    NothingLost (run .cowStale (init (List.replicate n k)) sched) := by
  have h := run_cow_eq_locked k _ sched (allK_init k n)
  exact ⟨h, by rw [h]; exact nothing_lost_multi _ sched⟩

end Findings

end Goflow.C16Multi
