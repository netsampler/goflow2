import Proofs.C14Bits
/-!
  C14 — bit-range extraction (reflect.go GetBytes), the general case: for every buffer, bit offset, bit length and mode
  the implementation's shifting/masking equals the bit-list reference (`getBytes_eq_extract`).
-/
namespace Goflow.C14
open Goflow Goflow.Producer Goflow.Spec.Bits

/-- the two-byte step of the shifting pass, in bits; position `i` of the result is bit `7 - i` of
    `x <<< s ||| y >>> (8 - s)`, which comes from `x` for `i < 8 - s` and from `y` after that -/
theorem byteBits_shl_or_shr (x y : UInt8) (s : Nat) (hs : s < 8) :
    byteBits (shl8 x s ||| shr8 y (8 - s)) = (byteBits x).drop s ++ (byteBits y).take s := by
  apply List.ext_getElem?
  intro i
  simp only [byteBits_getElem?, List.getElem?_append, List.getElem?_drop, List.getElem?_take, List.length_drop,
    byteBits_length, shl8, shr8, UInt8.toNat_or, UInt8.toNat_ofNat', Nat.testBit_or, show (256 : Nat) = 2 ^ 8 from rfl,
    Nat.testBit_mod_two_pow, Nat.testBit_mul_two_pow, Nat.testBit_div_two_pow]
  by_cases h1 : i < 8 - s
  · have hy : y.toNat.testBit (7 - i + (8 - s)) = false :=
      Nat.testBit_lt_two_pow (Nat.lt_of_lt_of_le y.toNat_lt (Nat.pow_le_pow_right (by decide) (by omega)))
    have e : 7 - i - s = 7 - (s + i) := by omega
    have h2 : i < 8 := by omega
    have h3 : s + i < 8 := by omega
    have h4 : s ≤ 7 - i := by omega
    have h5 : 7 - i < 8 := by omega
    simp [h1, h2, h3, h4, h5, e, hy]
  · by_cases h2 : i < 8
    · have e : 7 - i + (8 - s) = 7 - (i - (8 - s)) := by omega
      have h3 : i - (8 - s) < s := by omega
      have h4 : ¬ s ≤ 7 - i := by omega
      have h5 : i - (8 - s) < 8 := by omega
      have h6 : 7 - i < 8 := by omega
      simp [h1, h2, h3, h4, h5, h6, e]
    · have h3 : ¬ i - (8 - s) < s := by omega
      simp [h1, h2, h3]

theorem byteBits_shl8 (x : UInt8) (s : Nat) (hs : s < 8) :
    byteBits (shl8 x s) = (byteBits x).drop s ++ List.replicate s false := by
  have h := byteBits_shl_or_shr x 0 s hs
  have h0 : shr8 0 (8 - s) = 0 := by simp [shr8]
  rw [h0, UInt8.or_zero] at h
  rw [h, show byteBits 0 = List.replicate 8 false by decide, List.take_replicate, Nat.min_eq_left (by omega)]

theorem last_shift (x : UInt8) (k : Nat) (hk : k < 8) :
    UInt8.ofNat (bitsVal ((byteBits x).take (8 - k))) = shr8 x k := by
  rw [bitsVal_take x (8 - k) (by omega), show 8 - (8 - k) = k by omega]
  rfl

/-- masking with `0xFF <<< k` clears the low `k` bits -/
theorem last_mask (x : UInt8) (k : Nat) (hk : k < 8) :
    UInt8.ofNat (bitsVal ((byteBits x).take (8 - k)) * 2 ^ k) = x &&& shl8 0xFF k := by
  rw [bitsVal_take x (8 - k) (by omega), show 8 - (8 - k) = k by omega]
  apply UInt8.toNat_inj.1
  apply Nat.eq_of_testBit_eq
  intro j
  simp only [shl8, UInt8.toNat_and, UInt8.toNat_ofNat', Nat.testBit_and, show (256 : Nat) = 2 ^ 8 from rfl,
    Nat.testBit_mod_two_pow, Nat.testBit_mul_two_pow, Nat.testBit_div_two_pow, show UInt8.toNat 255 = 2 ^ 8 - 1 from rfl,
    Nat.testBit_two_pow_sub_one]
  by_cases h1 : k ≤ j
  · have e : j - k + k = j := by omega
    by_cases h3 : j < 8
    · simp [h1, h3, e]; omega
    · simp [h1, h3, e]
  · simp [h1]

/-- the first `k` bits of `l`, reading zeros past its end -/
def pad (k : Nat) (l : List Bool) : List Bool := l.take k ++ List.replicate (k - l.length) false

theorem pad_length (k : Nat) (l : List Bool) : (pad k l).length = k := by
  simp [pad, List.length_take]; omega

theorem pad_nil (k : Nat) : pad k [] = List.replicate k false := by simp [pad]

theorem pad_append_left (k : Nat) (A C : List Bool) (h : A.length ≤ k) :
    pad k (A ++ C) = A ++ pad (k - A.length) C := by
  unfold pad
  rw [List.take_append, List.take_of_length_le h, List.append_assoc, List.length_append]
  congr 2
  congr 1
  omega

theorem take_pad (j k : Nat) (l : List Bool) (h : j ≤ k) : (pad k l).take j = pad j l := by
  unfold pad
  rw [List.take_append, List.take_take, Nat.min_eq_left h, List.take_replicate, List.length_take]
  congr 2
  omega

theorem pad_take (j k : Nat) (l : List Bool) (h : k ≤ j) : pad k (l.take j) = pad k l := by
  unfold pad
  rw [List.take_take, Nat.min_eq_left h, List.length_take]
  by_cases hl : l.length ≤ j
  · rw [Nat.min_eq_right hl]
  · have e1 : k - min j l.length = 0 := by omega
    have e2 : k - l.length = 0 := by omega
    rw [e1, e2]

theorem toBits_shiftPass (s : Nat) (hs : s < 8) (n : Nat) (u : Bytes) :
    toBits (shiftPass s n u) = pad (8 * n) ((toBits u).drop s) := by
  induction n generalizing u with
  | zero => simp [shiftPass, pad, toBits]
  | succ n ih =>
    match u with
    | [] =>
      simp only [shiftPass]
      rw [toBits_zeros]
      simp [toBits, pad_nil]
    | [x] =>
      simp only [shiftPass]
      rw [toBits_cons, toBits_zeros, byteBits_shl8 x s hs, toBits_cons]
      have hnil : toBits [] = [] := rfl
      rw [hnil, List.append_nil]
      have := pad_append_left (8 * (n + 1)) ((byteBits x).drop s) [] (by simp [byteBits_length]; omega)
      rw [List.append_nil] at this
      rw [this, pad_nil, List.append_assoc, List.replicate_append_replicate]
      congr 2
      simp [byteBits_length]; omega
    | x :: y :: rest =>
      simp only [shiftPass]
      rw [toBits_cons, ih (y :: rest), byteBits_shl_or_shr x y s hs, toBits_cons x, toBits_cons y]
      have lx : (byteBits x).length = 8 := byteBits_length x
      have ly : (byteBits y).length = 8 := byteBits_length y
      rw [List.drop_append_of_le_length (by omega : s ≤ (byteBits x).length)]
      have e : byteBits y ++ toBits rest =
          (byteBits y).take s ++ (byteBits y ++ toBits rest).drop s := by
        rw [List.drop_append_of_le_length (by omega : s ≤ (byteBits y).length), ← List.append_assoc,
          List.take_append_drop]
      conv => rhs; rw [e, ← List.append_assoc]
      rw [pad_append_left _ _ _ (by simp [lx, ly]; omega)]
      congr 2
      simp [lx, ly]; omega

theorem groups_toBits_append (b : Bytes) (g : List Bool) (hg : g ≠ []) (fuel : Nat)
    (h : b.length + 1 < fuel) : groups fuel (toBits b ++ g) = b.map byteBits ++ [g.take 8] ++ groups (fuel - b.length - 1) (g.drop 8) := by
  induction b generalizing fuel with
  | nil =>
    cases fuel with
    | zero => simp at h
    | succ n =>
      have hnil : toBits [] = [] := rfl
      rw [hnil, List.nil_append]
      cases g with
      | nil => exact absurd rfl hg
      | cons a g => simp [groups]
  | cons x xs ih =>
    cases fuel with
    | zero => simp at h
    | succ n =>
      rw [toBits_cons, List.append_assoc]
      have hne : byteBits x ++ (toBits xs ++ g) ≠ [] := by
        intro e; have := congrArg List.length e; simp [byteBits_length] at this
      have e : groups (n + 1) (byteBits x ++ (toBits xs ++ g)) =
          (byteBits x ++ (toBits xs ++ g)).take 8 :: groups n ((byteBits x ++ (toBits xs ++ g)).drop 8) := by
        cases hb : byteBits x ++ (toBits xs ++ g) with
        | nil => exact absurd hb hne
        | cons _ _ => rfl
      rw [e]
      have l8 : (byteBits x).length = 8 := byteBits_length x
      rw [show (8 : Nat) = (byteBits x).length from l8.symm, List.take_left, List.drop_left]
      rw [l8, ih n (by simp at h; omega)]
      have : n + 1 - (x :: xs).length - 1 = n - xs.length - 1 := by simp
      rw [this]
      simp

theorem groups_nil (fuel : Nat) : groups fuel [] = [] := by cases fuel <;> rfl

theorem setLast_append (init : Bytes) (x : UInt8) (f : UInt8 → UInt8) :
    setLast (init ++ [x]) f = init ++ [f x] := by
  simp [setLast]

theorem exists_init_last (l : Bytes) (h : 0 < l.length) : ∃ init x, l = init ++ [x] := by
  have hne : l ≠ [] := by intro e; rw [e] at h; simp at h
  exact ⟨l.dropLast, l.getLast hne, (List.dropLast_concat_getLast hne).symm⟩

/-- the reference, given the bits of the shifted buffer: regroup the first `len` bits -/
theorem map_groups_eq_setLast (dFinal : Bytes) (len k : Nat) (shift : Bool) (hk : k < 8)
    (hlen : len + k = 8 * dFinal.length) (hpos : 0 < dFinal.length) :
    ((groups (len + 1) ((toBits dFinal).take len)).map fun g =>
      if g.length = 8 ∨ shift then UInt8.ofNat (bitsVal g)
      else UInt8.ofNat (bitsVal g * 2 ^ (8 - g.length))) =
    (if shift then setLast dFinal fun x => shr8 x k
     else setLast dFinal fun x => x &&& shl8 0xFF k) := by
  obtain ⟨init, x, rfl⟩ := exists_init_last dFinal hpos
  have hl : len = 8 * init.length + (8 - k) := by simp at hlen; omega
  have lx : (byteBits x).length = 8 := byteBits_length x
  have e1 : (toBits (init ++ [x])).take len = toBits init ++ (byteBits x).take (8 - k) := by
    rw [toBits_append, toBits_cons]
    have hnil : toBits [] = [] := rfl
    rw [hnil, List.append_nil, List.take_append, toBits_length,
      List.take_of_length_le (by rw [toBits_length]; omega)]
    congr 2
    omega
  have lg : ((byteBits x).take (8 - k)).length = 8 - k := by simp [lx]
  have hg : (byteBits x).take (8 - k) ≠ [] := by
    intro e; rw [e] at lg; simp at lg; omega
  rw [e1, groups_toBits_append init _ hg _ (by omega)]
  rw [List.take_of_length_le (by omega), List.drop_of_length_le (by omega), groups_nil]
  simp only [List.append_nil, List.map_append, List.map_map, List.map_cons, List.map_nil]
  have hinit : init.map ((fun g => if g.length = 8 ∨ shift = true then UInt8.ofNat (bitsVal g)
      else UInt8.ofNat (bitsVal g * 2 ^ (8 - g.length))) ∘ byteBits) = init := by
    conv => rhs; rw [← List.map_id init]
    apply List.map_congr_left
    intro c _
    simp [byteBits_length, bitsVal_byteBits]
  rw [hinit]
  cases shift with
  | true =>
    simp only [or_true, if_true]
    rw [setLast_append, last_shift x k hk]
  | false =>
    simp only [Bool.false_eq_true, or_false, if_false]
    rw [setLast_append, lg]
    have e8 : 8 - (8 - k) = k := by omega
    rw [e8, ← last_mask x k hk]
    by_cases h0 : 8 - k = 8
    · have : k = 0 := by omega
      simp [this]
    · simp [h0]

/-- the bits GetBytes works on (`dUsed`, dropped by the sub-byte offset) and the bits the reference works on have the
    same zero-padded prefix -/
theorem pad_dUsed (d : Bytes) (off len e : Nat)
    (he : e = d.length ∨ off + len ≤ 8 * e) :
    pad len ((toBits ((d.take e).drop (off / 8))).drop (off % 8)) = pad len ((toBits d).drop off) := by
  rw [← toBits_drop, ← toBits_take, List.drop_drop]
  have : 8 * (off / 8) + off % 8 = off := by omega
  rw [this]
  cases he with
  | inl h =>
    rw [h, List.take_of_length_le (by rw [toBits_length]; omega)]
  | inr h =>
    rw [List.drop_take, pad_take _ _ _ (by omega)]

/-- C14: GetBytes equals the bit-list reference, for every buffer, every bit offset, every bit length and both alignment
    modes -/
theorem getBytes_eq_extract (d : Bytes) (off len : Nat) (shift : Bool) :
    getBytes d (off : Int) (len : Int) shift = .ok ((extract d off len shift).getD []) := by
  by_cases h1 : d.length * 8 < off
  · have h1' : (d.length : Int) * 8 < (off : Int) := by omega
    simp [getBytes, extract, h1, h1']
  by_cases h2 : len = 0
  · simp [getBytes, extract, h2]
  by_cases ha : off % 8 = 0 ∧ len % 8 = 0
  · have eo : off = 8 * (off / 8) := by omega
    have el : len = 8 * (len / 8) := by omega
    rw [eo, el]
    exact getBytes_eq_extract_aligned d (off / 8) (len / 8) shift (by omega) (by omega)
  -- the shifting path
  have h1' : ¬ ((d.length : Int) * 8 < (off : Int)) := by omega
  have h2' : ¬ ((len : Int) = 0) := by omega
  have h3 : ¬ ((len : Int) < 0 ∨ (off : Int) ≤ -8) := by omega
  have h4 : ¬ ((off : Int) < 0) := by omega
  unfold getBytes
  simp only [h1', h2', h3, h4, if_false, Int.toNat_natCast, ha]
  unfold extract
  have c1 : ¬ (d.length * 8 < off ∨ len = 0) := by omega
  simp only [c1, if_false, Option.getD_some]
  generalize hn : len / 8 + (if len % 8 > 0 then 1 else 0) = n
  generalize he0 : (off + len) / 8 + (if (off + len) % 8 > 0 then 1 else 0) = end0
  generalize he : (if end0 > d.length then d.length else end0) = e
  generalize hk : (8 - len % 8) % 8 = k
  have hs : off % 8 < 8 := Nat.mod_lt _ (by omega)
  have hk8 : k < 8 := by omega
  have hnk : len + k = 8 * n := by
    rw [← hn, ← hk]; split <;> omega
  have hee : e = d.length ∨ off + len ≤ 8 * e := by
    rw [← he]
    split
    · exact Or.inl rfl
    · right; rw [← he0]; split <;> omega
  -- the reference's selection is the first `len` bits of the shifted buffer
  have hsel : ((toBits d).drop off).take len ++
        List.replicate (len - (((toBits d).drop off).take len).length) false =
      (toBits (shiftPass (off % 8) n ((d.take e).drop (off / 8)))).take len := by
    rw [toBits_shiftPass _ hs, take_pad _ _ _ (by omega), pad_dUsed d off len e hee]
    unfold pad
    congr 2
    rw [List.length_take]; omega
  rw [hsel]
  have := map_groups_eq_setLast (shiftPass (off % 8) n ((d.take e).drop (off / 8))) len k shift hk8
    (by rw [shiftPass_length]; exact hnk) (by rw [shiftPass_length]; omega)
  rw [this]
  cases shift <;> simp

end Goflow.C14
