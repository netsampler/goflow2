import Proofs.C15
/-!
  C15 — refresh datagrams (a template re-announced as stored, the stored sampling rate announced again) are
  read-only, so the parallel workload may mix them with data sets.

  A refresh is not `C15.ReadOnly`: `Store.add` moves the re-announced key to the head of the association list, so the
  store changes as a list although no lookup does (`refresh_not_strictly_readOnly`). Hence the development of
  Proofs/C15.lean one level coarser: `LEquiv` compares states by every template and rate lookup, `decodeFlow`
  respects it (the decoder reads a store only through `Store.get`, the producer the rates only through lookups), and
  `mixed_parallel_eq_sequential` concludes about messages what `C15.parallel_eq_sequential` does.
-/
namespace Goflow.C15Refresh
open Goflow Goflow.Pipe Goflow.Producer Goflow.Netflow

def SEq (a b : Store) : Prop := ∀ k, a.get k = b.get k
def REq (a b : Rates) : Prop := ∀ k, a.lookup k = b.lookup k

theorem SEq.refl (a : Store) : SEq a a := fun _ => rfl
theorem SEq.symm {a b : Store} (h : SEq a b) : SEq b a := fun k => (h k).symm
theorem SEq.trans {a b c : Store} (h1 : SEq a b) (h2 : SEq b c) : SEq a c := fun k => (h1 k).trans (h2 k)
theorem REq.refl (a : Rates) : REq a a := fun _ => rfl
theorem REq.symm {a b : Rates} (h : REq a b) : REq b a := fun k => (h k).symm
theorem REq.trans {a b c : Rates} (h1 : REq a b) (h2 : REq b c) : REq a c := fun k => (h1 k).trans (h2 k)

def LEquiv (a b : State) : Prop :=
  (∀ src : Src, SEq (a.templatesOf src) (b.templatesOf src)) ∧ (∀ ip : Bytes, REq (a.ratesOf ip) (b.ratesOf ip))

theorem LEquiv.symm {a b : State} (h : LEquiv a b) : LEquiv b a :=
  ⟨fun s => (h.1 s).symm, fun s => (h.2 s).symm⟩

private theorem ratesOf_setTemplates (s : State) (k : Src) (t : Netflow.Store) (ip : Bytes) :
    (s.setTemplates k t).ratesOf ip = s.ratesOf ip := rfl
private theorem templatesOf_setRates (s : State) (ip : Bytes) (r : Rates) (k : Src) :
    (s.setRates ip r).templatesOf k = s.templatesOf k := rfl

theorem add_same (s : Store) (k : Nat) (t : Template) (h : s.get k = some t) : SEq (s.add k t) s :=
  fun k' => lookup_cons_filter_same s k k' t h

theorem add_congr (s s' : Store) (k : Nat) (t : Template) (h : SEq s s') : SEq (s.add k t) (s'.add k t) :=
  fun k' => lookup_cons_filter_congr s s' k k' t (h k')

theorem rates_add_same (r : Rates) (k : Nat × Nat) (v : Nat) (h : r.lookup k = some v) : REq (r.add k v) r :=
  fun k' => lookup_cons_filter_same r k k' v h

theorem rates_add_congr (r r' : Rates) (k : Nat × Nat) (v : Nat) (h : REq r r') : REq (r.add k v) (r'.add k v) :=
  fun k' => lookup_cons_filter_congr r r' k k' v (h k')

theorem addTemplates_congr (v dom : Nat) (l : List (Nat × Template)) (s s' : Store) (h : SEq s s') :
    SEq (addTemplates v dom s l) (addTemplates v dom s' l) := by
  induction l generalizing s s' with
  | nil => exact h
  | cons p rest ih =>
    obtain ⟨tid, t⟩ := p
    exact ih _ _ (add_congr _ _ _ _ h)

theorem addTemplates_append (v dom : Nat) (l₁ l₂ : List (Nat × Template)) (s : Store) :
    addTemplates v dom s (l₁ ++ l₂) = addTemplates v dom (addTemplates v dom s l₁) l₂ := by
  induction l₁ generalizing s with
  | nil => rfl
  | cons p rest ih =>
    obtain ⟨tid, t⟩ := p
    exact ih _

/-- announcing templates the store already holds under their keys changes no lookup -/
theorem addTemplates_same (v dom : Nat) (l : List (Nat × Template)) (s : Store)
    (h : ∀ e ∈ l, s.get (templateKey v dom e.1) = some e.2) : SEq (addTemplates v dom s l) s := by
  induction l generalizing s with
  | nil => exact SEq.refl s
  | cons p rest ih =>
    obtain ⟨tid, t⟩ := p
    have h0 := add_same s _ t (h (tid, t) List.mem_cons_self)
    exact (ih _ fun e he => (h0 _).trans (h e (List.mem_cons_of_mem _ he))).trans h0

/-- (template id, what `AddTemplate` stores) -/
def tplsOf : FlowSet → List (Nat × Template)
  | .template _ _ rs => rs.map fun r => (r.templateId, Template.data r)
  | .v9opts _ _ rs => rs.map fun r => (r.templateId, Template.v9opts r)
  | .ipfixopts _ _ rs => rs.map fun r => (r.templateId, Template.ipfixopts r)
  | _ => []

/-- for `decodeFlowSet_seq`, where `split` on a goal that holds a whole decoder twice is slow -/
theorem ite_eq_map_ite {ε α β} (g : α → β) {c : Prop} [Decidable c] {x x' : Except ε β} {y y' : Except ε α}
    (h1 : c → x = y.map g) (h2 : ¬c → x' = y'.map g) : (if c then x else x') = (if c then y else y').map g := by
  split
  · exact h1 ‹_›
  · exact h2 ‹_›

/-- the store is read through `Store.get` only (the `rw [← h]`), and written through `addTemplates` of what was
    decoded only -/
theorem decodeFlowSet_seq (fuel v dom : Nat) (s s' : Store) (b : Bytes) (h : SEq s s') :
    decodeFlowSet fuel v dom s' b =
      (decodeFlowSet fuel v dom s b).map fun o => { o with store := addTemplates v dom s' (tplsOf o.flowSet) } := by
  unfold decodeFlowSet
  split
  · rfl
  · split
    · refine ite_eq_map_ite _ (fun _ => rfl) (fun _ => ?_)
      split
      refine ite_eq_map_ite _ (fun _ => ?_) (fun _ => ?_)
      · split <;> rfl
      · refine ite_eq_map_ite _ (fun _ => ?_) (fun _ => ?_)
        · split <;> rfl
        · refine ite_eq_map_ite _ (fun _ => ?_) (fun _ => ?_)
          · split <;> rfl
          · refine ite_eq_map_ite _ (fun _ => ?_) (fun _ => rfl)
            rw [← h]
            split
            · rfl
            · split <;> rfl
            · split <;> rfl
            · split <;> rfl
    · rfl

theorem decodeFlowSet_store (fuel v dom : Nat) (s : Store) (b : Bytes) (o : SetOut)
    (h : decodeFlowSet fuel v dom s b = .ok o) : o.store = addTemplates v dom s (tplsOf o.flowSet) := by
  have := decodeFlowSet_seq fuel v dom s s b (SEq.refl s)
  rw [h] at this
  exact congrArg SetOut.store (Except.ok.inj this)

/-- also when a later set fails: the sets decoded before it stay announced -/
theorem decodeSets_seq (v dom size sl : Nat) (fuel i : Nat) (s s' : Store) (b : Bytes) (h : SEq s s') :
    decodeSets v dom size sl fuel i s' b =
      { decodeSets v dom size sl fuel i s b with
        store := addTemplates v dom s' ((decodeSets v dom size sl fuel i s b).flowSets.flatMap tplsOf) } := by
  induction fuel generalizing i s s' b with
  | zero => rfl
  | succ fuel ih =>
    simp only [decodeSets]
    split
    · rw [decodeFlowSet_seq _ v dom s s' b h]
      cases ha : decodeFlowSet (b.length + 2) v dom s b with
      | error e => rfl
      | ok o =>
        have ho : SEq o.store (addTemplates v dom s' (tplsOf o.flowSet)) := by
          rw [decodeFlowSet_store _ _ _ _ _ _ ha]
          exact addTemplates_congr _ _ _ _ _ h
        simp only [Except.map]
        rw [ih (i + 1) _ _ o.rest ho]
        simp only [List.flatMap_cons, addTemplates_append]
    · rfl

/-- `DecodeMessageNetFlow` / `DecodeMessageIPFIX` as the pipe selects them -/
def decodeMsg (version : Nat) (s : Store) (b : Bytes) : DecodeOut :=
  if version = 9 then decodeMessageNetFlow s b else decodeMessageIPFIX s b

/-- both decoders either fail on the header, before the store is looked at, or hand the rest to `decodeSets`.
    `size` stays a variable: simp on IPFIX's `(length + 65536 - 16) % 65536` is slow. -/
theorem decodeMsg_shape (version : Nat) (b : Bytes) :
    (∃ pv e, ∀ s, decodeMsg version s b = ⟨⟨pv, [], []⟩, false, s, some e⟩) ∨
    ∃ pv hdr size b1, ∀ s, decodeMsg version s b =
      let r := decodeSets pv (Packet.domain ⟨pv, hdr, []⟩) size b1.length (b1.length + 2) 0 s b1
      ⟨⟨pv, hdr, r.flowSets⟩, r.tnf, r.store, r.err⟩ := by
  unfold decodeMsg
  split
  · unfold decodeMessageNetFlow
    split
    · exact .inl ⟨_, _, fun _ => rfl⟩
    · split
      · exact .inr ⟨9, _, _, _, fun _ => rfl⟩
      · exact .inl ⟨_, _, fun _ => rfl⟩
  · unfold decodeMessageIPFIX
    split
    · exact .inl ⟨_, _, fun _ => rfl⟩
    · split
      · exact .inr ⟨10, _, _, _, fun _ => rfl⟩
      · exact .inl ⟨_, _, fun _ => rfl⟩

theorem decodeMsg_seq (version : Nat) (s s' : Store) (b : Bytes) (h : SEq s s') :
    decodeMsg version s' b =
      { decodeMsg version s b with
        store := addTemplates (decodeMsg version s b).packet.version (decodeMsg version s b).packet.domain s'
          ((decodeMsg version s b).packet.flowSets.flatMap tplsOf) } := by
  rcases decodeMsg_shape version b with ⟨pv, e, hd⟩ | ⟨pv, hdr, size, b1, hd⟩
  · rw [hd, hd]; rfl
  · rw [hd, hd, decodeSets_seq _ _ _ _ _ _ s s' _ h]; rfl

theorem decodeMsg_store (version : Nat) (s : Store) (b : Bytes) :
    (decodeMsg version s b).store =
      addTemplates (decodeMsg version s b).packet.version (decodeMsg version s b).packet.domain s
        ((decodeMsg version s b).packet.flowSets.flatMap tplsOf) :=
  congrArg DecodeOut.store (decodeMsg_seq version s s b (SEq.refl s))

theorem decodeMsg_congr (version : Nat) (b : Bytes) (s s' : Store) (h : SEq s s') :
    C15.DRel SEq (decodeMsg version s b) (decodeMsg version s' b) := by
  rw [decodeMsg_seq version s s' b h]
  refine ⟨rfl, rfl, rfl, ?_⟩
  rw [decodeMsg_store]
  exact addTemplates_congr _ _ _ _ _ h

theorem processNetflow_congr (cfg : Option Config) (p : Packet) (r r' : Rates) (h : REq r r') :
    (processNetflow cfg p r).msgs = (processNetflow cfg p r').msgs ∧
    (processNetflow cfg p r).err = (processNetflow cfg p r').err ∧
    REq (processNetflow cfg p r).rates (processNetflow cfg p r').rates := by
  unfold processNetflow
  split
  · exact ⟨rfl, rfl, h⟩
  · split
    · exact ⟨rfl, rfl, h⟩
    · rename_i found _
      cases found with
      | none => exact ⟨by simp only [applyRate, Rates.get, h _], rfl, h⟩
      | some x => exact ⟨rfl, rfl, rates_add_congr _ _ _ _ h⟩

theorem processNetflow_rates (cfg : Option Config) (p : Packet) (r : Rates) :
    (processNetflow cfg p r).rates = r ∨
    ∃ x, searchSamplingRate (optionRecordsOf p.flowSets) = .ok (some x) ∧
      (processNetflow cfg p r).rates = r.add (p.version, p.domain) x := by
  unfold processNetflow
  split
  · exact .inl rfl
  · split
    · exact .inl rfl
    · rename_i found hf
      cases found with
      | none => exact .inl rfl
      | some x => exact .inr ⟨x, hf, rfl⟩

theorem Cong.lookups : C15.Cong SEq REq where
  reflS := SEq.refl
  transS := SEq.trans
  reflR := REq.refl
  transR := REq.trans
  decode := decodeMsg_congr
  produce := processNetflow_congr

/-- DecodeFlow respects lookup equivalence (the counterpart of `C15.decodeFlow_congr`) -/
theorem decodeFlow_congrL (k : Kind) (cfg : Config) (a b : State) (src : Src) (recv : Nat) (d : Bytes)
    (h : LEquiv a b) :
    (decodeFlow k cfg a src recv d).msgs = (decodeFlow k cfg b src recv d).msgs ∧
    (decodeFlow k cfg a src recv d).err = (decodeFlow k cfg b src recv d).err ∧
    LEquiv (decodeFlow k cfg a src recv d).state (decodeFlow k cfg b src recv d).state :=
  C15.decodeFlow_rel Cong.lookups k cfg a b src recv d h

def ReadOnlyL (k : Kind) (cfg : Config) (S : State) (d : C15.Dg) : Prop :=
  LEquiv (decodeFlow k cfg S d.src d.recv d.payload).state S

/-- `none`: the payload is not v9 / IPFIX (v5, sFlow, garbage) -/
def decodedPacket (tpl : Store) (payload : Bytes) : Option Packet :=
  match readU 2 payload with
  | .error _ => none
  | .ok (version, b) => if version = 9 ∨ version = 10 then some (decodeMsg version tpl b).packet else none

theorem decodedPacket_eq {tpl : Store} {payload b : Bytes} {version : Nat} (h : readU 2 payload = .ok (version, b))
    (hv : version = 9 ∨ version = 10) : decodedPacket tpl payload = some (decodeMsg version tpl b).packet := by
  unfold decodedPacket
  rw [h]
  exact if_pos hv

/-- under the keys `AddTemplate` files them -/
def announced (p : Packet) : List (Nat × Template) :=
  (p.flowSets.flatMap tplsOf).map fun e => (templateKey p.version p.domain e.1, e.2)

/-- a refresh on S, stated on the decoded structure: every template record equals the one stored under its key for
    this exporter, and an announced sampling rate is the one stored for (version, domain) of the exporter's address.
    Data-only datagrams and everything that is not v9 / IPFIX satisfy it trivially. -/
structure Refresh (S : State) (src : Src) (payload : Bytes) : Prop where
  templates : ∀ p, decodedPacket (S.templatesOf src) payload = some p →
    ∀ e ∈ announced p, (S.templatesOf src).get e.1 = some e.2
  rate : ∀ p, decodedPacket (S.templatesOf src) payload = some p →
    ∀ x, searchSamplingRate (optionRecordsOf p.flowSets) = .ok (some x) →
      (S.ratesOf src.ip).lookup (p.version, p.domain) = some x

theorem refresh_netflowPipe (cfg : Config) (S : State) (src : Src) (recv : Nat) (d : Bytes) (h : Refresh S src d) :
    LEquiv (netflowPipe cfg S src recv d).state S := by
  refine C15.netflowPipe_keeps Cong.lookups cfg S src recv d fun version b hrd hv => ?_
  have hp := decodedPacket_eq (tpl := S.templatesOf src) hrd hv
  show SEq (decodeMsg version _ b).store _ ∧ REq (processNetflow _ (decodeMsg version _ b).packet _).rates _
  constructor
  · rw [decodeMsg_store]
    refine addTemplates_same _ _ _ _ fun e he => ?_
    exact h.templates _ hp (templateKey _ _ e.1, e.2) (List.mem_map.mpr ⟨e, he, rfl⟩)
  · rcases processNetflow_rates (some cfg) (decodeMsg version (S.templatesOf src) b).packet (S.ratesOf src.ip)
      with hr | ⟨x, hx, hr⟩
    · rw [hr]; exact REq.refl _
    · rw [hr]; exact rates_add_same _ _ _ (h.rate _ hp x hx)

/-- a refresh datagram is read-only up to lookups through the NetFlow pipe -/
theorem refresh_readOnly (cfg : Config) (S : State) (d : C15.Dg) (h : Refresh S d.src d.payload) :
    ReadOnlyL .netflow cfg S d :=
  refresh_netflowPipe cfg S d.src d.recv d.payload h

/-- … and through any of the three pipes (sFlow datagrams are read-only whatever they contain) -/
theorem refresh_readOnly_any (k : Kind) (cfg : Config) (S : State) (d : C15.Dg) (h : Refresh S d.src d.payload) :
    ReadOnlyL k cfg S d := by
  unfold ReadOnlyL
  rcases C15.decodeFlow_cases k cfg d.src d.recv d.payload with hk | ⟨ms, e, hk⟩
  · rw [hk]; exact refresh_netflowPipe cfg S d.src d.recv d.payload h
  · rw [hk]; exact C15.StRel.refl Cong.lookups S

theorem refresh_of_not_v9_ipfix (S : State) (src : Src) (payload : Bytes)
    (h : ∀ v b, readU 2 payload = .ok (v, b) → v ≠ 9 ∧ v ≠ 10) : Refresh S src payload := by
  have hn : decodedPacket (S.templatesOf src) payload = none := by
    unfold decodedPacket
    split
    · rfl
    · rename_i v b hrd
      exact if_neg fun hv => hv.elim (h v b hrd).1 (h v b hrd).2
  constructor
  · intro p hp; rw [hn] at hp; cases hp
  · intro p hp; rw [hn] at hp; cases hp

theorem refresh_of_dataOnly (S : State) (src : Src) (payload : Bytes)
    (h : ∀ p, decodedPacket (S.templatesOf src) payload = some p →
      p.flowSets.flatMap tplsOf = [] ∧ ∀ x, searchSamplingRate (optionRecordsOf p.flowSets) ≠ .ok (some x)) :
    Refresh S src payload := by
  constructor
  · intro p hp e he
    simp [announced, (h p hp).1] at he
  · intro p hp x hx
    exact ((h p hp).2 x hx).elim

/-- mixed workloads: data-only v9 / IPFIX datagrams, NetFlow v5, sFlow and refresh datagrams in any number and any
    processing order: each datagram yields exactly the messages it yields alone on the prologue state, and every
    lookup of the shared state stays as the prologue left it -/
theorem mixed_parallel_eq_sequential (k : Kind) (cfg : Config) (S₀ : State) (σ : List C15.Dg)
    (h : ∀ d ∈ σ, Refresh S₀ d.src d.payload) :
    ∀ S, LEquiv S S₀ →
      (C15.runSeq k cfg S σ).1 = σ.map (fun d => (decodeFlow k cfg S₀ d.src d.recv d.payload).msgs) ∧
      LEquiv (C15.runSeq k cfg S σ).2 S₀ :=
  C15.runSeq_rel Cong.lookups k cfg S₀ σ (fun d hd => refresh_readOnly_any k cfg S₀ d (h d hd))

/-- … and any two processing orders deliver the same multiset of messages -/
theorem mixed_per_datagram_order (k : Kind) (cfg : Config) (S₀ : State) (σ τ : List C15.Dg)
    (h : ∀ d ∈ σ, Refresh S₀ d.src d.payload) (hp : σ.Perm τ) :
    ((C15.runSeq k cfg S₀ σ).1.flatten).Perm ((C15.runSeq k cfg S₀ τ).1.flatten) :=
  C15.runSeq_perm Cong.lookups k cfg S₀ σ τ (fun d hd => refresh_readOnly_any k cfg S₀ d (h d hd)) hp

def AnnouncesNothing (S : State) (src : Src) (payload : Bytes) : Prop :=
  ∀ p, decodedPacket (S.templatesOf src) payload = some p →
    p.flowSets.flatMap tplsOf = [] ∧ ∀ x, searchSamplingRate (optionRecordsOf p.flowSets) ≠ .ok (some x)

/-- data-only datagrams are read-only in the strict sense (stores equal as lists), so `C15.parallel_eq_sequential`
    itself applies to them -/
theorem announcesNothing_readOnly (cfg : Config) (S : State) (d : C15.Dg) (h : AnnouncesNothing S d.src d.payload) :
    C15.ReadOnly .netflow cfg S d := by
  refine C15.netflowPipe_keeps C15.Cong.eq cfg S d.src d.recv d.payload fun version b hrd hv => ?_
  obtain ⟨h1, h2⟩ := h _ (decodedPacket_eq hrd hv)
  show (decodeMsg version _ b).store = _ ∧ (processNetflow _ (decodeMsg version _ b).packet _).rates = _
  constructor
  · rw [decodeMsg_store, h1]; rfl
  · rcases processNetflow_rates (some cfg) (decodeMsg version (S.templatesOf d.src) b).packet (S.ratesOf d.src.ip)
      with hr | ⟨x, hx, _⟩
    · exact hr
    · exact (h2 x hx).elim

def refreshB (S : State) (src : Src) (payload : Bytes) : Bool :=
  match decodedPacket (S.templatesOf src) payload with
  | none => true
  | some p =>
    (announced p).all (fun e => decide ((S.templatesOf src).get e.1 = some e.2)) &&
    match searchSamplingRate (optionRecordsOf p.flowSets) with
    | .ok (some x) => decide ((S.ratesOf src.ip).lookup (p.version, p.domain) = some x)
    | _ => true

theorem refresh_of_refreshB (S : State) (src : Src) (payload : Bytes) (h : refreshB S src payload = true) :
    Refresh S src payload := by
  unfold refreshB at h
  constructor
  · intro p hp e he
    rw [hp] at h
    simp only [Bool.and_eq_true, List.all_eq_true, decide_eq_true_eq] at h
    exact h.1 e he
  · intro p hp x hx
    rw [hp] at h
    simp only [hx, Bool.and_eq_true, decide_eq_true_eq] at h
    exact h.2

namespace Example

def exporter : Src := ⟨[10, 0, 0, 1], 2055⟩
def tplData : Template := .data ⟨256, 2, [⟨false, 1, 4, 0⟩, ⟨false, 2, 4, 0⟩]⟩
def tplOpts : Template := .v9opts ⟨257, 4, 4, [⟨false, 1, 4, 0⟩], [⟨false, 34, 4, 0⟩]⟩

def S₀ : State :=
  { templates := [(exporter, [(templateKey 9 7 257, tplOpts), (templateKey 9 7 256, tplData)])],
    sampling := [([10, 0, 0, 1], [((9, 7), 1000)])] }

def hdr (count : UInt8) : Bytes := [0, 9, 0, count, 0, 0, 0, 1, 0, 0, 0, 2, 0, 0, 0, 3, 0, 0, 0, 7]
def setTpl : Bytes := [0, 0, 0, 16, 1, 0, 0, 2, 0, 1, 0, 4, 0, 2, 0, 4]
def setOptsTpl : Bytes := [0, 1, 0, 18, 1, 1, 0, 4, 0, 4, 0, 1, 0, 4, 0, 34, 0, 4]
def setOptsData : Bytes := [1, 1, 0, 12, 0, 0, 0, 0, 0, 0, 3, 232]
def setData : Bytes := [1, 0, 0, 12, 0, 0, 0, 100, 0, 0, 0, 5]

/-- both templates re-announced as stored, the stored rate announced again, one flow -/
def dgRefresh : Bytes := hdr 4 ++ setTpl ++ setOptsTpl ++ setOptsData ++ setData
def dgRefresh256 : Bytes := hdr 1 ++ setTpl

example : (decodedPacket (S₀.templatesOf exporter) dgRefresh).map (fun p => (announced p, searchSamplingRate (optionRecordsOf p.flowSets)))
  = some ([(templateKey 9 7 256, tplData), (templateKey 9 7 257, tplOpts)], .ok (some 1000)) := by decide +kernel

example : ((decodeFlow .netflow {} S₀ exporter 1 dgRefresh).msgs.map (fun m => (m.bytes, m.packets, m.samplingRate)),
   (decodeFlow .netflow {} S₀ exporter 1 dgRefresh).err) = ([(100, 5, 1000)], none) := by decide +kernel

/-- template 256 with another field width; another sampling rate: not refreshes -/
def dgChangedTpl : Bytes := hdr 1 ++ [0, 0, 0, 16, 1, 0, 0, 2, 0, 1, 0, 4, 0, 2, 0, 8]
def dgChangedRate : Bytes := hdr 1 ++ [1, 1, 0, 12, 0, 0, 0, 0, 0, 0, 7, 208]
/-- data only; an sFlow version word -/
def dgData : Bytes := hdr 1 ++ setData
def dgOther : Bytes := [0, 0, 0, 5, 0, 0, 0, 1]

example : refreshB S₀ exporter dgChangedTpl = false ∧ refreshB S₀ exporter dgChangedRate = false := by decide +kernel

theorem workload_refreshB : ∀ b ∈ [dgRefresh, dgRefresh256, dgData, dgOther], refreshB S₀ exporter b = true := by
  decide +kernel

example : refreshB S₀ exporter dgRefresh = true := workload_refreshB _ List.mem_cons_self

/-- `Refresh` is not vacuous: this datagram announces two templates and a rate -/
theorem dgRefresh_refresh : Refresh S₀ exporter dgRefresh :=
  refresh_of_refreshB _ _ _ (workload_refreshB _ List.mem_cons_self)

theorem dgRefresh_readOnly : ReadOnlyL .netflow {} S₀ ⟨exporter, 1, dgRefresh⟩ :=
  refresh_readOnly {} S₀ ⟨exporter, 1, dgRefresh⟩ dgRefresh_refresh

example : ∀ σ ∈ [[dgRefresh, dgRefresh256, dgData, dgOther], [dgOther, dgData, dgRefresh256, dgRefresh]],
    (C15.runSeq .auto {} S₀ (σ.map fun b => ⟨exporter, 1, b⟩)).1 =
      (σ.map fun b => (⟨exporter, 1, b⟩ : C15.Dg)).map (fun d => (decodeFlow .auto {} S₀ d.src d.recv d.payload).msgs) := by
  intro σ hσ
  refine (mixed_parallel_eq_sequential .auto {} S₀ _ ?_ S₀ (C15.StRel.refl Cong.lookups _)).1
  intro d hd
  obtain ⟨b, hb, rfl⟩ := List.mem_map.mp hd
  refine refresh_of_refreshB _ _ _ (workload_refreshB b ?_)
  -- the second order is the first one reversed
  simp only [List.mem_cons, List.not_mem_nil, or_false] at hσ
  rcases hσ with rfl | rfl
  · exact hb
  · exact List.mem_reverse.mp hb

/-- re-announcing everything in the order of the first announcement happens to rebuild the very same
    list … -/
example : (decodeFlow .netflow {} S₀ exporter 1 dgRefresh).state.templatesOf exporter = S₀.templatesOf exporter ∧
    (decodeFlow .netflow {} S₀ exporter 1 dgRefresh).state.ratesOf exporter.ip = S₀.ratesOf exporter.ip := by decide +kernel

/-- … but re-announcing only the older template moves it to the head of the association list: not read-only in the
    sense of Proofs/C15.lean, although no lookup changes -/
theorem refresh_not_strictly_readOnly : ¬ C15.ReadOnly .netflow {} S₀ ⟨exporter, 1, dgRefresh256⟩ := by
  intro h
  have := h.1 exporter
  revert this
  decide +kernel

theorem dgRefresh256_readOnlyL : ReadOnlyL .netflow {} S₀ ⟨exporter, 1, dgRefresh256⟩ :=
  refresh_readOnly {} S₀ ⟨exporter, 1, dgRefresh256⟩
    (refresh_of_refreshB _ _ _ (workload_refreshB _ (List.mem_cons_of_mem _ List.mem_cons_self)))

end Example

end Goflow.C15Refresh
