import Proofs.C10Full
/-!
  C10 (truncated capture) — "when the capture is cut short, every reported field still equals the frame's true value
  or is left unset". `Proofs.C10Loop` defines the message expected at capture length `n` (`expectedAt f n`),
  `Proofs.C10Full` shows that the dissector reports it (`trunc_capture_cfg`); here `expectedAt f` is monotone in `n`
  for the order `Below` (scalar columns unset or equal, list columns prefixes), up to `expectedMsg f` for the
  whole frame (`expectedAt_full`). `Below` is transitive; each layer lies above the message it extends
  (`below_*`); a longer capture only adds (`cut_*`).
-/
set_option linter.unusedSimpArgs false

namespace Goflow.C10
open Goflow Goflow.Producer Goflow.Spec.Frame

/-- equal to the true sizes; only the last one may be smaller (a label stack cut in the middle reports the
    labels captured) -/
def SizesBelow : List Nat → List Nat → Prop
  | [], _ => True
  | _ :: _, [] => False
  | x :: a, y :: b => if a = [] then x ≤ y else x = y ∧ SizesBelow a b

instance : ∀ a b, Decidable (SizesBelow a b)
  | [], _ => isTrue trivial
  | _ :: _, [] => isFalse (fun h => h)
  | x :: a, y :: b =>
    if h : a = [] then decidable_of_iff (x ≤ y) (by simp [SizesBelow, h])
    else
      have := instDecidableSizesBelow a b
      decidable_of_iff (x = y ∧ SizesBelow a b) (by simp [SizesBelow, h])

/-- `m`, what a truncated capture reports, against `full`, what the complete frame reports: every scalar column
    is unset or equal, every list column a prefix (layer sizes: `SizesBelow`). Two columns are written by several
    L2 headers in turn, so a truncated capture may report the value of an outer one: `Etype` may be one of `ets`
    (the ethertypes of the L2 headers in front of the last one), `VlanId` one of the frame's tags `vls`. -/
def Below (ets vls : List Nat) (m full : FlowMsg) : Prop :=
  (m.etype = 0 ∨ m.etype = full.etype ∨ m.etype ∈ ets) ∧
  (m.vlanId = 0 ∨ m.vlanId = full.vlanId ∨ m.vlanId ∈ vls) ∧
  (m.type_ = 0 ∨ m.type_ = full.type_) ∧
  (m.timeReceivedNs = 0 ∨ m.timeReceivedNs = full.timeReceivedNs) ∧
  (m.sequenceNum = 0 ∨ m.sequenceNum = full.sequenceNum) ∧
  (m.samplingRate = 0 ∨ m.samplingRate = full.samplingRate) ∧
  (m.samplerAddress = [] ∨ m.samplerAddress = full.samplerAddress) ∧
  (m.timeFlowStartNs = 0 ∨ m.timeFlowStartNs = full.timeFlowStartNs) ∧
  (m.timeFlowEndNs = 0 ∨ m.timeFlowEndNs = full.timeFlowEndNs) ∧
  (m.bytes = 0 ∨ m.bytes = full.bytes) ∧
  (m.packets = 0 ∨ m.packets = full.packets) ∧
  (m.srcAddr = [] ∨ m.srcAddr = full.srcAddr) ∧
  (m.dstAddr = [] ∨ m.dstAddr = full.dstAddr) ∧
  (m.proto = 0 ∨ m.proto = full.proto) ∧
  (m.srcPort = 0 ∨ m.srcPort = full.srcPort) ∧
  (m.dstPort = 0 ∨ m.dstPort = full.dstPort) ∧
  (m.inIf = 0 ∨ m.inIf = full.inIf) ∧
  (m.outIf = 0 ∨ m.outIf = full.outIf) ∧
  (m.srcMac = 0 ∨ m.srcMac = full.srcMac) ∧
  (m.dstMac = 0 ∨ m.dstMac = full.dstMac) ∧
  (m.srcVlan = 0 ∨ m.srcVlan = full.srcVlan) ∧
  (m.dstVlan = 0 ∨ m.dstVlan = full.dstVlan) ∧
  (m.ipTos = 0 ∨ m.ipTos = full.ipTos) ∧
  (m.forwardingStatus = 0 ∨ m.forwardingStatus = full.forwardingStatus) ∧
  (m.ipTtl = 0 ∨ m.ipTtl = full.ipTtl) ∧
  (m.ipFlags = 0 ∨ m.ipFlags = full.ipFlags) ∧
  (m.tcpFlags = 0 ∨ m.tcpFlags = full.tcpFlags) ∧
  (m.icmpType = 0 ∨ m.icmpType = full.icmpType) ∧
  (m.icmpCode = 0 ∨ m.icmpCode = full.icmpCode) ∧
  (m.ipv6FlowLabel = 0 ∨ m.ipv6FlowLabel = full.ipv6FlowLabel) ∧
  (m.fragmentId = 0 ∨ m.fragmentId = full.fragmentId) ∧
  (m.fragmentOffset = 0 ∨ m.fragmentOffset = full.fragmentOffset) ∧
  (m.srcAs = 0 ∨ m.srcAs = full.srcAs) ∧
  (m.dstAs = 0 ∨ m.dstAs = full.dstAs) ∧
  (m.nextHop = [] ∨ m.nextHop = full.nextHop) ∧
  (m.nextHopAs = 0 ∨ m.nextHopAs = full.nextHopAs) ∧
  (m.srcNet = 0 ∨ m.srcNet = full.srcNet) ∧
  (m.dstNet = 0 ∨ m.dstNet = full.dstNet) ∧
  (m.bgpNextHop = [] ∨ m.bgpNextHop = full.bgpNextHop) ∧
  (m.bgpCommunities <+: full.bgpCommunities) ∧
  (m.asPath <+: full.asPath) ∧
  (m.mplsTtl <+: full.mplsTtl) ∧
  (m.mplsLabel <+: full.mplsLabel) ∧
  (m.mplsIp <+: full.mplsIp) ∧
  (m.observationDomainId = 0 ∨ m.observationDomainId = full.observationDomainId) ∧
  (m.observationPointId = 0 ∨ m.observationPointId = full.observationPointId) ∧
  (m.layerStack <+: full.layerStack) ∧
  SizesBelow m.layerSize full.layerSize ∧
  (m.ipv6RoutingHeaderAddresses <+: full.ipv6RoutingHeaderAddresses) ∧
  (m.ipv6RoutingHeaderSegLeft = 0 ∨ m.ipv6RoutingHeaderSegLeft = full.ipv6RoutingHeaderSegLeft) ∧
  (m.unk = [] ∨ m.unk = full.unk)

set_option synthInstance.maxSize 4096 in
instance (ets vls : List Nat) (m full : FlowMsg) : Decidable (Below ets vls m full) := by
  unfold Below; infer_instance

/-- the ethertypes of the L2 headers in front of the last one: 0x8100 when the frame is tagged, and the ethertype
    in front of an MPLS label stack (after which the dissector reports the ethertype of the IP version it peeks) -/
def outerEtypes (f : Frame) : List Nat :=
  (match f.vlans with | [] => [] | _ :: _ => [0x8100]) ++ (match f.payload with | .mpls .. => [0x8847] | _ => [])

theorem SizesBelow.refl : ∀ a : List Nat, SizesBelow a a
  | [] => trivial
  | x :: a => by
    by_cases h : a = []
    · simp [SizesBelow, h]
    · simp [SizesBelow, h, SizesBelow.refl a]

theorem SizesBelow.append_right : ∀ {a b : List Nat} (c : List Nat), SizesBelow a b → SizesBelow a (b ++ c)
  | [], _, _, _ => trivial
  | _ :: _, [], _, h => h.elim
  | x :: a, y :: b, c, h => by
    by_cases ha : a = []
    · simpa [SizesBelow, ha] using h
    · simp only [SizesBelow, ha, if_false, List.cons_append] at h ⊢
      exact ⟨h.1, SizesBelow.append_right c h.2⟩

theorem SizesBelow.append_left : ∀ (p : List Nat) {a b : List Nat}, SizesBelow a b → a ≠ [] → SizesBelow (p ++ a) (p ++ b)
  | [], _, _, h, _ => h
  | x :: p, a, b, h, ha => by
    have := SizesBelow.append_left p h ha
    simp only [List.cons_append, SizesBelow]
    rw [if_neg (by simp [ha])]
    exact ⟨trivial, this⟩

theorem SizesBelow.last (p : List Nat) {x y : Nat} (c : List Nat) (h : x ≤ y) : SizesBelow (p ++ [x]) (p ++ y :: c) :=
  SizesBelow.append_left p (by simp [SizesBelow, h]) (by simp)

theorem SizesBelow.append_both (p : List Nat) {a b : List Nat} (h : SizesBelow a b) : SizesBelow (p ++ a) (p ++ b) := by
  by_cases ha : a = []
  · subst ha; simpa using SizesBelow.append_right b (SizesBelow.refl p)
  · exact SizesBelow.append_left p h ha

/-- columns no layer in front of L4 writes -/
def FreshL4 (m : FlowMsg) : Prop :=
  m.srcPort = 0 ∧ m.dstPort = 0 ∧ m.tcpFlags = 0 ∧ m.icmpType = 0 ∧ m.icmpCode = 0

/-- columns no layer in front of an IPv6 extension header writes -/
def FreshExt (m : FlowMsg) : Prop :=
  FreshL4 m ∧ m.fragmentId = 0 ∧ m.fragmentOffset = 0 ∧ m.ipFlags = 0 ∧ m.ipv6RoutingHeaderSegLeft = 0 ∧
    m.ipv6RoutingHeaderAddresses = []

/-- columns no layer in front of the IP header writes -/
def FreshIP (m : FlowMsg) : Prop :=
  FreshExt m ∧ m.srcAddr = [] ∧ m.dstAddr = [] ∧ m.ipTos = 0 ∧ m.ipTtl = 0 ∧ m.ipv6FlowLabel = 0 ∧ m.proto = 0

/-- columns no layer in front of the MPLS label stack writes -/
def FreshMpls (m : FlowMsg) : Prop := FreshIP m ∧ m.mplsLabel = [] ∧ m.mplsTtl = []

theorem Below.refl (ets vls : List Nat) (m : FlowMsg) : Below ets vls m m := by
  simp [Below, SizesBelow.refl]

theorem SizesBelow.trans : ∀ {a b c : List Nat}, SizesBelow a b → SizesBelow b c → SizesBelow a c
  | [], _, _, _, _ => trivial
  | _ :: _, [], _, h, _ => h.elim
  | _ :: _, _ :: _, [], _, h => h.elim
  | x :: a, y :: b, z :: c, h1, h2 => by
    by_cases ha : a = []
    · subst ha
      simp only [SizesBelow, if_true] at h1 ⊢
      by_cases hb : b = []
      · subst hb; simp only [SizesBelow, if_true] at h2; omega
      · simp only [SizesBelow, hb, if_false] at h2; omega
    · simp only [SizesBelow, ha, if_false] at h1 ⊢
      have hb : b ≠ [] := by
        intro hb; subst hb
        cases a with
        | nil => exact ha rfl
        | cons => exact h1.2
      simp only [SizesBelow, hb, if_false] at h2
      exact ⟨h1.1.trans h2.1, h1.2.trans h2.2⟩

theorem unset_trans {α : Type} {z x y w : α} (h1 : x = z ∨ x = y) (h2 : y = z ∨ y = w) : x = z ∨ x = w := by
  rcases h1 with h | rfl
  · exact Or.inl h
  · exact h2

theorem unset_trans3 {ets : List Nat} {x y w : Nat} (h1 : x = 0 ∨ x = y ∨ x ∈ ets) (h2 : y = 0 ∨ y = w ∨ y ∈ ets) :
    x = 0 ∨ x = w ∨ x ∈ ets := by
  rcases h1 with h | rfl | h
  · exact Or.inl h
  · exact h2
  · exact Or.inr (Or.inr h)

theorem Below.trans {ets vls : List Nat} {a b c : FlowMsg} (h1 : Below ets vls a b) (h2 : Below ets vls b c) :
    Below ets vls a c := by
  obtain ⟨a1, a2, a3, a4, a5, a6, a7, a8, a9, a10, a11, a12, a13, a14, a15, a16, a17, a18, a19, a20, a21, a22, a23, a24,
    a25, a26, a27, a28, a29, a30, a31, a32, a33, a34, a35, a36, a37, a38, a39, a40, a41, a42, a43, a44, a45, a46,
    a47, a48, a49, a50, a51⟩ := h1
  obtain ⟨b1, b2, b3, b4, b5, b6, b7, b8, b9, b10, b11, b12, b13, b14, b15, b16, b17, b18, b19, b20, b21, b22, b23, b24,
    b25, b26, b27, b28, b29, b30, b31, b32, b33, b34, b35, b36, b37, b38, b39, b40, b41, b42, b43, b44, b45, b46,
    b47, b48, b49, b50, b51⟩ := h2
  exact ⟨unset_trans3 a1 b1, unset_trans3 a2 b2, unset_trans a3 b3, unset_trans a4 b4, unset_trans a5 b5,
    unset_trans a6 b6, unset_trans a7 b7, unset_trans a8 b8, unset_trans a9 b9, unset_trans a10 b10,
    unset_trans a11 b11, unset_trans a12 b12, unset_trans a13 b13, unset_trans a14 b14, unset_trans a15 b15,
    unset_trans a16 b16, unset_trans a17 b17, unset_trans a18 b18, unset_trans a19 b19, unset_trans a20 b20,
    unset_trans a21 b21, unset_trans a22 b22, unset_trans a23 b23, unset_trans a24 b24, unset_trans a25 b25,
    unset_trans a26 b26, unset_trans a27 b27, unset_trans a28 b28, unset_trans a29 b29, unset_trans a30 b30,
    unset_trans a31 b31, unset_trans a32 b32, unset_trans a33 b33, unset_trans a34 b34, unset_trans a35 b35,
    unset_trans a36 b36, unset_trans a37 b37, unset_trans a38 b38, unset_trans a39 b39, a40.trans b40, a41.trans b41,
    a42.trans b42, a43.trans b43, a44.trans b44, unset_trans a45 b45, unset_trans a46 b46, a47.trans b47,
    a48.trans b48, a49.trans b49, unset_trans a50 b50, unset_trans a51 b51⟩

theorem SizesBelow.push (a c : List Nat) : SizesBelow a (a ++ c) := SizesBelow.append_right c (SizesBelow.refl a)

theorem below_l4 {ets vls : List Nat} {m' m : FlowMsg} (l : L4) (h : Below ets vls m' m) (hf : FreshL4 m) :
    Below ets vls m' (l4Msg l m) := by
  refine h.trans ?_
  simp only [FreshL4] at hf
  cases l <;> simp [Below, l4Msg, hf, SizesBelow.refl, SizesBelow.push]

theorem below_l4At {ets vls : List Nat} {m' m : FlowMsg} (n off : Nat) (l : L4) (h : Below ets vls m' m)
    (hf : FreshL4 m) : Below ets vls m' (l4MsgAt n off l m) := by
  unfold l4MsgAt; split
  · exact below_l4 l h hf
  · exact h

theorem below_layer {ets vls : List Nat} {m' m : FlowMsg} (v s : Nat) (h : Below ets vls m' m) :
    Below ets vls m' { m with layerStack := m.layerStack ++ [v], layerSize := m.layerSize ++ [s] } := by
  refine h.trans ?_
  simp [Below, SizesBelow.refl, SizesBelow.push]

theorem below_inner {ets vls : List Nat} {m' m : FlowMsg} (layers : List (Nat × Nat)) (icmp : Option (Nat × Nat))
    (h : Below ets vls m' m) (hf : FreshL4 m) : Below ets vls m' (innerRes layers icmp m) := by
  refine h.trans ?_
  simp only [FreshL4] at hf
  rcases icmp with _ | ⟨t, c⟩ <;> simp [Below, innerRes, hf, SizesBelow.refl, SizesBelow.push]

theorem below_payloadAt {ets vls : List Nat} {m' m : FlowMsg} (n off : Nat) (pl : Payload) (h : Below ets vls m' m)
    (hf : FreshL4 m) : Below ets vls m' (payloadResAt n off pl m) := by
  cases pl with
  | l4 l => exact below_l4At n off l h hf
  | gre inner =>
    simp only [payloadResAt]; split
    · exact below_inner _ _ (below_layer 9 4 h) hf
    · exact h
  | ipip p => exact below_inner _ _ h hf

theorem below_ipMsg {ets vls : List Nat} {m' m : FlowMsg} (p : IP) (h : Below ets vls m' m) (hf : FreshIP m) :
    Below ets vls m' (ipMsg p m) := by
  refine h.trans ?_
  simp only [FreshIP, FreshExt, FreshL4] at hf
  cases p <;> simp [Below, ipMsg, hf, SizesBelow.refl, SizesBelow.push]

theorem fresh_ipMsg_l4 {m : FlowMsg} (p : IP) (hf : FreshIP m) : FreshL4 (ipMsg p m) := by
  simp only [FreshIP, FreshExt, FreshL4] at hf ⊢
  cases p <;> simp only [ipMsg] <;> simp_all

theorem fresh_ipMsg_ext {m : FlowMsg} (tc fl hl : Nat) (src dst : Bytes) (ext : V6Ext) (pl : Payload) (hf : FreshIP m) :
    FreshExt (ipMsg (.v6 tc fl hl src dst ext pl) m) := by
  simp only [FreshIP, FreshExt, FreshL4] at hf ⊢
  simp only [ipMsg]; simp_all

theorem below_extMsg {ets vls : List Nat} {m' m : FlowMsg} (ext : V6Ext) (h : Below ets vls m' m) (hf : FreshExt m) :
    Below ets vls m' (extMsg ext m) := by
  refine h.trans ?_
  simp only [FreshExt, FreshL4] at hf
  cases ext <;> simp [Below, extMsg, hf, SizesBelow.refl, SizesBelow.push]

theorem fresh_extMsg {m : FlowMsg} (ext : V6Ext) (hf : FreshExt m) : FreshL4 (extMsg ext m) := by
  simp only [FreshExt, FreshL4] at hf ⊢
  cases ext <;> simp only [extMsg] <;> simp_all

theorem below_srhAt {ets vls : List Nat} {m' m : FlowMsg} (k sleft : Nat) (segs : List Bytes) (h : Below ets vls m' m)
    (hf : FreshExt m) : Below ets vls m' (srhMsgAt k sleft segs m) := by
  refine h.trans ?_
  simp only [FreshExt, FreshL4] at hf
  simp [Below, srhMsgAt, hf, SizesBelow.refl, SizesBelow.push]

theorem fresh_srhAt {m : FlowMsg} (k sleft : Nat) (segs : List Bytes) (hf : FreshExt m) :
    FreshL4 (srhMsgAt k sleft segs m) := by
  simp only [FreshExt, FreshL4] at hf ⊢
  simp only [srhMsgAt]; simp_all

theorem below_ipAt {ets vls : List Nat} {m' m : FlowMsg} (n off : Nat) (p : IP) (h : Below ets vls m' m)
    (hf : FreshIP m) : Below ets vls m' (ipResAt n off p m) := by
  cases p with
  | v4 tos ident fl fo ttl src dst pl =>
    simp only [ipResAt]; split
    · exact below_payloadAt _ _ _ (below_ipMsg _ h hf) (fresh_ipMsg_l4 _ hf)
    · exact h
  | v6 tc fl hl src dst ext pl =>
    have h1 := below_ipMsg (.v6 tc fl hl src dst ext pl) h hf
    have f1 := fresh_ipMsg_ext tc fl hl src dst ext pl hf
    simp only [ipResAt]; split
    · cases ext with
      | none => exact below_payloadAt _ _ _ h1 f1.1
      | fragment fo fl3 ident =>
        simp only []; split
        · exact below_payloadAt _ _ _ (below_extMsg _ h1 f1) (fresh_extMsg _ f1)
        · exact h1
      | srh sleft le segs =>
        simp only []; split
        · exact below_payloadAt _ _ _ (below_srhAt _ _ _ h1 f1) (fresh_srhAt _ _ _ f1)
        · exact h1
    · exact h

/-- the ethertype the message carries may be overwritten by a later L2 header -/
def EtypeOK (ets : List Nat) (m : FlowMsg) : Prop := m.etype = 0 ∨ m.etype ∈ ets
def VlanOK (vls : List Nat) (m : FlowMsg) : Prop := m.vlanId = 0 ∨ m.vlanId ∈ vls

theorem below_mplsMsg {ets vls : List Nat} {m' m : FlowMsg} (labels : List (Nat × Nat)) (et : Nat)
    (h : Below ets vls m' m) (hf : FreshMpls m) (he : EtypeOK ets m) : Below ets vls m' (mplsMsg labels et m) := by
  refine h.trans ?_
  simp only [FreshMpls] at hf
  refine ⟨he.elim Or.inl fun h => Or.inr (Or.inr h), ?_⟩
  simp [mplsMsg, hf, SizesBelow.refl, SizesBelow.push]

theorem fresh_mplsMsg {m : FlowMsg} (labels : List (Nat × Nat)) (et : Nat) (hf : FreshMpls m) :
    FreshIP (mplsMsg labels et m) := by
  simp only [FreshMpls, FreshIP, FreshExt, FreshL4] at hf ⊢
  simp only [mplsMsg]; simp_all

theorem below_mplsAt {ets vls : List Nat} {m' m : FlowMsg} (k : Nat) (labels : List (Nat × Nat))
    (h : Below ets vls m' m) (hf : FreshMpls m) : Below ets vls m' (mplsMsgAt k labels m) := by
  refine h.trans ?_
  simp only [FreshMpls] at hf
  simp [Below, mplsMsgAt, hf, SizesBelow.refl, SizesBelow.push, List.take_prefix]

def isMpls : EtherPayload → Prop
  | .mpls .. => True
  | _ => False

theorem below_epAt {ets vls : List Nat} {m' m : FlowMsg} (n off : Nat) (ep : EtherPayload) (h : Below ets vls m' m)
    (hf : FreshMpls m) (he : isMpls ep → EtypeOK ets m) : Below ets vls m' (epResAt n off ep m) := by
  cases ep with
  | ip p => exact below_ipAt n off p h hf.1
  | raw t b => exact h
  | mpls labels p =>
    simp only [epResAt]; split
    · split
      · exact below_ipAt _ _ _ (below_mplsMsg _ _ h hf (he trivial)) (fresh_mplsMsg _ _ hf)
      · exact below_mplsAt _ _ h hf
    · exact h

theorem below_tag {ets vls : List Nat} {m' m : FlowMsg} (v et : Nat) (h : Below ets vls m' m)
    (he : EtypeOK ets m) (hv : VlanOK vls m) : Below ets vls m' (tagMsg v et m) := by
  refine h.trans ?_
  refine ⟨he.elim Or.inl fun h => Or.inr (Or.inr h), hv.elim Or.inl fun h => Or.inr (Or.inr h), ?_⟩
  simp [tagMsg, SizesBelow.refl, SizesBelow.push]

theorem fresh_tag {m : FlowMsg} (v et : Nat) (hf : FreshMpls m) : FreshMpls (tagMsg v et m) := by
  simp only [FreshMpls, FreshIP, FreshExt, FreshL4] at hf ⊢
  simp only [tagMsg]; simp_all

theorem below_vlansAt {ets vls : List Nat} (n : Nat) (ep : EtherPayload) (hC : isMpls ep → 0x8847 ∈ ets) :
    ∀ (vs : List Nat) (off : Nat) (m' m : FlowMsg), Below ets vls m' m → FreshMpls m →
      ((vs ≠ [] ∨ isMpls ep) → EtypeOK ets m) → VlanOK vls m → (∀ x ∈ vs, x ∈ vls) → (vs ≠ [] → 0x8100 ∈ ets) →
      Below ets vls m' (vlansResAt n off ep vs m)
  | [], off, m', m, h, hf, he, _, _, _ => by
    simp only [vlansResAt]
    exact below_epAt n off ep h hf (fun hm => he (Or.inr hm))
  | v :: vs, off, m', m, h, hf, he, hv, hA, hB => by
    rw [vlansResAt_cons]; split
    · refine below_vlansAt n ep hC vs (off + 4) m' _ (below_tag _ _ h (he (Or.inl (by simp))) hv) (fresh_tag _ _ hf)
        ?_ (Or.inr (hA v (by simp))) (fun x hx => hA x (by simp [hx])) (fun _ => hB (by simp))
      intro hcase
      cases vs with
      | nil =>
        rcases hcase with hcase | hcase
        · exact absurd rfl hcase
        · right
          cases ep with
          | mpls labels p => simpa [tagMsg, l2Etype, etherType] using hC trivial
          | ip p => exact hcase.elim
          | raw t b => exact hcase.elim
      | cons w ws => right; simpa [tagMsg, l2Etype] using hB (by simp)
    · exact h

theorem SizesBelow.cons (x : Nat) {a b : List Nat} (h : SizesBelow a b) : SizesBelow (x :: a) (x :: b) := by
  simpa using SizesBelow.append_both [x] h

/-- tunnelled layers and the ICMP header that ends them, under truncation -/
def InnerBelow (r r' : Inner) : Prop :=
  r.1.map (·.1) <+: r'.1.map (·.1) ∧ SizesBelow (r.1.map (·.2)) (r'.1.map (·.2)) ∧ (r.2 = none ∨ r.2 = r'.2)

theorem InnerBelow.nil (r : Inner) : InnerBelow Inner.nil r := by
  simp [InnerBelow, Inner.nil, SizesBelow]

theorem InnerBelow.refl (r : Inner) : InnerBelow r r := by
  simp [InnerBelow, SizesBelow.refl]

theorem InnerBelow.cons (x : Nat × Nat) {r r' : Inner} (h : InnerBelow r r') :
    InnerBelow (Inner.cons x r) (Inner.cons x r') := by
  obtain ⟨h1, h2, h3⟩ := h
  refine ⟨?_, ?_, h3⟩
  · simpa [Inner.cons, List.cons_prefix_cons] using h1
  · simpa [Inner.cons] using SizesBelow.cons x.2 h2

theorem innerL4_mono {n n' : Nat} (hnn : n ≤ n') (off : Nat) (l : L4) :
    InnerBelow (innerL4At n off l) (innerL4At n' off l) := by
  unfold innerL4At
  by_cases hg : off + l4Guard l ≤ n
  · rw [if_pos hg, if_pos (show off + l4Guard l ≤ n' by omega)]; exact InnerBelow.refl _
  · rw [if_neg hg]; exact InnerBelow.nil _

mutual
theorem innerIP_mono {n n' : Nat} (hnn : n ≤ n') : ∀ (p : IP) (off : Nat),
    InnerBelow (innerIPAt n off p) (innerIPAt n' off p)
  | .v4 _ _ _ _ _ _ _ pl, off => by
    simp only [innerIPAt]
    by_cases hg : off + 20 ≤ n
    · rw [if_pos hg, if_pos (show off + 20 ≤ n' by omega)]; exact (innerPayload_mono hnn pl _).cons _
    · rw [if_neg hg]; exact InnerBelow.nil _
  | .v6 _ _ _ _ _ ext pl, off => by
    simp only [innerIPAt]
    by_cases hg : off + 40 ≤ n
    · rw [if_pos hg, if_pos (show off + 40 ≤ n' by omega)]
      refine InnerBelow.cons _ ?_
      cases ext with
      | none => exact innerPayload_mono hnn pl _
      | fragment fo fl3 ident =>
        simp only []
        by_cases hg2 : off + 48 ≤ n
        · rw [if_pos hg2, if_pos (show off + 48 ≤ n' by omega)]; exact (innerPayload_mono hnn pl _).cons _
        · rw [if_neg hg2]; exact InnerBelow.nil _
      | srh sleft le segs =>
        simp only []
        by_cases hg2 : off + 48 ≤ n
        · rw [if_pos hg2, if_pos (show off + 48 ≤ n' by omega)]; exact (innerPayload_mono hnn pl _).cons _
        · rw [if_neg hg2]; exact InnerBelow.nil _
    · rw [if_neg hg]; exact InnerBelow.nil _
theorem innerPayload_mono {n n' : Nat} (hnn : n ≤ n') : ∀ (pl : Payload) (off : Nat),
    InnerBelow (innerPayloadAt n off pl) (innerPayloadAt n' off pl)
  | .l4 l, off => by simp only [innerPayloadAt]; exact innerL4_mono hnn off l
  | .gre inner, off => by
    simp only [innerPayloadAt]
    by_cases hg : off + 4 ≤ n
    · rw [if_pos hg, if_pos (show off + 4 ≤ n' by omega)]; exact (innerEther_mono hnn inner _).cons _
    · rw [if_neg hg]; exact InnerBelow.nil _
  | .ipip p, off => by simp only [innerPayloadAt]; exact innerIP_mono hnn p off
theorem innerEther_mono {n n' : Nat} (hnn : n ≤ n') : ∀ (ep : EtherPayload) (off : Nat),
    InnerBelow (innerEtherAt n off ep) (innerEtherAt n' off ep)
  | .ip p, off => by simp only [innerEtherAt]; exact innerIP_mono hnn p off
  | .mpls labels p, off => by
    simp only [innerEtherAt]
    by_cases hg : off + 4 ≤ n
    · rw [if_pos hg, if_pos (show off + 4 ≤ n' by omega)]
      by_cases hg2 : off + 4 * labels.length < n
      · rw [if_pos hg2, if_pos (show off + 4 * labels.length < n' by omega)]; exact (innerIP_mono hnn p _).cons _
      · rw [if_neg hg2]
        by_cases hg3 : off + 4 * labels.length < n'
        · rw [if_pos hg3]
          refine ⟨by simp [Inner.cons], ?_, Or.inl rfl⟩
          simp only [Inner.cons, List.map_cons, List.map_nil, SizesBelow, if_true]
          omega
        · rw [if_neg hg3]
          refine ⟨by simp, ?_, Or.inl rfl⟩
          simp only [List.map_cons, List.map_nil, SizesBelow, if_true]
          omega
    · rw [if_neg hg]; exact InnerBelow.nil _
  | .raw .., off => by simp only [innerEtherAt]; exact InnerBelow.nil _
end

theorem below_inner_cut {ets vls : List Nat} {m : FlowMsg} {r r' : Inner} (h : InnerBelow r r') (hf : FreshL4 m) :
    Below ets vls (innerRes r.1 r.2 m) (innerRes r'.1 r'.2 m) := by
  obtain ⟨h1, h2, h3⟩ := h
  obtain ⟨l, i⟩ := r
  obtain ⟨l', i'⟩ := r'
  simp only [FreshL4] at hf
  simp only at h1 h2 h3
  have hs : SizesBelow (m.layerSize ++ l.map (·.2)) (m.layerSize ++ l'.map (·.2)) := SizesBelow.append_both _ h2
  rcases h3 with rfl | rfl
  · rcases i' with _ | ⟨t, c⟩ <;> simp [Below, innerRes, List.prefix_append_right_inj, h1, hs, hf, SizesBelow.refl]
  · rcases i with _ | ⟨t, c⟩ <;> simp [Below, innerRes, List.prefix_append_right_inj, h1, hs, hf, SizesBelow.refl]

theorem cut_l4 {ets vls : List Nat} {n n' : Nat} (hnn : n ≤ n') (off : Nat) (l : L4) (m : FlowMsg) (hf : FreshL4 m) :
    Below ets vls (l4MsgAt n off l m) (l4MsgAt n' off l m) := by
  by_cases hg : off + l4Guard l ≤ n
  · simp only [l4MsgAt, if_pos hg, if_pos (show off + l4Guard l ≤ n' by omega)]; exact Below.refl _ _ _
  · simp only [l4MsgAt, if_neg hg]; exact below_l4At n' off l (Below.refl _ _ _) hf

theorem fresh_layer {m : FlowMsg} (v s : Nat) (hf : FreshL4 m) :
    FreshL4 { m with layerStack := m.layerStack ++ [v], layerSize := m.layerSize ++ [s] } := hf

theorem cut_payload {ets vls : List Nat} {n n' : Nat} (hnn : n ≤ n') (off : Nat) (pl : Payload) (m : FlowMsg)
    (hf : FreshL4 m) : Below ets vls (payloadResAt n off pl m) (payloadResAt n' off pl m) := by
  cases pl with
  | l4 l => exact cut_l4 hnn off l m hf
  | gre inner =>
    by_cases hg : off + 4 ≤ n
    · simp only [payloadResAt, if_pos hg, if_pos (show off + 4 ≤ n' by omega)]
      exact below_inner_cut (innerEther_mono hnn inner _) (fresh_layer 9 4 hf)
    · have := below_payloadAt (ets := ets) (vls := vls) n' off (.gre inner) (Below.refl _ _ m) hf
      simpa only [payloadResAt, if_neg hg] using this
  | ipip p => exact below_inner_cut (innerIP_mono hnn p _) hf

theorem innerIPAt_short {n off : Nat} (h : n < off) (p : IP) : innerIPAt n off p = Inner.nil := by
  cases p <;> simp only [innerIPAt] <;> rw [if_neg (by omega)]

theorem payloadResAt_short {n off : Nat} (h : n < off) (pl : Payload) (m : FlowMsg) : payloadResAt n off pl m = m := by
  cases pl with
  | l4 l => simp only [payloadResAt, l4MsgAt]; rw [if_neg (by omega)]
  | gre inner => simp only [payloadResAt]; rw [if_neg (by omega)]
  | ipip p => simp only [payloadResAt, innerIPAt_short h, Inner.nil, innerRes_nil]

theorem below_srh_srh {ets vls : List Nat} {k k' : Nat} (hk : k ≤ k') (sleft : Nat) (segs : List Bytes) (m : FlowMsg) :
    Below ets vls (srhMsgAt k sleft segs m) (srhMsgAt k' sleft segs m) := by
  have : List.take ((k - 8) / 16) segs <+: List.take ((k' - 8) / 16) segs :=
    List.take_prefix_take_left (by omega)
  simp [Below, srhMsgAt, SizesBelow.refl, List.prefix_append_right_inj, this]

theorem cut_ip {ets vls : List Nat} {n n' : Nat} (hnn : n ≤ n') (off : Nat) (p : IP) (m : FlowMsg) (hf : FreshIP m) :
    Below ets vls (ipResAt n off p m) (ipResAt n' off p m) := by
  cases p with
  | v4 tos ident fl fo ttl src dst pl =>
    by_cases hg : off + 20 ≤ n
    · simp only [ipResAt, if_pos hg, if_pos (show off + 20 ≤ n' by omega)]
      exact cut_payload hnn _ pl _ (fresh_ipMsg_l4 _ hf)
    · have := below_ipAt (ets := ets) (vls := vls) n' off (.v4 tos ident fl fo ttl src dst pl) (Below.refl _ _ m) hf
      simpa only [ipResAt, if_neg hg] using this
  | v6 tc fl hl src dst ext pl =>
    by_cases hg : off + 40 ≤ n
    case neg =>
      have := below_ipAt (ets := ets) (vls := vls) n' off (.v6 tc fl hl src dst ext pl) (Below.refl _ _ m) hf
      simpa only [ipResAt, if_neg hg] using this
    have f1 := fresh_ipMsg_ext tc fl hl src dst ext pl hf
    simp only [ipResAt, if_pos hg, if_pos (show off + 40 ≤ n' by omega)]
    cases ext with
    | none => exact cut_payload hnn _ pl _ f1.1
    | fragment fo fl3 ident =>
      simp only []
      by_cases hg2 : off + 48 ≤ n
      · rw [if_pos hg2, if_pos (show off + 48 ≤ n' by omega)]
        exact cut_payload hnn _ pl _ (fresh_extMsg _ f1)
      · rw [if_neg hg2]; split
        · exact below_payloadAt _ _ _ (below_extMsg _ (Below.refl _ _ _) f1) (fresh_extMsg _ f1)
        · exact Below.refl _ _ _
    | srh sleft le segs =>
      simp only []
      by_cases hg2 : off + 48 ≤ n
      · rw [if_pos hg2, if_pos (show off + 48 ≤ n' by omega)]
        by_cases hfull : off + 48 + 16 * segs.length ≤ n
        · have e : ∀ k, 8 + 16 * segs.length ≤ k → ∀ mm, srhMsgAt k sleft segs mm = srhMsgAt (8 + 16 * segs.length) sleft segs mm := by
            intro k hk mm
            simp only [srhMsgAt]
            rw [List.take_of_length_le (by omega), List.take_of_length_le (by omega)]
          rw [e (n - (off + 40)) (by omega), e (n' - (off + 40)) (by omega)]
          exact cut_payload hnn _ pl _ (fresh_srhAt _ _ _ f1)
        · rw [payloadResAt_short (by omega)]
          exact below_payloadAt _ _ _ (below_srh_srh (by omega) _ _ _) (fresh_srhAt _ _ _ f1)
      · rw [if_neg hg2]; split
        · exact below_payloadAt _ _ _ (below_srhAt _ _ _ (Below.refl _ _ _) f1) (fresh_srhAt _ _ _ f1)
        · exact Below.refl _ _ _

theorem below_mpls_mpls {ets vls : List Nat} {k k' : Nat} (hk : k ≤ k') (labels : List (Nat × Nat)) (m : FlowMsg) :
    Below ets vls (mplsMsgAt k labels m) (mplsMsgAt k' labels m) := by
  have hp : ∀ l : List Nat, List.take (k / 4) l <+: List.take (k' / 4) l :=
    fun l => List.take_prefix_take_left (by omega)
  have hs : SizesBelow (m.layerSize ++ [4 * (k / 4)]) (m.layerSize ++ [4 * (k' / 4)]) :=
    SizesBelow.last _ [] (by omega)
  simp [Below, mplsMsgAt, SizesBelow.refl, hp, hs]

theorem below_mpls_full {ets vls : List Nat} {k : Nat} (labels : List (Nat × Nat)) (hk : k ≤ 4 * labels.length)
    (et : Nat) (m : FlowMsg) (he : EtypeOK ets m) :
    Below ets vls (mplsMsgAt k labels m) (mplsMsg labels et m) := by
  have hp : ∀ l : List Nat, List.take (k / 4) l <+: l := fun l => List.take_prefix _ _
  have hs : SizesBelow (m.layerSize ++ [4 * (k / 4)]) (m.layerSize ++ [4 * labels.length]) :=
    SizesBelow.last _ [] (by omega)
  have he' : m.etype = 0 ∨ m.etype = et ∨ m.etype ∈ ets := by
    rcases he with h | h
    · exact Or.inl h
    · exact Or.inr (Or.inr h)
  simp [Below, mplsMsgAt, mplsMsg, SizesBelow.refl, hp, hs, he']

theorem cut_ep {ets vls : List Nat} {n n' : Nat} (hnn : n ≤ n') (off : Nat) (ep : EtherPayload) (m : FlowMsg)
    (hf : FreshMpls m) (he : isMpls ep → EtypeOK ets m) :
    Below ets vls (epResAt n off ep m) (epResAt n' off ep m) := by
  cases ep with
  | ip p => exact cut_ip hnn off p m hf.1
  | raw t b => exact Below.refl _ _ _
  | mpls labels p =>
    by_cases hg : off + 4 ≤ n
    case neg =>
      have := below_epAt (ets := ets) (vls := vls) n' off (.mpls labels p) (Below.refl _ _ m) hf he
      simpa only [epResAt, if_neg hg] using this
    simp only [epResAt, if_pos hg, if_pos (show off + 4 ≤ n' by omega)]
    by_cases hg2 : off + 4 * labels.length < n
    · rw [if_pos hg2, if_pos (show off + 4 * labels.length < n' by omega)]
      exact cut_ip hnn _ p _ (fresh_mplsMsg _ _ hf)
    · rw [if_neg hg2]; split
      · exact below_ipAt _ _ _ (below_mpls_full labels (by omega) _ m (he trivial)) (fresh_mplsMsg _ _ hf)
      · exact below_mpls_mpls (by omega) labels m

theorem cut_vlans {ets vls : List Nat} {n n' : Nat} (hnn : n ≤ n') (ep : EtherPayload) (hC : isMpls ep → 0x8847 ∈ ets) :
    ∀ (vs : List Nat) (off : Nat) (m : FlowMsg), FreshMpls m →
      ((vs ≠ [] ∨ isMpls ep) → EtypeOK ets m) → VlanOK vls m → (∀ x ∈ vs, x ∈ vls) → (vs ≠ [] → 0x8100 ∈ ets) →
      Below ets vls (vlansResAt n off ep vs m) (vlansResAt n' off ep vs m)
  | [], off, m, hf, he, _, _, _ => by
    simp only [vlansResAt]
    exact cut_ep hnn off ep m hf (fun hm => he (Or.inr hm))
  | v :: vs, off, m, hf, he, hv, hA, hB => by
    by_cases hg : off + 4 ≤ n
    · rw [vlansResAt_cons, vlansResAt_cons, if_pos hg, if_pos (show off + 4 ≤ n' by omega)]
      refine cut_vlans hnn ep hC vs (off + 4) _ (fresh_tag _ _ hf) ?_ (Or.inr (hA v (by simp)))
        (fun x hx => hA x (by simp [hx])) (fun _ => hB (by simp))
      intro hcase
      cases vs with
      | nil =>
        rcases hcase with hcase | hcase
        · exact absurd rfl hcase
        · right
          cases ep with
          | mpls labels p => simpa [tagMsg, l2Etype, etherType] using hC trivial
          | ip p => exact hcase.elim
          | raw t b => exact hcase.elim
      | cons w ws => right; simpa [tagMsg, l2Etype] using hB (by simp)
    · have := below_vlansAt (ets := ets) (vls := vls) n' ep hC (v :: vs) off m m (Below.refl _ _ m) hf he hv hA hB
      rw [vlansResAt_cons n, if_neg hg]
      exact this

theorem below_empty (ets vls : List Nat) (m : FlowMsg) : Below ets vls FlowMsg.empty m := by
  simp [Below, FlowMsg.empty, SizesBelow]

/-- **a longer capture never contradicts a shorter one**: what `n` bytes report is `Below` what `n' ≥ n` bytes report -/
theorem expectedAt_mono (f : Frame) {n n' : Nat} (hnn : n ≤ n') :
    Below (outerEtypes f) f.vlans (expectedAt f n) (expectedAt f n') := by
  obtain ⟨d, s, vs, ep⟩ := f
  simp only [expectedAt]
  by_cases hg : 14 ≤ n
  · rw [if_pos hg, if_pos (show 14 ≤ n' by omega)]
    refine cut_vlans hnn ep ?_ vs 14 _ ?_ ?_ ?_ (fun x hx => hx) ?_
    · intro h; cases ep <;> simp [isMpls] at h; simp [outerEtypes]
    · simp [FreshMpls, FreshIP, FreshExt, FreshL4, ethMsg, FlowMsg.empty]
    · intro hcase
      right
      cases vs with
      | nil =>
        rcases hcase with hcase | hcase
        · exact absurd rfl hcase
        · cases ep <;> simp [isMpls] at hcase; simp [outerEtypes, l2Etype, etherType]
      | cons v vs => simp [outerEtypes, l2Etype]
    · left; simp [ethMsg, FlowMsg.empty]
    · intro h; cases vs with
      | nil => exact absurd rfl h
      | cons v vs => simp [outerEtypes]
  · rw [if_neg hg]; exact below_empty _ _ _

theorem expectedAt_below (cfg : Config) (hcfg : cfg.layers = []) (f : Frame) (h : FrameWFIn cfg.ports f) {n : Nat}
    (hn : n ≤ (bytes f).length) : Below (outerEtypes f) f.vlans (expectedAt f n) (expectedMsg f) := by
  rw [← expectedAt_full cfg hcfg f h]
  exact expectedAt_mono f hn

/-- **C10, truncated capture.** When only the first `n` bytes of a well-formed frame are captured (any `n`), the
    dissector succeeds and every column it reports equals the value the complete frame reports (`expectedMsg f`, the
    frame's true values by `full_capture`) or is left unset; the list columns (layer stack, MPLS labels / TTLs,
    segment list) are prefixes of the complete lists; the last layer size may be smaller than the true one;
    `Etype` / `VlanId` may be those of an outer L2 header of the frame. For every configuration without layer
    mappings whose registered ports the frame's L4 ports do not hit. -/
theorem trunc_capture_cfg_below (cfg : Config) (hcfg : cfg.layers = []) (f : Frame) (h : FrameWFIn cfg.ports f) (n : Nat) :
    ∃ m, parsePacket cfg FlowMsg.empty ((bytes f).take n) = .ok m ∧
      Below (outerEtypes f) f.vlans m (expectedMsg f) := by
  by_cases hn : n ≤ (bytes f).length
  · exact ⟨expectedAt f n, trunc_capture_cfg cfg hcfg f h n hn, expectedAt_below cfg hcfg f h hn⟩
  · rw [List.take_of_length_le (by omega)]
    exact ⟨expectedMsg f, full_capture_cfg cfg hcfg f h, Below.refl _ _ _⟩

/-- the default environment: no registered ports -/
theorem trunc_capture_eq (f : Frame) (h : FrameWF f) (n : Nat) (hn : n ≤ (bytes f).length) :
    parsePacket {} FlowMsg.empty ((bytes f).take n) = .ok (expectedAt f n) :=
  trunc_capture_cfg {} rfl f h n hn

/-- **C10, truncated capture**, every well-formed frame of the grammar in the default environment -/
theorem trunc_capture (f : Frame) (h : FrameWF f) (n : Nat) :
    ∃ m, parsePacket {} FlowMsg.empty ((bytes f).take n) = .ok m ∧
      Below (outerEtypes f) f.vlans m (expectedMsg f) :=
  trunc_capture_cfg_below {} rfl f h n

theorem trunc_plain (f : Frame) (h : PlainWF f) (n : Nat) :
    ∃ m, parsePacket {} FlowMsg.empty ((bytes f).take n) = .ok m ∧
      Below (outerEtypes f) f.vlans m (expectedMsg f) :=
  trunc_capture f (PlainWFIn.wf h) n

theorem trunc_tunnel (f : Frame) (h : TunnelWF f) (n : Nat) :
    ∃ m, parsePacket {} FlowMsg.empty ((bytes f).take n) = .ok m ∧
      Below (outerEtypes f) f.vlans m (expectedMsg f) :=
  trunc_capture f h.1 n

/-- `sampleTunnel` (102 bytes) cut inside the tunnelled label stack: the outer columns are there, the tunnelled MPLS
    layer is reported with the one label captured, nothing of the tunnelled IPv4 / ICMP headers -/
example : (bytes sampleTunnel).length = 102 ∧
    (expectedAt sampleTunnel 70).layerStack = [0, 2, 11, 9, 5] ∧ (expectedAt sampleTunnel 70).layerSize = [14, 40, 8, 4, 4] ∧
    (expectedAt sampleTunnel 70).fragmentId = 77 ∧ (expectedAt sampleTunnel 70).icmpType = 0 ∧
    (expectedMsg sampleTunnel).layerSize = [14, 40, 8, 4, 8, 20, 8] := by decide

example : parsePacket {} FlowMsg.empty ((bytes sampleTunnel).take 70) = .ok (expectedAt sampleTunnel 70) :=
  trunc_capture_eq sampleTunnel sampleTunnel_wf.1 70 (by decide)

example : Below (outerEtypes sampleTunnel) sampleTunnel.vlans (expectedAt sampleTunnel 70) (expectedMsg sampleTunnel) :=
  expectedAt_below {} rfl sampleTunnel sampleTunnel_wf.1 (by decide)

/-- `sampleFrame` cut inside the second tag: the ethertype reported is that of the first tag -/
example : (expectedAt sampleFrame 20).etype = 0x8100 ∧ (expectedAt sampleFrame 20).vlanId = 100 ∧
    (expectedMsg sampleFrame).etype = 0x86dd ∧ (expectedMsg sampleFrame).vlanId = 200 ∧
    outerEtypes sampleFrame = [0x8100] := by decide

/-- `Below` discriminates: a wrong port, a layer too many, a size that is not the true one are not `Below` -/
example : ¬ Below [] [] { srcPort := 5 } { srcPort := 6 } ∧
    ¬ Below [] [] { layerStack := [0, 1] } { layerStack := [0, 2] } ∧
    ¬ Below [] [] { layerSize := [14, 21] } { layerSize := [14, 20, 8] } ∧
    ¬ Below [] [] { layerSize := [13, 20] } { layerSize := [14, 20, 8] } ∧
    Below [] [] { layerSize := [14, 4] } { layerSize := [14, 8, 20] } := by decide

def Bal (m : FlowMsg) : Prop := m.layerSize.length = m.layerStack.length

theorem bal_layer {m : FlowMsg} (v s : Nat) (h : Bal m) :
    Bal { m with layerStack := m.layerStack ++ [v], layerSize := m.layerSize ++ [s] } := by
  simp only [Bal, List.length_append, List.length_cons, List.length_nil] at h ⊢; omega

theorem bal_l4At {m : FlowMsg} (n off : Nat) (l : L4) (h : Bal m) : Bal (l4MsgAt n off l m) := by
  unfold l4MsgAt; split
  · cases l <;> simp only [l4Msg, Bal, List.length_append, List.length_cons, List.length_nil] at h ⊢ <;> omega
  · exact h

theorem bal_inner {m : FlowMsg} (layers : List (Nat × Nat)) (icmp : Option (Nat × Nat)) (h : Bal m) :
    Bal (innerRes layers icmp m) := by
  cases icmp <;> simp only [innerRes, Bal, List.length_append, List.length_map, List.length_cons, List.length_nil] at h ⊢ <;> omega

theorem bal_payloadAt {m : FlowMsg} (n off : Nat) (pl : Payload) (h : Bal m) : Bal (payloadResAt n off pl m) := by
  cases pl with
  | l4 l => exact bal_l4At n off l h
  | gre inner => simp only [payloadResAt]; split; exact bal_inner _ _ (bal_layer 9 4 h); exact h
  | ipip p => exact bal_inner _ _ h

theorem bal_ipMsg {m : FlowMsg} (p : IP) (h : Bal m) : Bal (ipMsg p m) := by
  cases p <;> simp only [ipMsg, Bal, List.length_append, List.length_cons, List.length_nil] at h ⊢ <;> omega

theorem bal_ipAt {m : FlowMsg} (n off : Nat) (p : IP) (h : Bal m) : Bal (ipResAt n off p m) := by
  have h1 := bal_ipMsg p h
  cases p with
  | v4 tos ident fl fo ttl src dst pl =>
    simp only [ipResAt]; split
    · exact bal_payloadAt _ _ _ h1
    · exact h
  | v6 tc fl hl src dst ext pl =>
    simp only [ipResAt]; split
    · cases ext with
      | none => exact bal_payloadAt _ _ _ h1
      | fragment fo fl3 ident =>
        simp only []; split
        · exact bal_payloadAt _ _ _ (by simp only [extMsg, Bal, List.length_append, List.length_cons, List.length_nil] at h1 ⊢; omega)
        · exact h1
      | srh sleft le segs =>
        simp only []; split
        · exact bal_payloadAt _ _ _ (by simp only [srhMsgAt, Bal, List.length_append, List.length_cons, List.length_nil] at h1 ⊢; omega)
        · exact h1
    · exact h

theorem bal_epAt {m : FlowMsg} (n off : Nat) (ep : EtherPayload) (h : Bal m) : Bal (epResAt n off ep m) := by
  cases ep with
  | ip p => exact bal_ipAt n off p h
  | raw t b => exact h
  | mpls labels p =>
    simp only [epResAt]; split
    · split
      · exact bal_ipAt _ _ _ (by simp only [mplsMsg, Bal, List.length_append, List.length_cons, List.length_nil] at h ⊢; omega)
      · simp only [mplsMsgAt, Bal, List.length_append, List.length_cons, List.length_nil] at h ⊢; omega
    · exact h

theorem bal_vlansAt (n : Nat) (ep : EtherPayload) : ∀ (vs : List Nat) (off : Nat) (m : FlowMsg), Bal m →
    Bal (vlansResAt n off ep vs m)
  | [], off, m, h => by simp only [vlansResAt]; exact bal_epAt n off ep h
  | v :: vs, off, m, h => by
    rw [vlansResAt_cons]; split
    · exact bal_vlansAt n ep vs _ _ (by simp only [tagMsg, Bal, List.length_append, List.length_cons, List.length_nil] at h ⊢; omega)
    · exact h

theorem expectedAt_bal (f : Frame) (n : Nat) :
    (expectedAt f n).layerSize.length = (expectedAt f n).layerStack.length := by
  simp only [expectedAt]; split
  · exact bal_vlansAt n _ _ _ _ (by simp [Bal, ethMsg, FlowMsg.empty])
  · rfl

/-- **C10, truncated capture: one layer size per reported layer.** (The tree before the `fix:` commits appended a
    size for a header it had not recognised.) -/
theorem trunc_capture_sizes (f : Frame) (h : FrameWF f) (n : Nat) :
    ∃ m, parsePacket {} FlowMsg.empty ((bytes f).take n) = .ok m ∧ m.layerSize.length = m.layerStack.length := by
  by_cases hn : n ≤ (bytes f).length
  · exact ⟨expectedAt f n, trunc_capture_eq f h n hn, expectedAt_bal f n⟩
  · rw [List.take_of_length_le (by omega)]
    refine ⟨expectedMsg f, full_capture f h, ?_⟩
    rw [← expectedAt_full {} rfl f h]
    exact expectedAt_bal f _

end Goflow.C10
