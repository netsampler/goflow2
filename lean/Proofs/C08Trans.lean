import Goflow.Generated.NumbersT
import Goflow.Decoders.Netflow
import Goflow.Producer.Legacy
import Proofs.Lemmas.GoPrims
/-!
  C08 (translation tie) — DecodeUNumber / DecodeUNumberLE / WriteUDecoded (producer_nf.go),
  ConvertNetFlowLegacyRecord (producer_nflegacy.go) and templateKey (decoders/netflow/templates.go), regenerated
  into Lean on every run by extract/translate.go (Goflow/Generated/NumbersT.lean), are equal to the hand-written
  models of Goflow/Producer/Numbers.lean, Goflow/Producer/Legacy.lean and Goflow/Decoders/Netflow.lean:
  no panic, the loops end within their fuel, same value / same error.
-/
set_option linter.unusedSimpArgs false
namespace Goflow.C08Trans
open Goflow Goflow.Producer Goflow.Generated Goflow.Go

theorem templateKey_eq (v : UInt16) (o : UInt32) (t : UInt16) :
    TN.templateKey v o t = .ok (UInt64.ofNat (Netflow.templateKey v.toNat o.toNat t.toNat)) := by
  unfold TN.templateKey Netflow.templateKey
  congr 1
  rw [← UInt64.toNat_inj]
  have hv := v.toNat_lt; have ho := o.toNat_lt; have ht := t.toNat_lt
  simp [shl64_toNat]
  -- the three fields occupy disjoint bit ranges (48.., 16..47, 0..15), so `|||` adds them
  rw [or3 _ _ _ (by omega) (by omega) (by omega)]
  omega

def recOf (r : TN.RecordsNetFlowV5) : V5.Record :=
  { srcAddr := r.SrcAddr.toNat, dstAddr := r.DstAddr.toNat, nextHop := r.NextHop.toNat, input := r.Input.toNat,
    output := r.Output.toNat, dPkts := r.DPkts.toNat, dOctets := r.DOctets.toNat, first := r.First.toNat,
    last := r.Last.toNat, srcPort := r.SrcPort.toNat, dstPort := r.DstPort.toNat, pad1 := r.Pad1.toNat,
    tcpFlags := r.TCPFlags.toNat, proto := r.Proto.toNat, tos := r.Tos.toNat, srcAS := r.SrcAS.toNat,
    dstAS := r.DstAS.toNat, srcMask := r.SrcMask.toNat, dstMask := r.DstMask.toNat, pad2 := r.Pad2.toNat }

/-- unsigned subtraction wraps: the form the models use -/
theorem toNat_sub32 (a b : UInt32) : (a - b).toNat = (a.toNat + 2 ^ 32 - b.toNat) % 2 ^ 32 := by
  rw [UInt32.toNat_sub, Nat.add_comm a.toNat, Nat.sub_add_comm (Nat.le_of_lt b.toNat_lt)]

theorem toNat_sub64 (a b : UInt64) : (a - b).toNat = (a.toNat + 2 ^ 64 - b.toNat) % 2 ^ 64 := by
  rw [UInt64.toNat_sub, Nat.add_comm a.toNat, Nat.sub_add_comm (Nat.le_of_lt b.toNat_lt)]

/-- milliseconds of a 32-bit counter, in nanoseconds, fit 64 bits -/
theorem toNat_ms (n : Nat) (hn : n < 4294967296) : (UInt64.ofNat n * 1000000).toNat = n * 1000000 := by
  have h : n * 1000000 < 4294967296000000 := Nat.mul_lt_mul_of_pos_right hn (by decide)
  rw [UInt64.toNat_mul, UInt64.toNat_ofNat', Nat.mod_eq_of_lt (Nat.lt_trans hn (by decide))]
  exact Nat.mod_eq_of_lt (Nat.lt_trans h (by decide))

theorem widen8_32 (x : UInt8) : (UInt32.ofNat x.toNat).toNat = x.toNat := by
  rw [UInt32.toNat_ofNat']; exact Nat.mod_eq_of_lt (Nat.lt_trans x.toNat_lt (by decide))

theorem widen16_32 (x : UInt16) : (UInt32.ofNat x.toNat).toNat = x.toNat := by
  rw [UInt32.toNat_ofNat']; exact Nat.mod_eq_of_lt (Nat.lt_trans x.toNat_lt (by decide))

theorem widen32_64 (x : UInt32) : (UInt64.ofNat x.toNat).toNat = x.toNat := by
  rw [UInt64.toNat_ofNat']; exact Nat.mod_eq_of_lt (Nat.lt_trans x.toNat_lt (by decide))

/-- `baseTime - uint64(uptime - t) * 1e6` -/
theorem v5_time (baseTime : UInt64) (uptime t : UInt32) :
    (baseTime - UInt64.ofNat (uptime - t).toNat * 1000000).toNat =
      (baseTime.toNat + 2 ^ 64 - (uptime.toNat + U32 - t.toNat) % U32 * 1000000) % 2 ^ 64 := by
  rw [toNat_sub64, toNat_ms _ (uptime - t).toNat_lt, toNat_sub32]; rfl

theorem convertLegacyRecord_eq (baseTime : UInt64) (uptime : UInt32) (r : TN.RecordsNetFlowV5) :
    TN.ConvertNetFlowLegacyRecord FlowMsg.empty baseTime uptime r =
      .ok (convertLegacyRecord baseTime.toNat uptime.toNat (recOf r)) := by
  have hput : ∀ x : UInt32, Go.putU32 (List.replicate 4 0) x = .ok (encBE 4 x.toNat) := fun x => by
    simp [Go.putU32]
  unfold TN.ConvertNetFlowLegacyRecord convertLegacyRecord
  simp only [Go.makeBytes, ok_bind, hput, v5_time, widen8_32, widen16_32, widen32_64]
  rfl

theorem mul8_toNat (k : Nat) (hk : k < 8) : ((8 : UInt64) * UInt64.ofNat k).toNat = 8 * k := by
  rw [show (8 : UInt64) = UInt64.ofNat 8 from rfl, ← UInt64.ofNat_mul]
  exact UInt64.toNat_ofNat_of_lt' (Nat.lt_trans (Nat.mul_lt_mul_of_pos_left hk (by decide)) (by decide))

theorem be_loop (b : Bytes) (hl : b.length < 8) : ∀ (fuel rng : Nat) (o : UInt64),
    rng ≤ b.length → b.length - rng < fuel →
    TN.DecodeUNumber_loop1 b b.length b.length fuel o (UInt64.ofNat rng) rng =
      .ok (UInt64.ofNat (shiftLoopBE b.length (b.drop rng) rng o.toNat), UInt64.ofNat b.length, b.length) := by
  intro fuel
  induction fuel with
  | zero => intro rng o h1 h2; omega
  | succ fuel ih =>
    intro rng o h1 h2
    rw [TN.DecodeUNumber_loop1]
    by_cases hr : rng < b.length
    · have hd : b.drop rng = b[rng] :: b.drop (rng + 1) := List.drop_eq_getElem_cons hr
      have hi : UInt64.ofNat rng + 1 = UInt64.ofNat (rng + 1) := (UInt64.ofNat_add rng 1).symm
      have hc : ((8 : UInt64) * (UInt64.ofNat b.length - UInt64.ofNat rng - 1)).toNat = 8 * (b.length - rng - 1) := by
        rw [← UInt64.ofNat_sub (Nat.le_of_lt hr), ← UInt64.ofNat_one, ← UInt64.ofNat_sub (by omega)]
        exact mul8_toNat _ (by omega)
      simp only [hr, decide_true, if_true, idx_getElem hr, ok_bind, hi, hc]
      rw [ih (rng + 1) _ (by omega) (by omega), hd, shiftLoopBE]
      rw [UInt64.toNat_or, shl64_byte _ _ (by omega)]
    · have : rng = b.length := by omega
      subst this
      simp [shiftLoopBE]

theorem le_loop (b : Bytes) (hl : b.length < 8) : ∀ (fuel rng : Nat) (o : UInt64),
    rng ≤ b.length → b.length - rng < fuel →
    TN.DecodeUNumberLE_loop1 b b.length fuel o (UInt64.ofNat rng) rng =
      .ok (UInt64.ofNat (shiftLoopLE (b.drop rng) rng o.toNat), UInt64.ofNat b.length, b.length) := by
  intro fuel
  induction fuel with
  | zero => intro rng o h1 h2; omega
  | succ fuel ih =>
    intro rng o h1 h2
    rw [TN.DecodeUNumberLE_loop1]
    by_cases hr : rng < b.length
    · have hd : b.drop rng = b[rng] :: b.drop (rng + 1) := List.drop_eq_getElem_cons hr
      have hi : UInt64.ofNat rng + 1 = UInt64.ofNat (rng + 1) := (UInt64.ofNat_add rng 1).symm
      have hc : ((8 : UInt64) * UInt64.ofNat rng).toNat = 8 * rng := mul8_toNat _ (by omega)
      simp only [hr, decide_true, if_true, idx_getElem hr, ok_bind, hi, hc]
      rw [ih (rng + 1) _ (by omega) (by omega), hd, shiftLoopLE]
      rw [UInt64.toNat_or, shl64_byte _ _ (by omega)]
    · have : rng = b.length := by omega
      subst this
      simp [shiftLoopLE]

theorem writeUDecoded_u8 (o : UInt64) (v : UInt8) : TN.WriteUDecoded o (.u8 v) = .ok (.u8 (UInt8.ofNat o.toNat)) := rfl

theorem writeUDecoded_u16 (o : UInt64) (v : UInt16) : TN.WriteUDecoded o (.u16 v) = .ok (.u16 (UInt16.ofNat o.toNat)) := rfl

theorem writeUDecoded_u32 (o : UInt64) (v : UInt32) : TN.WriteUDecoded o (.u32 v) = .ok (.u32 (UInt32.ofNat o.toNat)) := rfl

theorem writeUDecoded_u64 (o : UInt64) (v : UInt64) : TN.WriteUDecoded o (.u64 v) = .ok (.u64 o) := rfl

theorem writeUDecoded_other (o : UInt64) : TN.WriteUDecoded o .other = .error .bad := rfl

/-- DecodeUNumber up to the final store: the accumulator is the model's raw value -/
theorem decodeUNumber_raw (b : Bytes) (out : Go.Cell) :
    TN.DecodeUNumber b out =
      match decodeUNumberRaw b with
      | .ok v => TN.WriteUDecoded (UInt64.ofNat v) out
      | .error e => .error e := by
  unfold TN.DecodeUNumber decodeUNumberRaw
  have hb := beNat_lt b
  by_cases h1 : b.length = 1
  · match b, h1 with
    | [x], _ => simp [Go.idx, beNat]
  by_cases h2 : b.length = 2
  · rw [h2] at hb
    simp [h2, Go.beU16, List.take_of_length_le (Nat.le_of_eq h2), widen16 hb]
  by_cases h4 : b.length = 4
  · rw [h4] at hb
    simp [h4, Go.beU32, List.take_of_length_le (Nat.le_of_eq h4), widen32 hb]
  by_cases h8 : b.length = 8
  · simp [h8, Go.beU64, List.take_of_length_le (Nat.le_of_eq h8)]
  by_cases hl : b.length < 8
  · have := be_loop b hl (b.length + 1) 0 0 (by omega) (by omega)
    simp only [show UInt64.ofNat 0 = 0 from rfl, List.drop_zero, show UInt64.toNat 0 = 0 from rfl] at this
    simp [h1, h2, h4, h8, hl, this]
  · simp [h1, h2, h4, h8, hl, Go.retCell]

theorem decodeUNumberLE_raw (b : Bytes) (out : Go.Cell) :
    TN.DecodeUNumberLE b out =
      match decodeUNumberLERaw b with
      | .ok v => TN.WriteUDecoded (UInt64.ofNat v) out
      | .error e => .error e := by
  unfold TN.DecodeUNumberLE decodeUNumberLERaw
  have hb : leNat b < 256 ^ b.length := leNat_lt b
  by_cases h1 : b.length = 1
  · match b, h1 with
    | [x], _ => simp [Go.idx, leNat]
  by_cases h2 : b.length = 2
  · rw [h2] at hb
    simp [h2, Go.leU16, List.take_of_length_le (Nat.le_of_eq h2), widen16 hb]
  by_cases h4 : b.length = 4
  · rw [h4] at hb
    simp [h4, Go.leU32, List.take_of_length_le (Nat.le_of_eq h4), widen32 hb]
  by_cases h8 : b.length = 8
  · simp [h8, Go.leU64, List.take_of_length_le (Nat.le_of_eq h8)]
  by_cases hl : b.length < 8
  · have := le_loop b hl (b.length + 1) 0 0 (by omega) (by omega)
    simp only [show UInt64.ofNat 0 = 0 from rfl, List.drop_zero, show UInt64.toNat 0 = 0 from rfl] at this
    simp [h1, h2, h4, h8, hl, this]
  · simp [h1, h2, h4, h8, hl, Go.retCell]

/-- both raw decoders end in `else error`: an error of theirs is that one -/
theorem err_of_ite {c c' : Prop} [Decidable c] [Decidable c'] {x y : Nat} {e : Err}
    (h : (if c then .ok x else if c' then .ok y else .error .bad : Res Nat) = .error e) : e = .bad := by
  split at h
  · cases h
  · split at h
    · cases h
    · cases h; rfl

/-- from the accumulator to the stored value: `WriteUDecoded` truncates as the model's `% 2 ^ bits` does -/
theorem trans_of_raw {dec : Go.Cell → Res Go.Cell} {raw : Res Nat} {model : Nat → Res Nat}
    (hdec : ∀ out, dec out = match (generalizing := false) raw with | .ok v => TN.WriteUDecoded (UInt64.ofNat v) out | .error e => .error e)
    (herr : ∀ e, raw = .error e → e = .bad)
    (hmodel : ∀ bits, model bits = match (generalizing := false) raw with | .ok v => .ok (v % 2 ^ bits) | .error e => .error e) :
    (∀ v, dec (.u8 v) = (model 8).map fun n => .u8 (UInt8.ofNat n)) ∧
    (∀ v, dec (.u16 v) = (model 16).map fun n => .u16 (UInt16.ofNat n)) ∧
    (∀ v, dec (.u32 v) = (model 32).map fun n => .u32 (UInt32.ofNat n)) ∧
    (∀ v, dec (.u64 v) = (model 64).map fun n => .u64 (UInt64.ofNat n)) ∧
    dec .other = .error .bad := by
  simp only [hdec, hmodel]
  cases h : raw with
  | error e =>
    cases herr e h
    simp [Except.map]
  | ok x =>
    simp [Except.map, writeUDecoded_u8, writeUDecoded_u16, writeUDecoded_u32, writeUDecoded_u64, writeUDecoded_other,
      trunc8, trunc16, trunc32]
    exact trunc64 x

theorem decodeUNumber_trans_eq (b : Bytes) :
    (∀ v, TN.DecodeUNumber b (.u8 v) = (decodeUNumber 8 b).map fun n => .u8 (UInt8.ofNat n)) ∧
    (∀ v, TN.DecodeUNumber b (.u16 v) = (decodeUNumber 16 b).map fun n => .u16 (UInt16.ofNat n)) ∧
    (∀ v, TN.DecodeUNumber b (.u32 v) = (decodeUNumber 32 b).map fun n => .u32 (UInt32.ofNat n)) ∧
    (∀ v, TN.DecodeUNumber b (.u64 v) = (decodeUNumber 64 b).map fun n => .u64 (UInt64.ofNat n)) ∧
    TN.DecodeUNumber b .other = .error .bad :=
  trans_of_raw (model := fun bits => decodeUNumber bits b) (decodeUNumber_raw b) (fun _ h => err_of_ite h) fun bits => by
    unfold decodeUNumber; cases decodeUNumberRaw b <;> rfl

theorem decodeUNumberLE_trans_eq (b : Bytes) :
    (∀ v, TN.DecodeUNumberLE b (.u8 v) = (decodeUNumberLE 8 b).map fun n => .u8 (UInt8.ofNat n)) ∧
    (∀ v, TN.DecodeUNumberLE b (.u16 v) = (decodeUNumberLE 16 b).map fun n => .u16 (UInt16.ofNat n)) ∧
    (∀ v, TN.DecodeUNumberLE b (.u32 v) = (decodeUNumberLE 32 b).map fun n => .u32 (UInt32.ofNat n)) ∧
    (∀ v, TN.DecodeUNumberLE b (.u64 v) = (decodeUNumberLE 64 b).map fun n => .u64 (UInt64.ofNat n)) ∧
    TN.DecodeUNumberLE b .other = .error .bad :=
  trans_of_raw (model := fun bits => decodeUNumberLE bits b) (decodeUNumberLE_raw b) (fun _ h => err_of_ite h) fun bits => by
    unfold decodeUNumberLE; cases decodeUNumberLERaw b <;> rfl

end Goflow.C08Trans
