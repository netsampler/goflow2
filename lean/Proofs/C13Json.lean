import Goflow.Format.Formatter
/-! JSON well-formedness of what the formatter writes: string literals (every byte string) -/
namespace Goflow.C13
open Goflow Goflow.Format Goflow.Spec.Json

theorem strBody_plain (b : UInt8) (t : List UInt8) (h1 : b ≠ 0x22) (h2 : b ≠ 0x5c) (h3 : ¬ b < 0x20) :
    strBody (b :: t) = strBody t := by
  rw [strBody.eq_def]; simp [h1, h2, h3]

theorem strBody_simple (e : UInt8) (t : List UInt8) (h : isSimpleEscape e = true) :
    strBody (0x5c :: e :: t) = strBody t := by
  rw [strBody.eq_def]; simp [h]

theorem strBody_u (a b c d : UInt8) (t : List UInt8) (ha : isHex a = true) (hb : isHex b = true) (hc : isHex c = true) (hd : isHex d = true) :
    strBody (0x5c :: 0x75 :: a :: b :: c :: d :: t) = strBody t := by
  rw [strBody.eq_def]
  have : isSimpleEscape 0x75 = false := by decide
  simp [this, ha, hb, hc, hd]

theorem strBody_quote (t : List UInt8) : strBody (0x22 :: t) = some t := by
  rw [strBody.eq_def]; simp

theorem hexDigit_isHex : ∀ k : Fin 16, isHex (UInt8.ofNat (hexDigit k.val).toNat) = true := by decide

theorem hexByte_isHex (n : Nat) (hn : n < 256) : ∃ a b, hexByte n = [a, b] ∧ isHex a = true ∧ isHex b = true := by
  refine ⟨_, _, rfl, ?_, ?_⟩
  · exact hexDigit_isHex ⟨n / 16, by omega⟩
  · exact hexDigit_isHex ⟨n % 16, Nat.mod_lt _ (by decide)⟩

/-- bytes that stand for themselves inside a JSON string -/
def plain (b : UInt8) : Prop := b ≠ 0x22 ∧ b ≠ 0x5c ∧ ¬ b < 0x20

theorem strBody_plains (enc t : List UInt8) (h : ∀ x ∈ enc, plain x) : strBody (enc ++ t) = strBody t := by
  induction enc with
  | nil => rfl
  | cons x xs ih =>
    have hx := h x (by simp)
    rw [List.cons_append, strBody_plain x _ hx.1 hx.2.1 hx.2.2]
    exact ih (fun y hy => h y (by simp [hy]))

theorem ascii_escape_ok (b : UInt8) (t : List UInt8) :
    strBody (escapeOrSelf b ++ t) = strBody t := by
  unfold escapeOrSelf
  fun_cases asciiEscape b
  case case1 h => exact strBody_simple b t (by rcases h with rfl | rfl <;> decide)
  case case7 =>
    obtain ⟨x, y, hxy, hx, hy⟩ := hexByte_isHex b.toNat (UInt8.toNat_lt b)
    simp only [hxy]
    exact strBody_u 0x30 0x30 x y t (by decide) (by decide) hx hy
  case case8 h1 _ _ _ _ _ h7 =>
    exact strBody_plain b t (fun h => h1 (Or.inl h)) (fun h => h1 (Or.inr h)) (fun h => h7 (Or.inl h))
  all_goals exact strBody_simple _ t (by decide)

theorem plain_of_hi (x : UInt8) (h : 0x80 ≤ x) : plain x := by
  have hn : 128 ≤ x.toNat := by simpa [UInt8.le_iff_toNat_le] using h
  refine ⟨?_, ?_, ?_⟩
  · intro e; subst e; simp at hn
  · intro e; subst e; simp at hn
  · intro hl
    have : x.toNat < 32 := by simpa [UInt8.lt_iff_toNat_lt] using hl
    omega

theorem hi_of_isCont (x : UInt8) (h : isCont x = true) : 0x80 ≤ x := by
  unfold isCont at h; simp at h; exact h.1

theorem hi_trans (a x : UInt8) (ha : 0x80 ≤ a) (h : a ≤ x) : 0x80 ≤ x := UInt8.le_trans ha h

/-- a valid multi-byte encoding consists of bytes ≥ 0x80 only -/
theorem utf8_plain (bs : Bytes) (h : utf8Size bs ≠ 0) : ∀ x ∈ bs.take (utf8Size bs), plain x := by
  fun_cases utf8Size bs <;> intro x hx <;>
    simp only [List.take_succ_cons, List.take_zero, List.mem_cons, List.not_mem_nil, or_false] at hx
  case case1 h0 _ _ hc =>
    rcases hx with rfl | rfl
    · exact plain_of_hi _ (hi_trans 0xC2 _ (by decide) h0.1)
    · exact plain_of_hi _ (hi_of_isCont _ hc)
  case case4 h0 _ _ _ lo _ hc =>
    have hlo : 0x80 ≤ lo := by show (0x80 : UInt8) ≤ if _ then _ else _; split <;> decide
    rcases hx with rfl | rfl | rfl
    · exact plain_of_hi _ (hi_trans 0xE0 _ (by decide) h0.1)
    · exact plain_of_hi _ (hi_trans _ _ hlo hc.1)
    · exact plain_of_hi _ (hi_of_isCont _ hc.2.2)
  case case7 h0 _ _ _ _ lo _ hc =>
    have hlo : 0x80 ≤ lo := by show (0x80 : UInt8) ≤ if _ then _ else _; split <;> decide
    rcases hx with rfl | rfl | rfl | rfl
    · exact plain_of_hi _ (hi_trans 0xF0 _ (by decide) h0.1)
    · exact plain_of_hi _ (hi_trans _ _ hlo hc.1)
    · exact plain_of_hi _ (hi_of_isCont _ hc.2.2.1)
    · exact plain_of_hi _ (hi_of_isCont _ hc.2.2.2)
/-- whatever bytes a rendered value consists of, the escaped body followed by the closing quote is read by the JSON
    string recogniser up to exactly that quote -/
theorem jsonQuoteBody_closed (fuel : Nat) (bs t : Bytes) :
    strBody (jsonQuoteBody fuel bs ++ 0x22 :: t) = some t := by
  induction fuel generalizing bs with
  | zero => simp [jsonQuoteBody, strBody_quote]
  | succ n ih =>
    cases bs with
    | nil => simp [jsonQuoteBody, strBody_quote]
    | cons b rest =>
      unfold jsonQuoteBody
      by_cases hb : b < 0x80
      · simp only [hb, if_true, List.append_assoc]
        rw [ascii_escape_ok]
        exact ih rest
      · simp only [hb, if_false]
        by_cases hn : utf8Size (b :: rest) = 0
        · simp only [hn, if_true, List.append_assoc]
          rw [show ([0x5c, 0x75, 0x66, 0x66, 0x66, 0x64] : Bytes) ++ (jsonQuoteBody n rest ++ 0x22 :: t) =
                0x5c :: 0x75 :: 0x66 :: 0x66 :: 0x66 :: 0x64 :: (jsonQuoteBody n rest ++ 0x22 :: t) from rfl]
          rw [strBody_u _ _ _ _ _ (by decide) (by decide) (by decide) (by decide)]
          exact ih rest
        · simp only [hn, if_false]
          split
          · simp only [List.append_assoc]
            rw [show ([0x5c, 0x75, 0x32, 0x30, 0x32, 0x38] : Bytes) ++ (jsonQuoteBody n (rest.drop (utf8Size (b :: rest) - 1)) ++ 0x22 :: t) =
                  0x5c :: 0x75 :: 0x32 :: 0x30 :: 0x32 :: 0x38 :: (jsonQuoteBody n (rest.drop (utf8Size (b :: rest) - 1)) ++ 0x22 :: t) from rfl]
            rw [strBody_u _ _ _ _ _ (by decide) (by decide) (by decide) (by decide)]
            exact ih _
          · split
            · simp only [List.append_assoc]
              rw [show ([0x5c, 0x75, 0x32, 0x30, 0x32, 0x39] : Bytes) ++ (jsonQuoteBody n (rest.drop (utf8Size (b :: rest) - 1)) ++ 0x22 :: t) =
                    0x5c :: 0x75 :: 0x32 :: 0x30 :: 0x32 :: 0x39 :: (jsonQuoteBody n (rest.drop (utf8Size (b :: rest) - 1)) ++ 0x22 :: t) from rfl]
              rw [strBody_u _ _ _ _ _ (by decide) (by decide) (by decide) (by decide)]
              exact ih _
            · simp only [List.append_assoc]
              rw [strBody_plains _ _ (utf8_plain (b :: rest) hn)]
              exact ih _

/-- C13, string values: for every byte string `v` the JSON form `"…"` written for it is one JSON string literal: the
    recogniser accepts it and stops exactly behind its closing quote. This is what failed on the pinned tree for
    values containing a quote, backslash or control byte. -/
theorem jsonQuote_valid (v t : Bytes) : ∃ body, jsonQuote v = 0x22 :: body ∧ strBody (body ++ t) = some t := by
  refine ⟨jsonQuoteBody (v.length + 1) v ++ [0x22], by simp [jsonQuote], ?_⟩
  rw [List.append_assoc]
  exact jsonQuoteBody_closed _ _ _

end Goflow.C13
