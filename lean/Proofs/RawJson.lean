import Goflow.Generated.JsonTags
/-!
  C03 / C04 / C05 — the member names of the raw producer's JSON.

  The differential run checks on every decoded datagram that the JSON printed by `producer/raw` + `encoding/json` says what
  the decoded packet holds, *given* the member names of the struct tags (harness `rawFaithful`, and `Goflow.Raw.rawJsonV5`
  for NetFlow v5). The names themselves — the interface a consumer of `-produce raw` parses — are held here against the
  tags regenerated from the source on every run, together with the set of `MarshalJSON` / `MarshalText` methods (and their
  receiver kinds: `*MacAddress` has a pointer receiver, so a MAC inside a record held by an interface value is printed in
  base64 — an observation, not changed).
-/
namespace Goflow.RawJson
open Goflow.Generated

theorem raw_json_member_names :
    jsonTags = [
  ("netflow.DataField", [("PenProvided", "pen-provided"), ("Type", "type"), ("Pen", "pen"), ("Value", "value")]),
  ("netflow.DataFlowSet", [("<FlowSetHeader>", ""), ("Records", "records")]),
  ("netflow.DataRecord", [("Values", "values")]),
  ("netflow.Field", [("PenProvided", "pen-provided"), ("Type", "type"), ("Length", "length"), ("Pen", "pen")]),
  ("netflow.FlowSetHeader", [("Id", "id"), ("Length", "length")]),
  ("netflow.IPFIXOptionsTemplateFlowSet", [("<FlowSetHeader>", ""), ("Records", "records")]),
  ("netflow.IPFIXOptionsTemplateRecord", [("TemplateId", "template-id"), ("FieldCount", "field-count"), ("ScopeFieldCount", "scope-field-count"), ("Options", "options"), ("Scopes", "scopes")]),
  ("netflow.IPFIXPacket", [("Version", "version"), ("Length", "length"), ("ExportTime", "export-time"), ("SequenceNumber", "sequence-number"), ("ObservationDomainId", "observation-domain-id"), ("FlowSets", "flow-sets")]),
  ("netflow.NFv9OptionsTemplateFlowSet", [("<FlowSetHeader>", ""), ("Records", "records")]),
  ("netflow.NFv9OptionsTemplateRecord", [("TemplateId", "template-id"), ("ScopeLength", "scope-length"), ("OptionLength", "option-length"), ("Scopes", "scopes"), ("Options", "options")]),
  ("netflow.NFv9Packet", [("Version", "version"), ("Count", "count"), ("SystemUptime", "system-uptime"), ("UnixSeconds", "unix-seconds"), ("SequenceNumber", "sequence-number"), ("SourceId", "source-id"), ("FlowSets", "flow-sets")]),
  ("netflow.OptionsDataFlowSet", [("<FlowSetHeader>", ""), ("Records", "records")]),
  ("netflow.OptionsDataRecord", [("ScopesValues", "scope-values"), ("OptionsValues", "option-values")]),
  ("netflow.RawFlowSet", [("<FlowSetHeader>", ""), ("Records", "records")]),
  ("netflow.TemplateFlowSet", [("<FlowSetHeader>", ""), ("Records", "records")]),
  ("netflow.TemplateRecord", [("TemplateId", "template-id"), ("FieldCount", "field-count"), ("Fields", "fields")]),
  ("netflowlegacy.PacketNetFlowV5", [("Version", "version"), ("Count", "count"), ("SysUptime", "sys-uptime"), ("UnixSecs", "unix-secs"), ("UnixNSecs", "unix-nsecs"), ("FlowSequence", "flow-sequence"), ("EngineType", "engine-type"), ("EngineId", "engine-id"), ("SamplingInterval", "sampling-interval"), ("Records", "records")]),
  ("netflowlegacy.RecordsNetFlowV5", [("SrcAddr", "src-addr"), ("DstAddr", "dst-addr"), ("NextHop", "next-hop"), ("Input", "input"), ("Output", "output"), ("DPkts", "dpkts"), ("DOctets", "doctets"), ("First", "first"), ("Last", "last"), ("SrcPort", "src-port"), ("DstPort", "dst-port"), ("Pad1", "pad1"), ("TCPFlags", "tcp-flags"), ("Proto", "proto"), ("Tos", "tos"), ("SrcAS", "src-as"), ("DstAS", "dst-as"), ("SrcMask", "src-mask"), ("DstMask", "dst-mask"), ("Pad2", "pad2")]),
  ("rawproducer.RawMessage", [("Message", "message"), ("Src", "src"), ("TimeReceived", "time_received")]),
  ("rawproducer.RawProducer", []),
  ("sflow.CounterRecord", [("Header", "header"), ("Data", "data")]),
  ("sflow.CounterSample", [("Header", "header"), ("CounterRecordsCount", "counter-records-count"), ("Records", "records")]),
  ("sflow.DropSample", [("Header", "header"), ("Drops", "drops"), ("Input", "input"), ("Output", "output"), ("Reason", "reason"), ("FlowRecordsCount", "flow-records-count"), ("Records", "records")]),
  ("sflow.EgressQueue", [("Queue", "queue")]),
  ("sflow.EthernetCounters", [("Dot3StatsAlignmentErrors", "dot3-stats-aligment-errors"), ("Dot3StatsFCSErrors", "dot3-stats-fcse-errors"), ("Dot3StatsSingleCollisionFrames", "dot3-stats-single-collision-frames"), ("Dot3StatsMultipleCollisionFrames", "dot3-stats-multiple-collision-frames"), ("Dot3StatsSQETestErrors", "dot3-stats-seq-test-errors"), ("Dot3StatsDeferredTransmissions", "dot3-stats-deferred-transmissions"), ("Dot3StatsLateCollisions", "dot3-stats-late-collisions"), ("Dot3StatsExcessiveCollisions", "dot3-stats-excessive-collisions"), ("Dot3StatsInternalMacTransmitErrors", "dot3-stats-internal-mac-transmit-errors"), ("Dot3StatsCarrierSenseErrors", "dot3-stats-carrier-sense-errors"), ("Dot3StatsFrameTooLongs", "dot3-stats-frame-too-longs"), ("Dot3StatsInternalMacReceiveErrors", "dot3-stats-internal-mac-receive-errors"), ("Dot3StatsSymbolErrors", "dot3-stats-symbol-errors")]),
  ("sflow.ExpandedFlowSample", [("Header", "header"), ("SamplingRate", "sampling-rate"), ("SamplePool", "sample-pool"), ("Drops", "drops"), ("InputIfFormat", "input-if-format"), ("InputIfValue", "input-if-value"), ("OutputIfFormat", "output-if-format"), ("OutputIfValue", "output-if-value"), ("FlowRecordsCount", "flow-records-count"), ("Records", "records")]),
  ("sflow.ExtendedACL", [("Number", "number"), ("Name", "name"), ("Direction", "direction")]),
  ("sflow.ExtendedFunction", [("Symbol", "symbol")]),
  ("sflow.ExtendedGateway", [("NextHopIPVersion", "next-hop-ip-version"), ("NextHop", "next-hop"), ("AS", "as"), ("SrcAS", "src-as"), ("SrcPeerAS", "src-peer-as"), ("ASDestinations", "as-destinations"), ("ASPathType", "as-path-type"), ("ASPathLength", "as-path-length"), ("ASPath", "as-path"), ("CommunitiesLength", "communities-length"), ("Communities", "communities"), ("LocalPref", "local-pref")]),
  ("sflow.ExtendedRouter", [("NextHopIPVersion", "next-hop-ip-version"), ("NextHop", "next-hop"), ("SrcMaskLen", "src-mask-len"), ("DstMaskLen", "dst-mask-len")]),
  ("sflow.ExtendedSwitch", [("SrcVlan", "src-vlan"), ("SrcPriority", "src-priority"), ("DstVlan", "dst-vlan"), ("DstPriority", "dst-priority")]),
  ("sflow.FlowRecord", [("Header", "header"), ("Data", "data")]),
  ("sflow.FlowSample", [("Header", "header"), ("SamplingRate", "sampling-rate"), ("SamplePool", "sample-pool"), ("Drops", "drops"), ("Input", "input"), ("Output", "output"), ("FlowRecordsCount", "flow-records-count"), ("Records", "records")]),
  ("sflow.IfCounters", [("IfIndex", "if-index"), ("IfType", "if-type"), ("IfSpeed", "if-speed"), ("IfDirection", "if-direction"), ("IfStatus", "if-status"), ("IfInOctets", "if-in-octets"), ("IfInUcastPkts", "if-in-ucast-pkts"), ("IfInMulticastPkts", "if-in-multicast-pkts"), ("IfInBroadcastPkts", "if-in-broadcast-pkts"), ("IfInDiscards", "if-in-discards"), ("IfInErrors", "if-in-errors"), ("IfInUnknownProtos", "if-in-unknown-protos"), ("IfOutOctets", "if-out-octets"), ("IfOutUcastPkts", "if-out-ucast-pkts"), ("IfOutMulticastPkts", "if-out-multicast-pkts"), ("IfOutBroadcastPkts", "if-out-broadcast-pkts"), ("IfOutDiscards", "if-out-discards"), ("IfOutErrors", "if-out-errors"), ("IfPromiscuousMode", "if-promiscuous-mode")]),
  ("sflow.Packet", [("Version", "version"), ("IPVersion", "ip-version"), ("AgentIP", "agent-ip"), ("SubAgentId", "sub-agent-id"), ("SequenceNumber", "sequence-number"), ("Uptime", "uptime"), ("SamplesCount", "samples-count"), ("Samples", "samples")]),
  ("sflow.RawRecord", [("Data", "data")]),
  ("sflow.RecordHeader", [("DataFormat", "data-format"), ("Length", "length")]),
  ("sflow.SampleHeader", [("Format", "format"), ("Length", "length"), ("SampleSequenceNumber", "sample-sequence-number"), ("SourceIdType", "source-id-type"), ("SourceIdValue", "source-id-value")]),
  ("sflow.SampledEthernet", [("Length", "length"), ("SrcMac", "src-mac"), ("DstMac", "dst-mac"), ("EthType", "eth-type")]),
  ("sflow.SampledHeader", [("Protocol", "protocol"), ("FrameLength", "frame-length"), ("Stripped", "stripped"), ("OriginalLength", "original-length"), ("HeaderData", "header-data")]),
  ("sflow.SampledIPBase", [("Length", "length"), ("Protocol", "protocol"), ("SrcIP", "src-ip"), ("DstIP", "dst-ip"), ("SrcPort", "src-port"), ("DstPort", "dst-port"), ("TcpFlags", "tcp-flags")]),
  ("sflow.SampledIPv4", [("<SampledIPBase>", ""), ("Tos", "tos")]),
  ("sflow.SampledIPv6", [("<SampledIPBase>", ""), ("Priority", "priority")])
] := by
  rfl

theorem raw_json_marshalers :
    marshalMethods = [
  ("decoders/netflow", "*IPFIXPacket", "MarshalJSON"),
  ("decoders/netflow", "*IPFIXPacket", "MarshalText"),
  ("decoders/netflow", "*NFv9Packet", "MarshalJSON"),
  ("decoders/netflow", "*NFv9Packet", "MarshalText"),
  ("decoders/netflowlegacy", "*IPAddress", "MarshalJSON"),
  ("decoders/netflowlegacy", "*PacketNetFlowV5", "MarshalJSON"),
  ("decoders/netflowlegacy", "*PacketNetFlowV5", "MarshalText"),
  ("decoders/sflow", "*Packet", "MarshalJSON"),
  ("decoders/sflow", "*Packet", "MarshalText"),
  ("decoders/utils", "*MacAddress", "MarshalJSON"),
  ("decoders/utils", "IPAddress", "MarshalJSON"),
  ("producer/raw", "RawMessage", "MarshalJSON"),
  ("producer/raw", "RawMessage", "MarshalText")
] := by
  rfl

end Goflow.RawJson
