import Goflow.Pipe
import Goflow.Generated.Commit
/-!
  C12 — the messages of a datagram go back to the pool exactly once.

  The pool model (Goflow/Pool.lean, Proofs/C12Pool.lean) puts the messages of a datagram back in one step when
  DecodeFlow is over (`put` after `take`s), whatever the outcome: production failed half-way, the format or the
  transport refused a message, everything was sent. A message put back twice would be handed out to two records
  at once later on (a seeded change did that on the path where the format refuses a message), which
  the pool model cannot express. `commit_once` ties that shape to the source: the only calls of `Commit` outside
  the wrapper that forwards it are the two `defer p.producer.Commit(flowMessageSet)` placed right behind the
  production step of the two pipes, outside every loop and function literal — a deferred call runs once on every
  way out of the function.

  `refuseAt_*`: what a refusal by the format or transport changes in the model of DecodeFlow — the delivered
  messages become a prefix, the state is what production left (the differential run covers it with `failat`).
-/
namespace Goflow.C12Commit
open Goflow Goflow.Pipe

open Goflow.Generated in
/-- `commitSites`: function, call, deferred?, enclosing loops, enclosing function literals, statement in front. A new call
    site, or one of these moved, breaks this. -/
theorem commit_once :
    commitSites.map (fun s => (s.1, s.2.1, s.2.2.1, s.2.2.2.1, s.2.2.2.2.1)) =
      [("utils/pipe.go:SFlowPipe.DecodeFlow", "p.producer.Commit(flowMessageSet)", true, 0, 0),
       ("utils/pipe.go:NetFlowPipe.DecodeFlow", "p.producer.Commit(flowMessageSet)", true, 0, 0),
       ("utils/debug/producer.go:PanicProducerWrapper.Commit", "p.wrapped.Commit(flowMessageSet)", false, 0, 0)] ∧
    (commitSites.take 2).map (fun s => ("flowMessageSet, err := p.producer.Produce(".toList.isPrefixOf s.2.2.2.2.2.toList,
        "switch version { case 5: flowMessageSet, err = p.producer.Produce(".toList.isPrefixOf s.2.2.2.2.2.toList)) =
      [(true, false), (false, true)] := by
  refine ⟨rfl, ?_⟩
  show [(_, _), (_, _)] = _
  -- rewriting opens each of the four literals to its characters; the kernel would decode UTF-8 bytes for `toList`
  rw [String.toList_ofList, String.toList_ofList, String.toList_ofList, String.toList_ofList]
  decide +kernel

theorem refuseAt_state (k : Nat) (o : Out) : (refuseAt k o).state = o.state := by
  unfold refuseAt; split <;> rfl

theorem refuseAt_prefix (k : Nat) (o : Out) : (refuseAt k o).msgs <+: o.msgs := by
  unfold refuseAt; split
  · exact List.take_prefix _ _
  · exact List.prefix_refl _

theorem refuseAt_zero (o : Out) : refuseAt 0 o = o := by
  unfold refuseAt; simp

theorem refuseAt_refused (k : Nat) (o : Out) (h1 : 1 ≤ k) (h2 : k ≤ o.msgs.length) :
    (refuseAt k o).msgs.length = k - 1 ∧ (refuseAt k o).err = some .bad := by
  unfold refuseAt; simp [h1, h2]; omega

end Goflow.C12Commit
