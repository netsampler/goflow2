import Goflow.Pipe
import Proofs.Lemmas.Assoc
import Goflow.Generated.Sync
/-!
  C15 — Parallel workers are race-free and equivalent to sequential processing.

  With whole DecodeFlow calls as atomic steps: for every set of datagrams that are read-only on the shared state
  (templates and sampling rates announced in the prologue), every order in which workers pick them up gives each
  datagram exactly the messages it yields alone on the prologue state, in the same per-datagram order, and leaves the
  shared state unchanged. Data-race freedom itself is a property of the Go memory model and is explored with the race
  detector by the check, not proved (PARTIAL).

  The argument is made once for any pair of equivalences on template stores and rate tables that the v9 / IPFIX
  decoder and the producer respect (`Cong`); here it is used with equality, in Proofs/C15Refresh.lean with equality
  of all lookups.
-/
namespace Goflow.C15
open Goflow Goflow.Pipe Goflow.Producer

/-- the outer maps are compared by lookup, the stores and tables found there as lists (Proofs/C15Refresh.lean compares
    those by lookup too) -/
def Equiv (a b : State) : Prop :=
  (∀ src : Src, a.templatesOf src = b.templatesOf src) ∧ (∀ ip : Bytes, a.ratesOf ip = b.ratesOf ip)

theorem Equiv.refl (a : State) : Equiv a a := ⟨fun _ => rfl, fun _ => rfl⟩
theorem Equiv.symm {a b : State} (h : Equiv a b) : Equiv b a := ⟨fun s => (h.1 s).symm, fun s => (h.2 s).symm⟩
theorem Equiv.trans {a b c : State} (h1 : Equiv a b) (h2 : Equiv b c) : Equiv a c :=
  ⟨fun s => (h1.1 s).trans (h2.1 s), fun s => (h1.2 s).trans (h2.2 s)⟩

theorem templatesOf_set (s : State) (k k' : Src) (t : Netflow.Store) :
    (s.setTemplates k t).templatesOf k' = if k' = k then t else s.templatesOf k' :=
  lookup_cons_filter_getD s.templates k k' t []

theorem ratesOf_set (s : State) (k k' : Bytes) (r : Rates) :
    (s.setRates k r).ratesOf k' = if k' = k then r else s.ratesOf k' :=
  lookup_cons_filter_getD s.sampling k k' r []

private theorem ratesOf_setTemplates (s : State) (k : Src) (t : Netflow.Store) (ip : Bytes) :
    (s.setTemplates k t).ratesOf ip = s.ratesOf ip := rfl
private theorem templatesOf_setRates (s : State) (ip : Bytes) (r : Rates) (k : Src) :
    (s.setRates ip r).templatesOf k = s.templatesOf k := rfl

def StRel (RS : Netflow.Store → Netflow.Store → Prop) (RR : Rates → Rates → Prop) (a b : State) : Prop :=
  (∀ src : Src, RS (a.templatesOf src) (b.templatesOf src)) ∧ (∀ ip : Bytes, RR (a.ratesOf ip) (b.ratesOf ip))

def DRel (RS : Netflow.Store → Netflow.Store → Prop) (o o' : Netflow.DecodeOut) : Prop :=
  o.packet = o'.packet ∧ o.tnf = o'.tnf ∧ o.err = o'.err ∧ RS o.store o'.store

/-- equivalences that the v9 / IPFIX decoder and the producer cannot tell apart and carry over to the store and the
    rates they leave -/
structure Cong (RS : Netflow.Store → Netflow.Store → Prop) (RR : Rates → Rates → Prop) : Prop where
  reflS : ∀ s, RS s s
  transS : ∀ {a b c}, RS a b → RS b c → RS a c
  reflR : ∀ r, RR r r
  transR : ∀ {a b c}, RR a b → RR b c → RR a c
  decode : ∀ (version : Nat) (b : Bytes) (s s' : Netflow.Store), RS s s' →
    DRel RS (if version = 9 then Netflow.decodeMessageNetFlow s b else Netflow.decodeMessageIPFIX s b)
      (if version = 9 then Netflow.decodeMessageNetFlow s' b else Netflow.decodeMessageIPFIX s' b)
  produce : ∀ cfg p r r', RR r r' →
    (processNetflow cfg p r).msgs = (processNetflow cfg p r').msgs ∧
    (processNetflow cfg p r).err = (processNetflow cfg p r').err ∧
    RR (processNetflow cfg p r).rates (processNetflow cfg p r').rates

theorem Cong.eq : Cong Eq Eq where
  reflS _ := rfl
  transS := Eq.trans
  reflR _ := rfl
  transR := Eq.trans
  decode _ _ _ _ h := h ▸ ⟨rfl, rfl, rfl, rfl⟩
  produce _ _ _ _ h := h ▸ ⟨rfl, rfl, rfl⟩

structure Core where
  store : Netflow.Store
  rates : Rates
  msgs : List FlowMsg
  err : Option Err

/-- what the pipe does with a decoded v9 / IPFIX message -/
def nfCore910 (cfg : Config) (o : Netflow.DecodeOut) (rates : Rates) (recvNs : Nat) (sa : Bytes) : Core :=
  match o.err with
  | some e => ⟨o.store, rates, [], some e⟩
  | none =>
    match (processNetflow (some cfg) o.packet rates).err with
    | some e => ⟨o.store, (processNetflow (some cfg) o.packet rates).rates, [], some e⟩
    | none => ⟨o.store, (processNetflow (some cfg) o.packet rates).rates,
        (processNetflow (some cfg) o.packet rates).msgs.map (stampRecv recvNs sa),
        if o.tnf then some .tnf else none⟩

def After (st st' : State) (src : Src) (t : Netflow.Store) (r : Rates) : Prop :=
  (∀ k, st'.templatesOf k = if k = src then t else st.templatesOf k) ∧
  (∀ ip, st'.ratesOf ip = if ip = src.ip then r else st.ratesOf ip)

theorem After.refl (st : State) (src : Src) : After st st src (st.templatesOf src) (st.ratesOf src.ip) := by
  constructor <;> intro k <;> split
  · rename_i h; rw [h]
  · rfl
  · rename_i h; rw [h]
  · rfl

theorem After.setTemplates {st st' : State} {src : Src} {t : Netflow.Store} {r : Rates} (h : After st st' src t r)
    (t' : Netflow.Store) : After st (st'.setTemplates src t') src t' r := by
  refine ⟨fun k => ?_, h.2⟩
  rw [templatesOf_set, h.1 k]
  split <;> rfl

theorem After.setRates {st st' : State} {src : Src} {t : Netflow.Store} {r : Rates} (h : After st st' src t r)
    (r' : Rates) : After st (st'.setRates src.ip r') src t r' := by
  refine ⟨h.1, fun ip => ?_⟩
  rw [ratesOf_set, h.2 ip]
  split <;> rfl

def Runs (o : Out) (st : State) (src : Src) (c : Core) : Prop :=
  o.msgs = c.msgs ∧ o.err = c.err ∧ After st o.state src c.store c.rates

/-- the NetFlow pipe reads the state only at the exporter's store and its address's rates, and writes only these two
    entries -/
theorem netflowPipe_cases (cfg : Config) (src : Src) (recv : Nat) (d : Bytes) :
    (∃ ms e, ∀ st, Runs (netflowPipe cfg st src recv d) st src ⟨st.templatesOf src, st.ratesOf src.ip, ms, e⟩) ∨
    ∃ version b, readU 2 d = .ok (version, b) ∧ (version = 9 ∨ version = 10) ∧
      ∀ st, Runs (netflowPipe cfg st src recv d) st src
        (nfCore910 cfg (if version = 9 then Netflow.decodeMessageNetFlow (st.templatesOf src) b
          else Netflow.decodeMessageIPFIX (st.templatesOf src) b) (st.ratesOf src.ip) recv (unmap src.ip)) := by
  have h0 := fun st => (After.refl st src).setTemplates (st.templatesOf src)
  unfold netflowPipe
  cases readU 2 d with
  | error e => exact .inl ⟨[], some e, fun st => ⟨rfl, rfl, h0 st⟩⟩
  | ok vb =>
    obtain ⟨version, b⟩ := vb
    simp only
    by_cases h5 : version = 5
    · subst h5
      cases V5.decodeMessage b <;> exact .inl ⟨_, _, fun st => ⟨rfl, rfl, h0 st⟩⟩
    · by_cases h910 : version = 9 ∨ version = 10
      · refine .inr ⟨version, b, rfl, h910, fun st => ?_⟩
        simp only [if_neg h5, if_pos h910, nfCore910, ratesOf_setTemplates]
        generalize (if version = 9 then Netflow.decodeMessageNetFlow (st.templatesOf src) b
          else Netflow.decodeMessageIPFIX (st.templatesOf src) b) = o
        cases o.err with
        | some e => exact ⟨rfl, rfl, (h0 st).setTemplates _⟩
        | none =>
          simp only
          cases (processNetflow (some cfg) o.packet (st.ratesOf src.ip)).err <;>
            exact ⟨rfl, rfl, ((h0 st).setTemplates _).setRates _⟩
      · refine .inl ⟨[], some .bad, fun st => ?_⟩
        rw [if_neg h5, if_neg h910]
        exact ⟨rfl, rfl, h0 st⟩

theorem sflowPipe_const (cfg : Config) (recv : Nat) (d : Bytes) :
    ∃ ms e, ∀ st, sflowPipe cfg st recv d = ⟨st, ms, e⟩ := by
  unfold sflowPipe
  split
  · exact ⟨_, _, fun _ => rfl⟩
  · split <;> exact ⟨_, _, fun _ => rfl⟩

theorem decodeFlow_cases (k : Kind) (cfg : Config) (src : Src) (recv : Nat) (d : Bytes) :
    (∀ st, decodeFlow k cfg st src recv d = netflowPipe cfg st src recv d) ∨
    ∃ ms e, ∀ st, decodeFlow k cfg st src recv d = ⟨st, ms, e⟩ := by
  cases k with
  | netflow => exact .inl fun _ => rfl
  | sflow => exact .inr (sflowPipe_const cfg recv d)
  | auto =>
    unfold decodeFlow autoPipe
    simp only
    split
    · exact .inr ⟨_, _, fun _ => rfl⟩
    · split
      · exact .inr (sflowPipe_const cfg recv d)
      · split
        · exact .inl fun _ => rfl
        · exact .inr ⟨_, _, fun _ => rfl⟩

section
variable {RS : Netflow.Store → Netflow.Store → Prop} {RR : Rates → Rates → Prop} (hc : Cong RS RR)

theorem After.rel {a a' b b' : State} {src : Src} {t t' : Netflow.Store} {r r' : Rates} (ha : After a a' src t r)
    (hb : After b b' src t' r') (h : StRel RS RR a b) (hs : RS t t') (hr : RR r r') : StRel RS RR a' b' := by
  refine ⟨fun k => ?_, fun ip => ?_⟩
  · rw [ha.1 k, hb.1 k]
    split
    · exact hs
    · exact h.1 k
  · rw [ha.2 ip, hb.2 ip]
    split
    · exact hr
    · exact h.2 ip

include hc

theorem StRel.refl (a : State) : StRel RS RR a a := ⟨fun _ => hc.reflS _, fun _ => hc.reflR _⟩
theorem StRel.trans {a b c : State} (h1 : StRel RS RR a b) (h2 : StRel RS RR b c) : StRel RS RR a c :=
  ⟨fun s => hc.transS (h1.1 s) (h2.1 s), fun s => hc.transR (h1.2 s) (h2.2 s)⟩

theorem nfCore910_rel (cfg : Config) {o o' : Netflow.DecodeOut} (r r' : Rates) (recv : Nat) (sa : Bytes)
    (ho : DRel RS o o') (hr : RR r r') :
    (nfCore910 cfg o r recv sa).msgs = (nfCore910 cfg o' r' recv sa).msgs ∧
    (nfCore910 cfg o r recv sa).err = (nfCore910 cfg o' r' recv sa).err ∧
    RS (nfCore910 cfg o r recv sa).store (nfCore910 cfg o' r' recv sa).store ∧
    RR (nfCore910 cfg o r recv sa).rates (nfCore910 cfg o' r' recv sa).rates := by
  obtain ⟨hp, ht, he, hs⟩ := ho
  obtain ⟨h1, h2, h3⟩ := hc.produce (some cfg) o.packet r r' hr
  rw [hp] at h1 h2 h3
  unfold nfCore910
  rw [← he, ← ht, ← h2]
  cases o.err with
  | some e => exact ⟨rfl, rfl, hs, hr⟩
  | none =>
    simp only
    rw [hp]
    cases (processNetflow (some cfg) o'.packet r).err with
    | some e => exact ⟨rfl, rfl, hs, h3⟩
    | none => exact ⟨by simp only [h1], rfl, hs, h3⟩

theorem decodeFlow_rel (k : Kind) (cfg : Config) (a b : State) (src : Src) (recv : Nat) (d : Bytes)
    (h : StRel RS RR a b) :
    (decodeFlow k cfg a src recv d).msgs = (decodeFlow k cfg b src recv d).msgs ∧
    (decodeFlow k cfg a src recv d).err = (decodeFlow k cfg b src recv d).err ∧
    StRel RS RR (decodeFlow k cfg a src recv d).state (decodeFlow k cfg b src recv d).state := by
  rcases decodeFlow_cases k cfg src recv d with hk | ⟨ms, e, hk⟩
  · rw [hk a, hk b]
    rcases netflowPipe_cases cfg src recv d with ⟨ms, e, hn⟩ | ⟨version, b', _, _, hn⟩
    · exact ⟨(hn a).1.trans (hn b).1.symm, (hn a).2.1.trans (hn b).2.1.symm,
        (hn a).2.2.rel (hn b).2.2 h (h.1 src) (h.2 src.ip)⟩
    · obtain ⟨c1, c2, c3, c4⟩ := nfCore910_rel hc cfg _ _ recv (unmap src.ip)
        (hc.decode version b' _ _ (h.1 src)) (h.2 src.ip)
      exact ⟨by rw [(hn a).1, (hn b).1, c1], by rw [(hn a).2.1, (hn b).2.1, c2], (hn a).2.2.rel (hn b).2.2 h c3 c4⟩
  · rw [hk a, hk b]
    exact ⟨rfl, rfl, h⟩

theorem netflowPipe_keeps (cfg : Config) (S : State) (src : Src) (recv : Nat) (d : Bytes)
    (h : ∀ version b, readU 2 d = .ok (version, b) → version = 9 ∨ version = 10 →
      let o := if version = 9 then Netflow.decodeMessageNetFlow (S.templatesOf src) b
        else Netflow.decodeMessageIPFIX (S.templatesOf src) b
      RS o.store (S.templatesOf src) ∧
      RR (processNetflow (some cfg) o.packet (S.ratesOf src.ip)).rates (S.ratesOf src.ip)) :
    StRel RS RR (netflowPipe cfg S src recv d).state S := by
  rcases netflowPipe_cases cfg src recv d with ⟨ms, e, hn⟩ | ⟨version, b, hrd, hv, hn⟩
  · exact (hn S).2.2.rel (After.refl S src) (StRel.refl hc S) (hc.reflS _) (hc.reflR _)
  · obtain ⟨hs, hr⟩ := h version b hrd hv
    refine (hn S).2.2.rel (After.refl S src) (StRel.refl hc S) ?_ ?_ <;> unfold nfCore910
    · split
      · exact hs
      · split <;> exact hs
    · split
      · exact hc.reflR _
      · split <;> exact hr

end

/-- DecodeFlow respects state equivalence: same messages, same outcome, equivalent resulting state -/
theorem decodeFlow_congr (k : Kind) (cfg : Config) (a b : State) (src : Src) (recv : Nat) (d : Bytes) (h : Equiv a b) :
    (decodeFlow k cfg a src recv d).msgs = (decodeFlow k cfg b src recv d).msgs ∧
    (decodeFlow k cfg a src recv d).err = (decodeFlow k cfg b src recv d).err ∧
    Equiv (decodeFlow k cfg a src recv d).state (decodeFlow k cfg b src recv d).state :=
  decodeFlow_rel Cong.eq k cfg a b src recv d h

structure Dg where
  src : Src
  recv : Nat
  payload : Bytes
  deriving Repr, Inhabited

/-- a read-only datagram may still register empty per-exporter systems: those are invisible to lookups -/
def ReadOnly (k : Kind) (cfg : Config) (S : State) (d : Dg) : Prop :=
  Equiv (decodeFlow k cfg S d.src d.recv d.payload).state S

def runSeq (k : Kind) (cfg : Config) : State → List Dg → List (List FlowMsg) × State
  | st, [] => ([], st)
  | st, d :: rest =>
    let o := decodeFlow k cfg st d.src d.recv d.payload
    let r := runSeq k cfg o.state rest
    (o.msgs :: r.1, r.2)

section
variable {RS : Netflow.Store → Netflow.Store → Prop} {RR : Rates → Rates → Prop} (hc : Cong RS RR)
include hc

theorem runSeq_rel (k : Kind) (cfg : Config) (S₀ : State) (σ : List Dg)
    (hro : ∀ d ∈ σ, StRel RS RR (decodeFlow k cfg S₀ d.src d.recv d.payload).state S₀) :
    ∀ S, StRel RS RR S S₀ →
      (runSeq k cfg S σ).1 = σ.map (fun d => (decodeFlow k cfg S₀ d.src d.recv d.payload).msgs) ∧
      StRel RS RR (runSeq k cfg S σ).2 S₀ := by
  induction σ with
  | nil => intro S h; exact ⟨rfl, h⟩
  | cons d rest ih =>
    intro S hS
    obtain ⟨hm, _, hst⟩ := decodeFlow_rel hc k cfg S S₀ d.src d.recv d.payload hS
    obtain ⟨h1, h2⟩ := ih (fun x hx => hro x (List.mem_cons_of_mem _ hx)) _
      (hst.trans hc (hro d List.mem_cons_self))
    simp only [runSeq, List.map_cons]
    exact ⟨by rw [hm, h1], h2⟩

theorem runSeq_perm (k : Kind) (cfg : Config) (S₀ : State) (σ τ : List Dg)
    (hσ : ∀ d ∈ σ, StRel RS RR (decodeFlow k cfg S₀ d.src d.recv d.payload).state S₀) (hp : σ.Perm τ) :
    ((runSeq k cfg S₀ σ).1.flatten).Perm ((runSeq k cfg S₀ τ).1.flatten) := by
  rw [(runSeq_rel hc k cfg S₀ σ hσ S₀ (StRel.refl hc _)).1,
    (runSeq_rel hc k cfg S₀ τ (fun d hd => hσ d (hp.mem_iff.mpr hd)) S₀ (StRel.refl hc _)).1]
  exact (hp.map _).flatten

end

/-- C15 with atomic DecodeFlow steps: if every datagram of the workload is read-only on the prologue state S₀, then
    for every order σ in which the workers process them, each datagram yields exactly the messages (in the same
    order) it yields when processed alone on S₀, and the shared state stays S₀. -/
theorem parallel_eq_sequential (k : Kind) (cfg : Config) (S₀ : State) (σ : List Dg)
    (hro : ∀ d ∈ σ, ReadOnly k cfg S₀ d) :
    ∀ S, Equiv S S₀ →
      (runSeq k cfg S σ).1 = σ.map (fun d => (decodeFlow k cfg S₀ d.src d.recv d.payload).msgs) ∧
      Equiv (runSeq k cfg S σ).2 S₀ :=
  runSeq_rel Cong.eq k cfg S₀ σ hro

/-- any two processing orders of the same datagrams deliver the same multiset of messages (that each datagram's own
    messages are the same, in the same order, is `parallel_eq_sequential`) -/
theorem per_datagram_order (k : Kind) (cfg : Config) (S₀ : State) (σ τ : List Dg)
    (hσ : ∀ d ∈ σ, ReadOnly k cfg S₀ d) (hp : σ.Perm τ) :
    ((runSeq k cfg S₀ σ).1.flatten).Perm ((runSeq k cfg S₀ τ).1.flatten) :=
  runSeq_perm Cong.eq k cfg S₀ σ τ hσ hp

/-- sFlow datagrams are read-only on every state: the sFlow pipe does not touch it -/
theorem sflow_readOnly (cfg : Config) (S : State) (d : Dg) : ReadOnly .sflow cfg S d := by
  obtain ⟨ms, e, h⟩ := sflowPipe_const cfg d.recv d.payload
  unfold ReadOnly decodeFlow
  rw [h]
  exact Equiv.refl _

/-- tie to the access skeletons regenerated from utils/pipe.go and producer/proto/proto.go
    (Goflow/Generated/Sync.lean): each begins with the read lock and has exactly three accesses to its map.
    That every access is made under its lock is `C15Locks.lock_discipline`, on a finer event list. -/
theorem skeleton_matches :
    Goflow.Generated.skPipeNetflow.head? = some "p.templateslock.RLock()" ∧
    Goflow.Generated.skSamplingSystem.head? = some "p.samplinglock.RLock()" ∧
    (Goflow.Generated.skPipeNetflow.filter (fun s => s.startsWith "load" || s.startsWith "store")).length = 3 ∧
    (Goflow.Generated.skSamplingSystem.filter (fun s => s.startsWith "load" || s.startsWith "store")).length = 3 := by
  decide +kernel

end Goflow.C15
