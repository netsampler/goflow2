import Goflow.Generated.Writes
/-!
  C15 — what the workers share is written before they exist, or under a lock.

  The long-lived objects every worker reaches (the pipes, the producer, the mapped configuration, the template and
  sampling systems) are, after construction, written in exactly four places — the stores into the four shared maps,
  each under the map's own lock (`Proofs/C15Locks.lean lock_discipline`). Every other write to a field of these
  objects sits in `parseConfig` (called by the two pipe constructors only) or in `mapConfig` (called by
  `ProducerConfig.Compile` only, on a fresh object). `/verif/extract/writes.go` lists every assignment, index store,
  `++`/`--` and `&` whose target is a field *named* like one of theirs, whatever the base expression, in the three
  packages on the path; the theorem pins that list. A field added to one of these objects and written per datagram
  (a seeded change kept "the receive time of the datagram being converted" on the shared producer) shows
  up in `Proofs/C12Pool.lean state_inventory` (a new field); a per-datagram write to an existing field shows up here.

  This is what the atomic-step theorems of `Proofs/C15.lean` assume of the code around the maps: configuration and
  collaborators are read-only while workers run.
-/
namespace Goflow.C15Writes
open Goflow.Generated

/-- (function, target, kind): nine assignments, all in `parseConfig` and `mapConfig`, and the four stores into the shared
    maps; the callers of those two functions are the two pipe constructors and `ProducerConfig.Compile`. A write
    added anywhere else in the three packages breaks this. -/
theorem shared_fields_written_before_workers :
    sharedFieldWrites =
      [("utils/pipe.go:flowpipe.parseConfig", "p.format", "assign"),
       ("utils/pipe.go:flowpipe.parseConfig", "p.transport", "assign"),
       ("utils/pipe.go:flowpipe.parseConfig", "p.producer", "assign"),
       ("utils/pipe.go:flowpipe.parseConfig", "p.netFlowTemplater", "assign"),
       ("utils/pipe.go:flowpipe.parseConfig", "p.netFlowTemplater", "assign"),
       ("utils/pipe.go:NetFlowPipe.DecodeFlow", "p.templates", "store"),
       ("producer/proto/config_impl.go:.mapConfig", "newCfg.IPFIX", "assign"),
       ("producer/proto/config_impl.go:.mapConfig", "newCfg.NetFlowV9", "assign"),
       ("producer/proto/config_impl.go:.mapConfig", "newCfg.SFlow", "assign"),
       ("producer/proto/config_impl.go:.mapConfig", "newCfg.Formatter", "assign"),
       ("producer/proto/producer_nf.go:basicSamplingRateSystem.AddSamplingRate", "s.sampling", "store"),
       ("producer/proto/proto.go:ProtoProducer.getSamplingRateSystem", "p.sampling", "store"),
       ("decoders/netflow/templates.go:BasicTemplateSystem.AddTemplate", "ts.templates", "store")] ∧
    sharedWriterCallers =
      [("utils/pipe.go:.NewSFlowPipe", "parseConfig"), ("utils/pipe.go:.NewNetFlowPipe", "parseConfig"),
       ("producer/proto/config_impl.go:ProducerConfig.Compile", "mapConfig")] :=
  ⟨rfl, rfl⟩

/-- the per-datagram writes among them are the four map stores -/
theorem per_datagram_writes_are_map_stores :
    (sharedFieldWrites.filter fun w => w.2.2 != "assign").map (fun w => w.2.1) =
      ["p.templates", "s.sampling", "p.sampling", "ts.templates"] := by
  rfl

end Goflow.C15Writes
