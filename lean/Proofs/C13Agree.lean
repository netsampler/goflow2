import Goflow.Format.Formatter
/-!
  C13 — "JSON and text forms of one message describe the same values": both are images of one list of
  rendered fields. `printedFields f m` computes, for every configured field that is printed, its name and
  its rendered value (a scalar `Rendered`, or the rendered elements of an array); `formatItems` for
  JSON and for text are that list passed through the two concrete syntaxes, item by item.
-/
namespace Goflow.C13
open Goflow Goflow.Format

inductive RVal where
  | scalar (r : Rendered)                 -- `.text` or `.bare`, never `.nil` (such fields are skipped)
  | array (rs : List Rendered)            -- one entry per element; `.nil` entries print nothing
  deriving Repr, Inhabited

/-- name and rendered value of a configured field, independent of the output syntax -/
def fieldOf (f : Fmt) (m : FlowMsg) (unk : List (String × FV)) (s : String) : Option (Bytes × RVal) :=
  match valueOf f m unk s with
  | none => none
  | some v =>
    if (f.isSlice.lookup (fieldNameOf f s)).getD false then
      some (finalNameOf f s, .array ((elemsOf v).map (applyRenderer m (fieldNameOf f s) (rendererOf f s).1)))
    else
      match applyRenderer m (fieldNameOf f s) (rendererOf f s).1 v with
      | .nil => none
      | r => some (finalNameOf f s, .scalar r)

def printedFields (f : Fmt) (m : FlowMsg) : List (Bytes × RVal) :=
  f.fields.filterMap (fieldOf f m (mapUnknown f m.unk))

/-- a comma behind every element but the last of the array -/
def bodyOf (json : Bool) (quotes : Bytes) : List Rendered → Bytes
  | [] => []
  | [r] => (quoteIf json quotes r).getD []
  | r :: r' :: rest => (match quoteIf json quotes r with | some b => b ++ [0x2c] | none => []) ++ bodyOf json quotes (r' :: rest)

def showItem (json : Bool) (quotes sign : Bytes) : Bytes × RVal → Bytes
  | (name, .scalar r) => quotes ++ name ++ quotes ++ sign ++ (quoteIf json quotes r).getD []
  | (name, .array rs) => quotes ++ name ++ quotes ++ sign ++ [0x5b] ++ bodyOf json quotes rs ++ [0x5d]

theorem sliceBody_eq_bodyOf (f : Fmt) (m : FlowMsg) (json : Bool) (quotes : Bytes) (s : String) (es : List FV) :
    sliceBody f m json quotes s es = bodyOf json quotes (es.map (applyRenderer m (fieldNameOf f s) (rendererOf f s).1)) := by
  induction es with
  | nil => rfl
  | cons e rest ih =>
    cases rest with
    | nil => rfl
    | cons e' rest' =>
      simp only [sliceBody, List.map_cons, bodyOf, renderElem] at ih ⊢
      rw [ih]
      cases quoteIf json quotes (applyRenderer m (fieldNameOf f s) (rendererOf f s).1 e) <;> rfl

theorem itemOf_eq (f : Fmt) (m : FlowMsg) (unk : List (String × FV)) (json : Bool) (quotes sign : Bytes) (s : String) :
    itemOf f m unk json quotes sign s = (fieldOf f m unk s).map (showItem json quotes sign) := by
  unfold itemOf fieldOf
  cases valueOf f m unk s with
  | none => rfl
  | some v =>
    simp only
    split
    · simp only [Option.map_some, showItem, sliceBody_eq_bodyOf]
    · cases hr : applyRenderer m (fieldNameOf f s) (rendererOf f s).1 v <;> simp [quoteIf, showItem]

/-- both forms print the same fields, in the same order, with the same names and the same rendered values:
    they differ only in the concrete syntax `showItem` -/
theorem forms_agree (f : Fmt) (m : FlowMsg) :
    formatItems f m true [0x22] [0x3a] = (printedFields f m).map (showItem true [0x22] [0x3a]) ∧
    formatItems f m false [] (str "=") = (printedFields f m).map (showItem false [] (str "=")) := by
  constructor <;>
  · unfold formatItems printedFields
    rw [List.map_filterMap]
    congr 1
    funext s
    rw [itemOf_eq]

/-- in particular the two forms have the same number of items -/
theorem same_item_count (f : Fmt) (m : FlowMsg) :
    (formatItems f m true [0x22] [0x3a]).length = (formatItems f m false [] (str "=")).length := by
  rw [(forms_agree f m).1, (forms_agree f m).2]; simp

end Goflow.C13
