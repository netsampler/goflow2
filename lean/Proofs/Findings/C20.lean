import Goflow.Conc.KafkaLifecycle
/-!
  Negative controls for C20 (lifecycles, error forwarding): the two variants of `KafkaDriver.Close` that the theorems of
  `Proofs/C20Faults.lean` exclude by hypothesis, with the run that breaks each.
-/
namespace Goflow.Findings.C20
open Goflow Goflow.Conc.KafkaAdapter Goflow.Conc.KafkaLifecycle

def a : KMsg := ⟨"t", [1], [10]⟩
def b : KMsg := ⟨"t", [2], [20]⟩

/-! a `sync.Once`-guarded Close (seeded change C20-9) -/

def onceCfg : Cfg := ⟨false, 1, true, false⟩

def twoLives : List Ev :=
  [.init, .send [1] [10], .closeCall, .life 0 (.deliver a 0), .life 0 .errorsClosed, .life 0 .closeSeesEnd, .life 0 .closeQ,
   .init, .send [2] [20], .closeCall]

/-- the Once belongs to the singleton driver, not to the producer: the second lifecycle's Close is a no-op. It returns
    while the message of lifecycle 2 is still in flight, neither delivered nor reported; `producer.Close()` of the
    second producer was never called, its `p.errors` is open, its forwarder still waits. -/
theorem once_close_skips_second_lifecycle :
    let s := run onceCfg (initSys "t") twoLives
    (s.lives.map (·.close)) = [CPc.returned, CPc.returned] ∧
    (s.lives.map (·.pending)) = [[], [b]] ∧
    (s.lives.map (·.delivered)) = [[(a, 0)], []] ∧
    (s.lives.map (·.reported)) = [[], []] ∧
    (s.lives.map (·.errClosed)) = [true, false] ∧
    (s.lives.map (·.fwd)) = [FPc.waiting, FPc.waiting] := by decide

/-- the same schedule with Go's Close: the second Close is in progress and cannot return before the message is
    delivered or reported -/
theorem go_close_waits_second_lifecycle :
    let s := run (goCfg false 1) (initSys "t") twoLives
    (s.lives.map (·.close)) = [CPc.returned, CPc.draining] ∧
    (s.lives.map (·.pending)) = [[], [b]] ∧
    step (goCfg false 1) s (.life 1 .errorsClosed) = none ∧ step (goCfg false 1) s (.life 1 .closeSeesEnd) = none := by decide

/-- call level: with the Once the second producer is never closed, so the sarama contract, which speaks about a
    producer's Close, promises nothing for the messages of lifecycle 2 -/
theorem once_second_producer_never_closed :
    (runOps true { topic := "t" } (allOps [[([1], [10])], [([2], [20])]])).map producers =
      some [⟨"t", [a], true⟩, ⟨"t", [b], false⟩] ∧
    (runOps false { topic := "t" } (allOps [[([1], [10])], [([2], [20])]])).map producers =
      some [⟨"t", [a], true⟩, ⟨"t", [b], true⟩] := by decide

/-! Close forwards the errors of the final flush with a blocking send (seeded change C20-8) -/

def blockingCfg : Cfg := ⟨false, 1, false, true⟩

/-- the broker rejects the message during the final flush (Close's own range loop takes the event); `p.errors` is closed;
    the forwarder passes the nil end marker on; the reader, as main.go's does, returns; `producer.Close()` returns
    the collected error -/
def rejectAtClose : List Ev :=
  [.init, .send [1] [10], .closeCall, .life 0 (.failToClose a), .life 0 .errorsClosed, .life 0 .fwdSeesEnd, .life 0 .fwdForward,
   .life 0 .closeSeesEnd]

theorem blocking_state :
    run blockingCfg (initSys "t") rejectAtClose =
      { topic := "t",
        lives := [{ input := [a], pending := [], delivered := [], reported := [a], collected := [a], errClosed := true,
                    qClosed := false, fwd := FPc.exited, close := CPc.forwarding [a] }],
        onceDone := true, reader := Reader.stopped, readerGot := [none] } := by decide

/-- Close waits forever: it is at `d.errors <- err`, the reader has stopped after the nil end marker, and no event at all
    is enabled, now and therefore ever: the call does not return. -/
theorem blocking_forward_deadlock :
    let s := run blockingCfg (initSys "t") rejectAtClose
    closingAt s 0 ∧ ∀ e, step blockingCfg s e = none := by
  intro s
  have hs : s = _ := blocking_state
  refine ⟨?_, ?_⟩
  · rw [hs]; exact ⟨rfl, _, rfl, rfl⟩
  · intro e
    rw [hs]
    cases e with
    | init => rfl
    | send k v => rfl
    | closeCall => rfl
    | readerQuit => rfl
    | life l ev =>
      cases l with
      | zero => cases ev <;> simp [step, lifeStep]
      | succ l => simp [step]

/-- Go's Close on the same schedule: the collected errors are not forwarded, Close goes on to `close(d.q)` and returns
    although the reader has stopped -/
theorem go_close_returns_same_schedule :
    let s := run (goCfg false 1) (initSys "t") (rejectAtClose ++ [.life 0 .closeQ])
    (s.lives.map (·.close)) = [CPc.returned] ∧ s.reader = Reader.stopped ∧ (s.lives.map (·.reported)) = [[a]] := by decide

end Goflow.Findings.C20
