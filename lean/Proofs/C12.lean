import Goflow.Pipe
import Goflow.Basic.MsgDump
/-!
  C12 — Messages do not depend on what was processed before. In the model every message starts from `FlowMsg.empty`
  (what `Reset()` leaves) and `decodeFlow` reads the state only through the exporter's own template store and its
  IP's sampling rates. That the real code behaves like this model with an arbitrarily poisoned sync.Pool is what the
  correspondence check of this property exercises.
-/
namespace Goflow.C12
open Goflow Goflow.Pipe Goflow.Producer

/-- the part of the state a datagram from `src` can observe -/
def relevant (st : State) (src : Src) : Netflow.Store × Rates := (st.templatesOf src, st.ratesOf src.ip)

/-- Reset() leaves nothing behind: every column, every repeated field and the unknown fields are empty -/
theorem reset_total : FlowMsg.empty.dump = "msg" ∧ FlowMsg.empty.unk = [] ∧
    flowMessageColumns.all (fun c => (FlowMsg.empty.dumpField c).isNone) = true := by
  decide +kernel

/-- what the caller of `DecodeFlow` sees of a run -/
def seen (o : Out) : List FlowMsg × Option Err := (o.msgs, o.err)

theorem sflowPipe_seen (cfg : Config) (st st' : State) (recv : Nat) (d : Bytes) :
    seen (sflowPipe cfg st recv d) = seen (sflowPipe cfg st' recv d) := by
  unfold sflowPipe
  split
  · rfl
  · split <;> rfl

/-- The messages and the outcome of a datagram are a function of the datagram, the receive metadata, the configuration
    and the exporter's template / sampling state only: two states that agree on that part, whatever else they
    contain, give the same output. -/
theorem pool_independent (k : Kind) (cfg : Config) (st st' : State) (src : Src) (recv : Nat) (d : Bytes)
    (h : relevant st src = relevant st' src) :
    (decodeFlow k cfg st src recv d).msgs = (decodeFlow k cfg st' src recv d).msgs ∧
    (decodeFlow k cfg st src recv d).err = (decodeFlow k cfg st' src recv d).err := by
  simp only [relevant, Prod.mk.injEq] at h
  have hrates (s : State) (t : Netflow.Store) : (s.setTemplates src t).ratesOf src.ip = s.ratesOf src.ip := rfl
  have nf : seen (netflowPipe cfg st src recv d) = seen (netflowPipe cfg st' src recv d) := by
    unfold netflowPipe
    simp only [h.1, hrates, h.2]
    cases readU 2 d with
    | error e => rfl
    | ok vb =>
      dsimp only
      -- `split` on the two conditions is slow to check on a goal this size
      by_cases h5 : vb.1 = 5
      · simp only [if_pos h5]
        split <;> rfl
      · simp only [if_neg h5]
        by_cases h9 : vb.1 = 9 ∨ vb.1 = 10
        · simp only [if_pos h9]
          split
          · rfl
          · split <;> rfl
        · simp only [if_neg h9]
          rfl
  have sf := sflowPipe_seen cfg st st' recv d
  have key : seen (decodeFlow k cfg st src recv d) = seen (decodeFlow k cfg st' src recv d) := by
    cases k with
    | netflow => exact nf
    | sflow => exact sf
    | auto =>
      unfold decodeFlow autoPipe
      simp only
      split
      · rfl
      · split
        · exact sf
        · split
          · exact nf
          · rfl
  exact ⟨congrArg Prod.fst key, congrArg Prod.snd key⟩

/-- sFlow and NetFlow v5 datagrams do not look at the state at all -/
theorem sflow_stateless (cfg : Config) (st st' : State) (recv : Nat) (d : Bytes) :
    (sflowPipe cfg st recv d).msgs = (sflowPipe cfg st' recv d).msgs :=
  congrArg Prod.fst (sflowPipe_seen cfg st st' recv d)

/-- two different states that agree on the relevant part -/
example : relevant ({} : State) ⟨[10,0,0,1], 2055⟩ =
    relevant ({ templates := [(⟨[10,0,0,2], 2055⟩, [(1, default)])], sampling := [([10,0,0,9], [((9,1), 100)])] } : State) ⟨[10,0,0,1], 2055⟩ := by
  decide

end Goflow.C12
