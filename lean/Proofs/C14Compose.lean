import Proofs.C14Map
import Proofs.C14Compile
import Proofs.C10Full
/-!
  C14 — the layer mappings composed over whole frames. The parsers neither read nor write the unknown section, and
  which parser follows depends on the bytes only; so the recognised layers of a byte string (`layerTrace`: keys, byte
  offset, encapsulation flag) can be listed without the message, and for every byte string the dissector with layer
  statements is the dissector without them plus `traceEnc` over that list (`parsePacket_layers_commute`). On a frame
  of the C10 grammar the list is `frameTrace`, written from the frame (`packetTrace_frame`); hence
  `full_capture_mapped` and, starting from the mapping file, `file_full_capture`.
-/
namespace Goflow.C14Compose
open Goflow Goflow.Producer Goflow.C14Map

def setUnk (m : FlowMsg) (u : Bytes) : FlowMsg := { m with unk := u }

def addSize (m : FlowMsg) (size : Nat) : FlowMsg := { m with layerSize := m.layerSize ++ [size % 2 ^ 32] }

theorem addSize_setUnk (m : FlowMsg) (u : Bytes) (size : Nat) : addSize (setUnk m u) size = setUnk (addSize m size) u := rfl
theorem addSize_unk (m : FlowMsg) (size : Nat) : (addSize m size).unk = m.unk := rfl

theorem setUnk_unk (m : FlowMsg) (u : Bytes) : (setUnk m u).unk = u := rfl
theorem setUnk_layerStack (m : FlowMsg) (u : Bytes) : (setUnk m u).layerStack = m.layerStack := rfl
theorem setUnk_self (m : FlowMsg) : setUnk m m.unk = m := rfl
theorem setUnk_setUnk (m : FlowMsg) (u u' : Bytes) : setUnk (setUnk m u) u' = setUnk m u' := rfl

theorem ite_rel {α β} {c : Prop} [Decidable c] (P : α → β → Prop) {a b : α} {a' b' : β} (h1 : P a a') (h2 : P b b') :
    P (if c then a else b) (if c then a' else b') := by
  split <;> assumption

def UnkRel (u : Bytes) (r' r : PRes) : Prop := r' = ⟨setUnk r.msg u, r.next, r.size⟩

/-- the form of every parser's success branch: the layer is added and, under a condition, fields other than `unk` are set -/
theorem layer_unk {c : Prop} [Decidable c] {u : Bytes} {m g g' : FlowMsg} {n : String} {nx : Next} {sz : Nat}
    (h : g' = setUnk g u) :
    UnkRel u ⟨if c then g' else addLayer (setUnk m u) n, nx, sz⟩ ⟨if c then g else addLayer m n, nx, sz⟩ := by
  unfold UnkRel
  split
  · rw [h]
  · rfl

theorem runParser_unk (p : Parser) (m : FlowMsg) (u : Bytes) (d : Bytes) (pc : PC) :
    runParser p (setUnk m u) d pc =
      ⟨setUnk (runParser p m d pc).msg u, (runParser p m d pc).next, (runParser p m d pc).size⟩ := by
  cases p
  case none | teredo => rfl
  case gre | geneve => exact ite_rel (UnkRel u) rfl rfl
  case mpls =>
    simp only [runParser, parseMPLS]
    generalize mplsLoop d (d.length / 4 + 1) 0 [] [] = r
    obtain ⟨ls, ts, off, et⟩ := r
    cases et <;> exact ite_rel (UnkRel u) rfl (layer_unk rfl)
  case ipv6route => exact ite_rel (UnkRel u) rfl (layer_unk (ite_rel (fun x' x => x' = setUnk x u) rfl rfl))
  all_goals exact ite_rel (UnkRel u) rfl (layer_unk rfl)

def SameShape (m m' : FlowMsg) (r r' : PRes) : Prop :=
  r.next = r'.next ∧ r.size = r'.size ∧
    ∃ l, r.msg.layerStack = m.layerStack ++ l ∧ r'.msg.layerStack = m'.layerStack ++ l

theorem tooShort_shape (m m' : FlowMsg) : SameShape m m' (tooShort m) (tooShort m') :=
  ⟨rfl, rfl, [], (List.append_nil _).symm, (List.append_nil _).symm⟩

theorem layer_shape {c c' : Prop} [Decidable c] [Decidable c'] {m m' g g' : FlowMsg} {n : String} {nx : Next} {sz : Nat}
    (h : g.layerStack = (addLayer m n).layerStack) (h' : g'.layerStack = (addLayer m' n).layerStack) :
    SameShape m m' ⟨if c then g else addLayer m n, nx, sz⟩ ⟨if c' then g' else addLayer m' n, nx, sz⟩ := by
  refine ⟨rfl, rfl, [layerStackValue n], ?_, ?_⟩
  · show (if c then g else addLayer m n).layerStack = _
    split
    · exact h
    · rfl
  · show (if c' then g' else addLayer m' n).layerStack = _
    split
    · exact h'
    · rfl

/-- successor, size and recognition depend on the bytes and the registered ports only: not on the message, the call
    count or the encapsulation flag -/
theorem runParser_shape (p : Parser) (m m' : FlowMsg) (d : Bytes) (pc pc' : PC) (hp : pc.ports = pc'.ports) :
    SameShape m m' (runParser p m d pc) (runParser p m' d pc') := by
  obtain ⟨e, c, ports⟩ := pc
  obtain ⟨e', c', ports'⟩ := pc'
  obtain rfl : ports = ports' := hp
  cases p
  case none => exact tooShort_shape m m'
  case teredo => exact ⟨rfl, rfl, _, rfl, rfl⟩
  case gre | geneve => exact ite_rel (SameShape m m') (tooShort_shape m m') ⟨rfl, rfl, _, rfl, rfl⟩
  case mpls =>
    simp only [runParser, parseMPLS]
    generalize mplsLoop d (d.length / 4 + 1) 0 [] [] = r
    obtain ⟨ls, ts, off, et⟩ := r
    cases et <;> exact ite_rel (SameShape m m') (tooShort_shape m m') (layer_shape rfl rfl)
  case ipv6route =>
    exact ite_rel (SameShape m m') (tooShort_shape m m') (layer_shape (by split <;> rfl) (by split <;> rfl))
  all_goals exact ite_rel (SameShape m m') (tooShort_shape m m') (layer_shape rfl rfl)

/-- a recognised layer: its configuration keys (`ConfigKeyList`), its byte offset, whether the dissector regards it
    as encapsulated -/
abbrev Layer := List String × Nat × Bool

/-- the recursion of `parseLoop` with the parsers run on the empty message (`runParser_shape`); a layer is listed when
    its parser added an entry to the layer stack -/
def layerTrace (ports : List PortEntry) (data : Bytes) : Nat → Next → Nat → Bool → Nat → List Layer
  | 0, _, _, _, _ => []
  | fuel + 1, next, offset, encap, encapIndex =>
    if next.callable ∧ offset ≤ data.length then
      let r := runParser next.parser FlowMsg.empty (data.drop offset) ⟨encap, 0, ports⟩
      let idx := encapIdx encapIndex next.encapSkip next.layerIndex
      let encap' := encap || encapTrig idx r.next.encapSkip r.next.layerIndex
      let rest := layerTrace ports data fuel r.next (offset + r.size) encap' idx
      if 0 < r.msg.layerStack.length then (next.keys, offset, encap) :: rest else rest
    else []

/-- from the start state of `parsePacket` -/
def packetTrace (ports : List PortEntry) (data : Bytes) : List Layer :=
  layerTrace ports data (2 * data.length + 4) ⟨.ethernet, Parser.ethernet.keys, false⟩ 0 false Parser.ethernet.layerIndex

/-- one value into a destination outside the message struct; `protoIndex = 0` is an undeclared name -/
def customEncRes (f : MapField) (v : Bytes) : Res Bytes :=
  if f.protoIndex = 0 then .ok []
  else
    match f.protoType with
    | .varint => if v.length ≤ 8 then .ok (appendTag f.protoIndex 0 ++ appendVarint (endianVal f.little v)) else .error .bad
    | .string => .ok (appendTag f.protoIndex 2 ++ appendVarint v.length ++ v)
    | .none => .error .bad

theorem mapCustom_notMember (m : FlowMsg) (v : Bytes) (f : MapField) (hd : NotMember f.destination) :
    mapCustom m v f = match customEncRes f v with
      | .error e => .error e
      | .ok x => .ok (setUnk m (m.unk ++ x)) := by
  unfold customEncRes setUnk
  by_cases hi : f.protoIndex = 0
  · rw [mapCustom_undeclared m v f hd hi]; simp [hi]
  · have hpos : 0 < f.protoIndex := Nat.pos_of_ne_zero hi
    simp only [hi, if_false]
    cases ht : f.protoType with
    | varint =>
      by_cases hv : v.length ≤ 8
      · rw [mapCustom_custom_varint m v f hd hpos ht hv]; simp [hv, List.append_assoc]
      · rw [mapCustom_custom_varint_long m v f hd hpos ht (by omega)]; simp [hv]
    | string => rw [mapCustom_custom_bytes m v f hd hpos ht]; simp [List.append_assoc]
    | none =>
      obtain ⟨hk, h1, h2, h3, h4, h5, h6⟩ := hd
      unfold mapCustom
      simp [hk, h1, h2, h3, h4, h5, h6, hpos, ht]

def entriesEnc (data : Bytes) (offset : Nat) : List LayerMapEntry → Res Bytes
  | [] => .ok []
  | e :: es =>
    match getBytes data ((offset : Int) * 8 + e.offset) e.length true with
    | .error err => .error err
    | .ok v =>
      match customEncRes e.field v with
      | .error err => .error err
      | .ok x =>
        match entriesEnc data offset es with
        | .error err => .error err
        | .ok y => .ok (x ++ y)

theorem entriesEnc_append (data : Bytes) (offset : Nat) (es es' : List LayerMapEntry) :
    entriesEnc data offset (es ++ es') =
      match entriesEnc data offset es with
      | .error err => .error err
      | .ok x => match entriesEnc data offset es' with
        | .error err => .error err
        | .ok y => .ok (x ++ y) := by
  fun_induction entriesEnc data offset es <;> simp only [List.cons_append, List.nil_append, entriesEnc, *]
  all_goals cases entriesEnc data offset es' <;> simp

def selected (layers : List LayerMapEntry) (l : Layer) : List LayerMapEntry :=
  (l.1.flatMap (lookupLayer layers)).filter (fun e => e.encap == l.2.2)

def layerEnc (layers : List LayerMapEntry) (data : Bytes) (l : Layer) : Res Bytes :=
  entriesEnc data l.2.1 (selected layers l)

def traceEnc (layers : List LayerMapEntry) (data : Bytes) : List Layer → Res Bytes
  | [] => .ok []
  | l :: ls =>
    match layerEnc layers data l with
    | .error err => .error err
    | .ok x =>
      match traceEnc layers data ls with
      | .error err => .error err
      | .ok y => .ok (x ++ y)

def CustomLayers (cfg : Config) : Prop := ∀ e ∈ cfg.layers, NotMember e.field.destination

instance (cfg : Config) : Decidable (CustomLayers cfg) := by unfold CustomLayers; infer_instance

theorem mapLayerEntries_unk (data : Bytes) (offset : Nat) (encap : Bool) (es : List LayerMapEntry) (m : FlowMsg)
    (h : ∀ e ∈ es, NotMember e.field.destination) :
    mapLayerEntries data offset encap es m =
      match entriesEnc data offset (es.filter (fun e => e.encap == encap)) with
      | .error err => .error err
      | .ok x => .ok (setUnk m (m.unk ++ x)) := by
  induction es generalizing m with
  | nil => simp [mapLayerEntries, entriesEnc, setUnk]
  | cons e es ih =>
    have ih' := fun m => ih m (fun e' he' => h e' (List.mem_cons_of_mem _ he'))
    unfold mapLayerEntries
    by_cases he : e.encap = encap
    · have hb : (e.encap != encap) = false := by simp [he]
      have hf : (e.encap == encap) = true := by simp [he]
      simp only [hb, Bool.false_eq_true, if_false, List.filter_cons, hf, if_true, entriesEnc]
      cases getBytes data ((offset : Int) * 8 + e.offset) e.length true with
      | error err => rfl
      | ok v =>
        simp only [mapCustom_notMember m v e.field (h e List.mem_cons_self)]
        cases customEncRes e.field v with
        | error err => rfl
        | ok x =>
          simp only [ih']
          cases entriesEnc data offset (es.filter (fun e => e.encap == encap)) with
          | error err => rfl
          | ok y => simp [List.append_assoc, setUnk]
    · have hb : (e.encap != encap) = true := by simp [he]
      have hf : (e.encap == encap) = false := by simp [he]
      simp only [hb, if_true, List.filter_cons, hf, Bool.false_eq_true, if_false]
      exact ih' m

theorem mapLayerKeys_unk (cfg : Config) (hcfg : CustomLayers cfg) (data : Bytes) (offset : Nat) (encap : Bool)
    (keys : List String) (m : FlowMsg) :
    mapLayerKeys cfg data offset encap keys m =
      match layerEnc cfg.layers data (keys, offset, encap) with
      | .error err => .error err
      | .ok x => .ok (setUnk m (m.unk ++ x)) := by
  unfold layerEnc selected
  induction keys generalizing m with
  | nil => simp [mapLayerKeys, entriesEnc, setUnk]
  | cons k ks ih =>
    unfold mapLayerKeys
    have hk : ∀ e ∈ lookupLayer cfg.layers k, NotMember e.field.destination := by
      intro e he
      unfold lookupLayer at he
      exact hcfg e (List.mem_filter.1 he).1
    rw [mapLayerEntries_unk data offset encap _ m hk]
    simp only [List.flatMap_cons, List.filter_append, entriesEnc_append]
    cases entriesEnc data offset ((lookupLayer cfg.layers k).filter (fun e => e.encap == encap)) with
    | error err => rfl
    | ok x =>
      simp only [ih]
      cases entriesEnc data offset ((ks.flatMap (lookupLayer cfg.layers)).filter (fun e => e.encap == encap)) with
      | error err => rfl
      | ok y => simp [List.append_assoc, setUnk]

/-- one iteration of the loop, given the parser's result -/
def loopCont (cfg : Config) (data : Bytes) (fuel : Nat) (next : Next) (off : Nat) (enc : Bool) (idx : Nat)
    (calls : List (Nat × Nat)) (m : FlowMsg) (r : PRes) : Res FlowMsg :=
  match (if m.layerStack.length < r.msg.layerStack.length then mapLayerKeys cfg data off enc next.keys r.msg else .ok r.msg) with
  | .error e => .error e
  | .ok m1 =>
    parseLoop cfg data fuel r.next (off + r.size)
      (enc || encapTrig (encapIdx idx next.encapSkip next.layerIndex) r.next.encapSkip r.next.layerIndex)
      (encapIdx idx next.encapSkip next.layerIndex) (bump calls next.parserIndex)
      (if m.layerStack.length < r.msg.layerStack.length then { m1 with layerSize := m1.layerSize ++ [r.size % 2 ^ 32] } else m1)

theorem parseLoop_succ (cfg : Config) (data : Bytes) (fuel : Nat) (next : Next) (off : Nat) (enc : Bool) (idx : Nat)
    (calls : List (Nat × Nat)) (m : FlowMsg) :
    parseLoop cfg data (fuel + 1) next off enc idx calls m =
      if next.callable = true ∧ off ≤ data.length then
        loopCont cfg data fuel next off enc idx calls m
          (runParser next.parser m (data.drop off) ⟨enc, (calls.lookup next.parserIndex).getD 0, cfg.ports⟩)
      else .ok m := by
  rw [parseLoop]
  unfold loopCont
  by_cases hc : next.callable = true ∧ off ≤ data.length
  · simp only [hc, and_self, if_true, decide_eq_true_eq]
    by_cases hr : m.layerStack.length <
        (runParser next.parser m (data.drop off) ⟨enc, (calls.lookup next.parserIndex).getD 0, cfg.ports⟩).msg.layerStack.length
    · simp only [hr, if_true]
      rfl
    · simp only [hr, if_false]
  · simp only [hc, if_false]

theorem loopCont_rec (cfg : Config) (data : Bytes) (fuel : Nat) (next : Next) (off : Nat) (enc : Bool) (idx : Nat)
    (calls : List (Nat × Nat)) (m : FlowMsg) (r : PRes) (h : m.layerStack.length < r.msg.layerStack.length) :
    loopCont cfg data fuel next off enc idx calls m r =
      match mapLayerKeys cfg data off enc next.keys r.msg with
      | .error e => .error e
      | .ok m1 =>
        parseLoop cfg data fuel r.next (off + r.size)
          (enc || encapTrig (encapIdx idx next.encapSkip next.layerIndex) r.next.encapSkip r.next.layerIndex)
          (encapIdx idx next.encapSkip next.layerIndex) (bump calls next.parserIndex) (addSize m1 r.size) := by
  unfold loopCont addSize
  simp only [h, if_true]

theorem loopCont_unrec (cfg : Config) (data : Bytes) (fuel : Nat) (next : Next) (off : Nat) (enc : Bool) (idx : Nat)
    (calls : List (Nat × Nat)) (m : FlowMsg) (r : PRes) (h : ¬ m.layerStack.length < r.msg.layerStack.length) :
    loopCont cfg data fuel next off enc idx calls m r =
      parseLoop cfg data fuel r.next (off + r.size)
        (enc || encapTrig (encapIdx idx next.encapSkip next.layerIndex) r.next.encapSkip r.next.layerIndex)
        (encapIdx idx next.encapSkip next.layerIndex) (bump calls next.parserIndex) r.msg := by
  unfold loopCont
  simp only [h, if_false]

open Goflow.C10 in
theorem parseLoop_unk (cfg0 : Config) (h0 : cfg0.layers = []) (data : Bytes) (fuel : Nat) :
    ∀ (next : Next) (off : Nat) (enc : Bool) (idx : Nat) (calls : List (Nat × Nat)) (m : FlowMsg) (u : Bytes),
    parseLoop cfg0 data fuel next off enc idx calls (setUnk m u) =
      match parseLoop cfg0 data fuel next off enc idx calls m with
      | .error e => .error e
      | .ok m' => .ok (setUnk m' u) := by
  induction fuel with
  | zero => intros; rfl
  | succ fuel ih =>
    intro next off enc idx calls m u
    rw [parseLoop_succ, parseLoop_succ]
    by_cases hc : next.callable = true ∧ off ≤ data.length
    · rw [if_pos hc, if_pos hc, runParser_unk]
      generalize runParser next.parser m (data.drop off) ⟨enc, (calls.lookup next.parserIndex).getD 0, cfg0.ports⟩ = r
      by_cases hr : m.layerStack.length < r.msg.layerStack.length
      · rw [loopCont_rec cfg0 data fuel next off enc idx calls (setUnk m u) ⟨setUnk r.msg u, r.next, r.size⟩ hr,
          loopCont_rec cfg0 data fuel next off enc idx calls m r hr]
        simp only [mapLayerKeys_nil h0, addSize_setUnk]
        exact ih _ _ _ _ _ _ u
      · rw [loopCont_unrec cfg0 data fuel next off enc idx calls (setUnk m u) ⟨setUnk r.msg u, r.next, r.size⟩ hr,
          loopCont_unrec cfg0 data fuel next off enc idx calls m r hr]
        exact ih _ _ _ _ _ _ u
    · rw [if_neg hc, if_neg hc]

theorem parseLoop_unk_eq (cfg0 : Config) (h0 : cfg0.layers = []) (data : Bytes) (fuel : Nat)
    (next : Next) (off : Nat) (enc : Bool) (idx : Nat) (calls : List (Nat × Nat)) (m m' : FlowMsg)
    (h : parseLoop cfg0 data fuel next off enc idx calls m = .ok m') : m'.unk = m.unk := by
  have := parseLoop_unk cfg0 h0 data fuel next off enc idx calls m m.unk
  rw [setUnk_self, h] at this
  have h2 := Except.ok.inj this
  rw [h2]; rfl

def traceRest (ports : List PortEntry) (data : Bytes) (fuel : Nat) (next : Next) (off : Nat) (enc : Bool) (idx : Nat)
    (nxt : Next) (size : Nat) : List Layer :=
  layerTrace ports data fuel nxt (off + size)
    (enc || encapTrig (encapIdx idx next.encapSkip next.layerIndex) nxt.encapSkip nxt.layerIndex)
    (encapIdx idx next.encapSkip next.layerIndex)

theorem layerTrace_zero (ports : List PortEntry) (data : Bytes) (next : Next) (off : Nat) (enc : Bool) (idx : Nat) :
    layerTrace ports data 0 next off enc idx = [] := rfl

/-- the parser may be run on any message and any `PC` with the same ports (`runParser_shape`) -/
theorem layerTrace_succ (ports : List PortEntry) (data : Bytes) (fuel : Nat) (next : Next) (off : Nat) (enc : Bool) (idx : Nat)
    (m : FlowMsg) (pc : PC) (hp : pc.ports = ports) :
    layerTrace ports data (fuel + 1) next off enc idx =
      if next.callable = true ∧ off ≤ data.length then
        if m.layerStack.length < (runParser next.parser m (data.drop off) pc).msg.layerStack.length then
          (next.keys, off, enc) :: traceRest ports data fuel next off enc idx
            (runParser next.parser m (data.drop off) pc).next (runParser next.parser m (data.drop off) pc).size
        else traceRest ports data fuel next off enc idx
            (runParser next.parser m (data.drop off) pc).next (runParser next.parser m (data.drop off) pc).size
      else [] := by
  rw [layerTrace]
  by_cases hc : next.callable = true ∧ off ≤ data.length
  · rw [if_pos hc, if_pos hc]
    obtain ⟨h1, h2, l, hl, hl0⟩ := runParser_shape next.parser m FlowMsg.empty (data.drop off) pc ⟨enc, 0, ports⟩ hp
    unfold traceRest
    rw [h1, h2, hl]
    dsimp only
    rw [hl0]
    cases l <;> simp [FlowMsg.empty]
  · rw [if_neg hc, if_neg hc]

theorem traceEnc_nil (layers : List LayerMapEntry) (data : Bytes) : traceEnc layers data [] = .ok [] := rfl

def noLayers (cfg : Config) : Config := { cfg with layers := [] }

theorem noLayers_layers (cfg : Config) : (noLayers cfg).layers = [] := rfl
theorem noLayers_ports (cfg : Config) : (noLayers cfg).ports = cfg.ports := rfl

open Goflow.C10 in
theorem parseLoop_layers (cfg : Config) (hcfg : CustomLayers cfg) (data : Bytes) (fuel : Nat) :
    ∀ (next : Next) (off : Nat) (enc : Bool) (idx : Nat) (calls : List (Nat × Nat)) (m : FlowMsg),
    parseLoop cfg data fuel next off enc idx calls m =
      match traceEnc cfg.layers data (layerTrace cfg.ports data fuel next off enc idx) with
      | .error e => .error e
      | .ok ext =>
        match parseLoop (noLayers cfg) data fuel next off enc idx calls m with
        | .error e => .error e
        | .ok m' => .ok (setUnk m' (m'.unk ++ ext)) := by
  induction fuel with
  | zero => intros; rfl
  | succ fuel ih =>
    intro next off enc idx calls m
    rw [parseLoop_succ, parseLoop_succ,
      layerTrace_succ cfg.ports data fuel next off enc idx m ⟨enc, (calls.lookup next.parserIndex).getD 0, cfg.ports⟩ rfl]
    by_cases hc : next.callable = true ∧ off ≤ data.length
    · rw [if_pos hc, if_pos hc, if_pos hc, noLayers_ports]
      generalize runParser next.parser m (data.drop off) ⟨enc, (calls.lookup next.parserIndex).getD 0, cfg.ports⟩ = r
      by_cases hr : m.layerStack.length < r.msg.layerStack.length
      · rw [if_pos hr, loopCont_rec _ _ _ _ _ _ _ _ m r hr, loopCont_rec _ _ _ _ _ _ _ _ m r hr,
          mapLayerKeys_nil (noLayers_layers cfg), mapLayerKeys_unk cfg hcfg, traceEnc]
        cases hx : layerEnc cfg.layers data (next.keys, off, enc) with
        | error err => rfl
        | ok x =>
          dsimp only
          rw [addSize_setUnk, ih]
          unfold traceRest
          cases traceEnc cfg.layers data (layerTrace cfg.ports data fuel r.next (off + r.size)
            (enc || encapTrig (encapIdx idx next.encapSkip next.layerIndex) r.next.encapSkip r.next.layerIndex)
            (encapIdx idx next.encapSkip next.layerIndex)) with
          | error err => rfl
          | ok y =>
            dsimp only
            rw [parseLoop_unk (noLayers cfg) (noLayers_layers cfg)]
            cases hm : parseLoop (noLayers cfg) data fuel r.next (off + r.size)
              (enc || encapTrig (encapIdx idx next.encapSkip next.layerIndex) r.next.encapSkip r.next.layerIndex)
              (encapIdx idx next.encapSkip next.layerIndex) (bump calls next.parserIndex) (addSize r.msg r.size) with
            | error err => rfl
            | ok m' =>
              have hu := parseLoop_unk_eq (noLayers cfg) (noLayers_layers cfg) _ _ _ _ _ _ _ _ _ hm
              simp only [setUnk_setUnk, setUnk_unk, hu, addSize_unk, List.append_assoc]
      · rw [if_neg hr, loopCont_unrec _ _ _ _ _ _ _ _ m r hr, loopCont_unrec _ _ _ _ _ _ _ _ m r hr, ih]
        rfl
    · rw [if_neg hc, if_neg hc, if_neg hc]
      simp [traceEnc_nil, setUnk]

/-- For every configuration whose layer statements all have destinations outside the message struct, every start
    message and every byte string: the dissector without the layer statements succeeds with some `m'`, and the
    dissector with them yields `m'` with the unknown section extended by `traceEnc` over the recognised layers, or
    the error of the first failing statement. So every column is that of `m'`, and every recognised layer that a
    statement matches contributes. -/
theorem parsePacket_layers_commute (cfg : Config) (hcfg : CustomLayers cfg) (m : FlowMsg) (data : Bytes) :
    ∃ m', parsePacket (noLayers cfg) m data = .ok m' ∧ m'.unk = m.unk ∧
      parsePacket cfg m data =
        match traceEnc cfg.layers data (packetTrace cfg.ports data) with
        | .error e => .error e
        | .ok ext => .ok { m' with unk := m.unk ++ ext } := by
  obtain ⟨m', hm'⟩ := parsePacket_safe (noLayers cfg) (noLayers_layers cfg) m data
  have hu : m'.unk = m.unk := by
    unfold parsePacket at hm'
    exact parseLoop_unk_eq (noLayers cfg) (noLayers_layers cfg) _ _ _ _ _ _ _ _ _ hm'
  refine ⟨m', hm', hu, ?_⟩
  have h := parseLoop_layers cfg hcfg data (2 * data.length + 4) ⟨.ethernet, Parser.ethernet.keys, false⟩ 0 false
    Parser.ethernet.layerIndex [] m
  unfold parsePacket at hm' ⊢
  rw [h, hm']
  unfold packetTrace
  cases traceEnc cfg.layers data (layerTrace cfg.ports data (2 * data.length + 4) ⟨.ethernet, Parser.ethernet.keys, false⟩ 0 false
    Parser.ethernet.layerIndex) with
  | error e => rfl
  | ok ext => simp only [setUnk, hu]

theorem parsePacket_layers_eq (cfg : Config) (hcfg : CustomLayers cfg) (m : FlowMsg) (data : Bytes) :
    parsePacket cfg m data =
      match traceEnc cfg.layers data (packetTrace cfg.ports data) with
      | .error e => .error e
      | .ok ext =>
        match parsePacket { cfg with layers := [] } m data with
        | .error e => .error e
        | .ok m' => .ok { m' with unk := m'.unk ++ ext } :=
  parseLoop_layers cfg hcfg data (2 * data.length + 4) ⟨.ethernet, Parser.ethernet.keys, false⟩ 0 false
    Parser.ethernet.layerIndex [] m

/-- a configuration without layer statements matching any recognised layer leaves the packet alone -/
theorem parsePacket_unmatched (cfg : Config) (hcfg : CustomLayers cfg) (m : FlowMsg) (data : Bytes)
    (hno : ∀ l ∈ packetTrace cfg.ports data, selected cfg.layers l = []) :
    parsePacket cfg m data = parsePacket (noLayers cfg) m data := by
  obtain ⟨m', hm', hu, h⟩ := parsePacket_layers_commute cfg hcfg m data
  rw [h, hm']
  have : traceEnc cfg.layers data (packetTrace cfg.ports data) = .ok [] := by
    generalize packetTrace cfg.ports data = tr at hno
    induction tr with
    | nil => rfl
    | cons l ls ih =>
      rw [traceEnc, ih (fun l' hl' => hno l' (List.mem_cons_of_mem _ hl'))]
      unfold layerEnc
      rw [hno l List.mem_cons_self]
      rfl
  rw [this]
  simp only [List.append_nil, ← hu]

def encOf (f : MapField) (v : Bytes) : Bytes := if f.protoIndex = 0 then [] else customEnc f v

/-- a layer statement the documentation covers -/
def SaneEntry (e : LayerMapEntry) : Prop :=
  NotMember e.field.destination ∧ 0 ≤ e.offset ∧ 0 ≤ e.length ∧
    (e.field.protoIndex = 0 ∨ e.field.protoType = .string ∨ (e.field.protoType = .varint ∧ e.length ≤ 64))

instance (e : LayerMapEntry) : Decidable (SaneEntry e) := by unfold SaneEntry; infer_instance

def SaneLayers (cfg : Config) : Prop := ∀ e ∈ cfg.layers, SaneEntry e

instance (cfg : Config) : Decidable (SaneLayers cfg) := by unfold SaneLayers; infer_instance

theorem SaneLayers.custom {cfg : Config} (h : SaneLayers cfg) : CustomLayers cfg := fun e he => (h e he).1

theorem entryBits_length (data : Bytes) (offset : Nat) (e : LayerMapEntry) (n : Nat)
    (hn : e.length ≤ 8 * n) : (entryBits data offset e).length ≤ n := by
  obtain ⟨b, hb, hlen⟩ := Goflow.C14.getBytes_total data (8 * offset + e.offset.toNat) e.length.toNat true
  have h2 := Goflow.C14.getBytes_eq_extract data (8 * offset + e.offset.toNat) e.length.toNat true
  rw [hb] at h2
  have hb' : b = entryBits data offset e := by simpa [entryBits] using Except.ok.inj h2
  rw [← hb']
  rcases hlen with rfl | hlen
  · simp
  · rw [hlen]
    unfold Goflow.C14.ceil8
    have : e.length.toNat ≤ 8 * n := by omega
    split <;> omega

theorem customEncRes_sane (e : LayerMapEntry) (v : Bytes) (hs : SaneEntry e)
    (hv : e.field.protoIndex ≠ 0 → e.field.protoType = .varint → v.length ≤ 8) :
    customEncRes e.field v = .ok (encOf e.field v) := by
  unfold customEncRes encOf customEnc
  by_cases hi : e.field.protoIndex = 0
  · simp [hi]
  · simp only [hi, if_false]
    rcases hs.2.2.2 with h0 | h1 | h2
    · exact absurd h0 hi
    · simp [h1, List.append_assoc]
    · simp [h2.1, hv hi h2.1]

theorem entriesEnc_sane (data : Bytes) (offset : Nat) (es : List LayerMapEntry) (h : ∀ e ∈ es, SaneEntry e) :
    entriesEnc data offset es = .ok (es.flatMap fun e => encOf e.field (entryBits data offset e)) := by
  induction es with
  | nil => rfl
  | cons e es ih =>
    have hs := h e List.mem_cons_self
    rw [entriesEnc, getBytes_entry data offset e ⟨hs.2.1, hs.2.2.1⟩]
    dsimp only
    rw [customEncRes_sane e _ hs (fun hi ht => by
      rcases hs.2.2.2 with h0 | h1 | h2
      · exact absurd h0 hi
      · rw [h1] at ht; cases ht
      · exact entryBits_length data offset e 8 (by omega))]
    dsimp only
    rw [ih (fun e' he' => h e' (List.mem_cons_of_mem _ he'))]
    rfl

theorem selected_mem (layers : List LayerMapEntry) (l : Layer) (e : LayerMapEntry) (h : e ∈ selected layers l) : e ∈ layers := by
  unfold selected at h
  obtain ⟨k, _, hk⟩ := List.mem_flatMap.1 (List.mem_filter.1 h).1
  unfold lookupLayer at hk
  exact (List.mem_filter.1 hk).1

def traceBytes (layers : List LayerMapEntry) (data : Bytes) (tr : List Layer) : Bytes :=
  tr.flatMap fun l => (selected layers l).flatMap fun e => encOf e.field (entryBits data l.2.1 e)

theorem traceEnc_sane (cfg : Config) (h : SaneLayers cfg) (data : Bytes) (tr : List Layer) :
    traceEnc cfg.layers data tr = .ok (traceBytes cfg.layers data tr) := by
  induction tr with
  | nil => rfl
  | cons l ls ih =>
    rw [traceEnc, ih]
    unfold layerEnc
    rw [entriesEnc_sane data l.2.1 _ (fun e he => h e (selected_mem cfg.layers l e he))]
    rfl

/-- documented statements never fail a packet: the columns are those of the dissector without layer statements,
    the unknown section grows by `traceBytes` over the recognised layers -/
theorem parsePacket_layers_sane (cfg : Config) (hcfg : SaneLayers cfg) (m : FlowMsg) (data : Bytes) :
    ∃ m', parsePacket (noLayers cfg) m data = .ok m' ∧ m'.unk = m.unk ∧
      parsePacket cfg m data = .ok { m' with unk := m.unk ++ traceBytes cfg.layers data (packetTrace cfg.ports data) } := by
  obtain ⟨m', hm', hu, h⟩ := parsePacket_layers_commute cfg hcfg.custom m data
  refine ⟨m', hm', hu, ?_⟩
  rw [h, traceEnc_sane cfg hcfg]

section Frames
open Goflow.Spec.Frame Goflow.C10

/-- the keys a layer reached by ethertype carries besides those of its parser (`nextParserEtype`) -/
def etKeys (et : Nat) : List String := ["etype" ++ natStr et, "etype0x" ++ hex4 et]
/-- … and one reached by IP protocol number -/
def protoKeys (p : Nat) : List String := ["proto" ++ natStr p]

def l4Trace (off : Nat) (enc : Bool) : L4 → List Layer
  | .tcp .. => [(Parser.tcp.keys ++ protoKeys 6, off, enc)]
  | .udp .. => [(Parser.udp.keys ++ protoKeys 17, off, enc)]
  | .icmp .. => [(Parser.icmp.keys ++ protoKeys 1, off, enc)]
  | .icmpv6 .. => [(Parser.icmpv6.keys ++ protoKeys 58, off, enc)]
  | .other .. => []

mutual
/-- `via` are the keys of the way the IP header was reached -/
def ipTrace (off : Nat) (enc : Bool) (via : List String) : IP → List Layer
  | .v4 _ _ _ _ _ _ _ pl => (Parser.ipv4.keys ++ via, off, enc) :: payloadTrace (off + 20) enc pl
  | .v6 _ _ _ _ _ ext pl =>
    match ext with
    | .none => (Parser.ipv6.keys ++ via, off, enc) :: payloadTrace (off + 40) enc pl
    | .fragment .. => (Parser.ipv6.keys ++ via, off, enc) :: (Parser.ipv6frag.keys ++ protoKeys 44, off + 40, enc) ::
        payloadTrace (off + 48) enc pl
    | .srh _ _ segs => (Parser.ipv6.keys ++ via, off, enc) :: (Parser.ipv6route.keys ++ protoKeys 43, off + 40, enc) ::
        payloadTrace (off + 48 + 16 * segs.length) enc pl
/-- a GRE header is not itself encapsulated, everything behind it is; an IP header directly inside IP is -/
def payloadTrace (off : Nat) (enc : Bool) : Payload → List Layer
  | .l4 l => l4Trace off enc l
  | .gre inner => (Parser.gre.keys ++ protoKeys 47, off, enc) :: etherTrace (off + 4) true inner
  | .ipip p => ipTrace off true (protoKeys (payloadProto (.ipip p))) p
def etherTrace (off : Nat) (enc : Bool) : EtherPayload → List Layer
  | .ip p => ipTrace off enc (etKeys (etherType (.ip p))) p
  | .mpls labels p => (Parser.mpls.keys ++ etKeys 0x8847, off, enc) ::
      ipTrace (off + 4 * labels.length) enc (etKeys (etherType (.ip p))) p
  | .raw .. => []
end

def frameTrace (f : Frame) : List Layer :=
  (Parser.ethernet.keys, 0, false) ::
    ((List.range f.vlans.length).map fun i => (Parser.dot1q.keys ++ etKeys 0x8100, 14 + 4 * i, false)) ++
    etherTrace (14 + 4 * f.vlans.length) false f.payload

/-- one recognised layer; the parser result `r` is taken on the empty message outside any encapsulation, which is the
    form of the `parse…_spec` lemmas -/
theorem trace_cons {ports : List PortEntry} {data d : Bytes} {fuel off idx : Nat} {p : Parser} {ks : List String}
    {enc enc' : Bool} {r : PRes} {rest : List Layer} (hr : runParser p FlowMsg.empty d ⟨false, 0, ports⟩ = r)
    (hd : data.drop off = d) (ho : off ≤ data.length)
    (henc : (enc || encapTrig (encapIdx idx (Next.encapSkip ⟨p, ks, false⟩) (Next.layerIndex ⟨p, ks, false⟩))
      r.next.encapSkip r.next.layerIndex) = enc')
    (hrest : layerTrace ports data fuel r.next (off + r.size) enc'
      (encapIdx idx (Next.encapSkip ⟨p, ks, false⟩) (Next.layerIndex ⟨p, ks, false⟩)) = rest)
    (hp : p ≠ .none := by decide) (hrec : FlowMsg.empty.layerStack.length < r.msg.layerStack.length := by exact Nat.zero_lt_succ _) :
    layerTrace ports data (fuel + 1) ⟨p, ks, false⟩ off enc idx = (ks, off, enc) :: rest := by
  subst hd hr henc hrest
  rw [layerTrace_succ ports data fuel _ off enc idx FlowMsg.empty ⟨false, 0, ports⟩ rfl,
    if_pos ⟨by simpa [Next.callable] using hp, ho⟩, if_pos hrec]
  rfl

theorem trace_stop {ports : List PortEntry} {data : Bytes} {fuel : Nat} {next : Next} {off : Nat} {encap : Bool} {idx : Nat}
    (hc : next.callable = false) : layerTrace ports data (fuel + 1) next off encap idx = [] := by
  rw [layerTrace]; simp [hc]

theorem drop_etype {data hdr rest : Bytes} {e0 e1 : UInt8} {off n : Nat} (hd : data.drop off = hdr ++ (e0 :: e1 :: rest))
    (ho : off ≤ data.length) (h : hdr.length + 2 = n) : data.drop (off + n) = rest ∧ off + n ≤ data.length :=
  drop_step_app (hdr := hdr ++ [e0, e1]) (by rw [hd, List.append_assoc]; rfl) ho (by rw [List.length_append]; exact h)

theorem ep_next' {ports : List PortEntry} (ep : EtherPayload) (h : EpWF ports ep) :
    nextParserEtype (etherType ep / 256) (etherType ep % 256) =
      ⟨epParser ep, (epParser ep).keys ++ etKeys (etherType ep), false⟩ := by
  match ep, h with
  | .ip (.v4 ..), _ => simp only [etherType, epParser, ipParser]; rfl
  | .ip (.v6 ..), _ => simp only [etherType, epParser, ipParser]; rfl
  | .mpls .., _ => simp only [etherType, epParser]; rfl
  | .raw t _, h =>
    have e : t / 256 * 256 + t % 256 = t := by omega
    have h2 := h.2
    simp only [List.mem_cons, List.not_mem_nil, or_false, not_or] at h2
    obtain ⟨h1, h2, h3, h4, h5, h6⟩ := h2
    simp [etherType, epParser, etKeys, nextParserEtype, e, h1, h2, h3, h4, h5, h6]

theorem ip_next' (p : IP) :
    nextParserEtype (ipEtype p / 256) (ipEtype p % 256) = ⟨ipParser p, (ipParser p).keys ++ etKeys (ipEtype p), false⟩ := by
  cases p
  · simp only [ipEtype, ipParser]; rfl
  · simp only [ipEtype, ipParser]; rfl

theorem ipip_next' (p : IP) :
    nextParserProto (payloadProto (.ipip p)) = ⟨ipParser p, (ipParser p).keys ++ protoKeys (payloadProto (.ipip p)), false⟩ := by
  cases p
  · simp only [payloadProto, ipParser]; rfl
  · simp only [payloadProto, ipParser]; rfl

theorem trace_l4 {ports : List PortEntry} (l : L4) (hl : L4WF ports l)
    {data : Bytes} {off : Nat} (hd : data.drop off = l4Bytes l) (ho : off ≤ data.length)
    {fuel : Nat} (hf : 2 ≤ fuel) (enc : Bool) (idx : Nat) :
    layerTrace ports data fuel (nextParserProto (l4Proto l)) off enc idx = l4Trace off enc l := by
  obtain ⟨fuel, rfl⟩ : ∃ f, fuel = f + 2 := ⟨fuel - 2, by omega⟩
  cases l with
  | tcp sp dp seq ack doff flags win opts =>
    obtain ⟨hsp, hdp, _, _, h5, h16, hfl, _, _, hport⟩ := hl
    simp only [l4Bytes, Spec.Frame.u8, Spec.Frame.u16, Spec.Frame.u32, List.append_assoc] at hd
    exact trace_cons (p := .tcp) (parseTCP_spec _ sp dp seq ack doff flags win 0 0 opts _ hsp hdp h5 h16 hfl rfl) hd ho rfl
      (trace_stop hport)
  | udp sp dp =>
    obtain ⟨hsp, hdp, hport⟩ := hl
    simp only [l4Bytes, Spec.Frame.u16, List.append_assoc] at hd
    exact trace_cons (p := .udp) (parseUDP_spec _ sp dp (encBE 2 8 ++ encBE 2 0) _ hsp hdp (by simp) rfl) hd ho rfl (trace_stop hport)
  | icmp t c =>
    simp only [l4Bytes, Spec.Frame.u8, Spec.Frame.u16, Spec.Frame.u32, List.append_assoc] at hd
    exact trace_cons (p := .icmp) (parseICMP_spec _ t c (encBE 2 0 ++ encBE 4 0) _ hl.1 hl.2 rfl) hd ho rfl (trace_stop rfl)
  | icmpv6 t c =>
    simp only [l4Bytes, Spec.Frame.u8, Spec.Frame.u16, Spec.Frame.u32, List.append_assoc] at hd
    exact trace_cons (p := .icmpv6) (parseICMPv6_spec _ t c (encBE 2 0 ++ encBE 4 0) _ hl.1 hl.2 rfl) hd ho rfl (trace_stop rfl)
  | other p pl =>
    simp only [L4WF, List.mem_cons, List.not_mem_nil, or_false, not_or] at hl
    obtain ⟨_, h1, h4, h6, h17, h41, h43, h44, h47, h58⟩ := hl
    exact trace_stop (by simp [l4Proto, nextParserProto, Next.callable, *])

theorem or_trig_of_enc (enc : Bool) (t : Bool) (h : enc = true ∨ t = false) : (enc || t) = enc := by
  rcases h with rfl | rfl <;> simp

mutual
/-- the trace from an IP header on is `ipTrace`, outer or tunnelled alike (`enc` is a variable). Each header is one
    `trace_cons` with the `parse…_spec` lemma of its parser; `drop_step_app` moves the offset past it; what the
    header carries is `trace_payload`, entered with reference index 30 (IP) or 35 (behind a routing header). -/
theorem trace_ip {ports : List PortEntry} :
    ∀ (p : IP), IPWF ports p → ∀ (data : Bytes) (off : Nat), data.drop off = ipBytes p → off ≤ data.length →
    ∀ (fuel : Nat), (stackIP p).length + 2 ≤ fuel → ∀ (via : List String) (enc : Bool) (idx : Nat),
    layerTrace ports data fuel ⟨ipParser p, (ipParser p).keys ++ via, false⟩ off enc idx = ipTrace off enc via p
  | .v4 tos ident fl fo ttl src dst pl, hp => by
    intro data off hd ho fuel hf via enc idx
    simp only [IPWF, Nat.reducePow] at hp
    obtain ⟨htos, hident, hfl, hfo, httl, hsrc, hdst, hpl⟩ := hp
    simp only [stackIP, List.length_cons] at hf
    obtain ⟨fuel, rfl⟩ : ∃ f, fuel = f + 1 := ⟨fuel - 1, by omega⟩
    simp only [ipBytes] at hd
    obtain ⟨hd', ho'⟩ := drop_step_app (s := 20) hd ho (by simp [Spec.Frame.u8, Spec.Frame.u16, hsrc, hdst])
    simp only [Spec.Frame.u8, Spec.Frame.u16, List.append_assoc] at hd
    exact trace_cons (p := .ipv4) (parseIPv4_spec _ 0x45 tos (20 + (payloadBytes pl).length) ident (fl * 8192 + fo) ttl (payloadProto pl) 0
        src dst (payloadBytes pl) _ htos hident (by omega) httl (payloadProto_lt hpl) hsrc hdst rfl) hd ho rfl
      (trace_payload pl hpl data _ hd' ho' fuel (by omega) enc 30 (Or.inr ⟨Nat.le_refl _, by decide⟩))
  | .v6 tc fl hlim src dst ext pl, hp => by
    intro data off hd ho fuel hf via enc idx
    simp only [IPWF, Nat.reducePow] at hp
    obtain ⟨htc, hfl, hhl, hsrc, hdst, hext, hpl⟩ := hp
    have hnh := payloadProto_lt hpl
    simp only [stackIP, List.length_cons, List.length_append] at hf
    cases ext with
    | none =>
      simp only [stackExt, List.length_nil] at hf
      obtain ⟨fuel, rfl⟩ : ∃ f, fuel = f + 1 := ⟨fuel - 1, by omega⟩
      simp only [ipBytes] at hd
      obtain ⟨hd', ho'⟩ := drop_step_app (s := 40) hd ho
        (by simp [Spec.Frame.u8, Spec.Frame.u16, Spec.Frame.u32, hsrc, hdst])
      simp only [Spec.Frame.u8, Spec.Frame.u16, Spec.Frame.u32, List.append_assoc, List.nil_append] at hd
      exact trace_cons (p := .ipv6) (parseIPv6_spec _ _ _ _ _ _ _ _ _ hnh hhl hsrc hdst rfl) hd ho rfl
        (trace_payload pl hpl data _ hd' ho' fuel (by omega) enc 30 (Or.inr ⟨Nat.le_refl _, by decide⟩))
    | fragment fo fl3 ident =>
      simp only [stackExt, List.length_cons, List.length_nil] at hf
      obtain ⟨fuel, rfl⟩ : ∃ f, fuel = f + 2 := ⟨fuel - 2, by omega⟩
      simp only [ExtWF, Nat.reducePow] at hext
      obtain ⟨hfo, hfl3, hident⟩ := hext
      simp only [ipBytes] at hd
      rw [List.append_assoc] at hd
      obtain ⟨hd1, ho1⟩ := drop_step_app (s := 40) hd ho
        (by simp [Spec.Frame.u8, Spec.Frame.u16, Spec.Frame.u32, hsrc, hdst])
      obtain ⟨hd2, ho2⟩ := drop_step_app (s := 8) hd1 ho1 (by simp [Spec.Frame.u8, Spec.Frame.u16, Spec.Frame.u32])
      simp only [Spec.Frame.u8, Spec.Frame.u16, Spec.Frame.u32, List.append_assoc] at hd hd1
      exact trace_cons (p := .ipv6) (parseIPv6_spec _ _ _ 44 _ _ _ _ _ (by decide) hhl hsrc hdst rfl) hd ho (Bool.or_false enc)
        (trace_cons (p := .ipv6frag) (parseFrag_spec _ _ _ _ _ _ _ hnh (by omega) hident rfl) hd1 ho1 rfl
          (trace_payload pl hpl data _ hd2 ho2 fuel (by omega) enc 30 (Or.inr ⟨Nat.le_refl _, by decide⟩)))
    | srh sleft le segs =>
      simp only [stackExt, List.length_cons, List.length_nil] at hf
      obtain ⟨fuel, rfl⟩ : ∃ f, fuel = f + 2 := ⟨fuel - 2, by omega⟩
      simp only [ExtWF, Nat.reducePow] at hext
      obtain ⟨hsleft, hle, hn, hsegs, hlast⟩ := hext
      simp only [ipBytes] at hd
      rw [List.append_assoc] at hd
      obtain ⟨hd1, ho1⟩ := drop_step_app (s := 40) hd ho
        (by simp [Spec.Frame.u8, Spec.Frame.u16, Spec.Frame.u32, hsrc, hdst])
      obtain ⟨hd2, ho2⟩ := drop_step_app (s := 8 + 16 * segs.length) hd1 ho1
        (by simp only [Spec.Frame.u8, Spec.Frame.u16, List.length_append, encBE_length, flat_length segs hsegs])
      simp only [Spec.Frame.u8, Spec.Frame.u16, Spec.Frame.u32, List.append_assoc] at hd hd1
      simp only [ipTrace]
      rw [show off + 48 + 16 * segs.length = off + 40 + (8 + 16 * segs.length) by omega]
      exact trace_cons (p := .ipv6) (parseIPv6_spec _ _ _ 43 _ _ _ _ _ (by decide) hhl hsrc hdst rfl) hd ho (Bool.or_false enc)
        (trace_cons (p := .ipv6route) (parseRoute_spec _ _ _ _ _ _ _ _ _ hnh hsleft hle hn hsegs hlast rfl) hd1 ho1 rfl
          (trace_payload pl hpl data _ hd2 ho2 fuel (by omega) enc 35 (Or.inr ⟨by decide, by decide⟩)))
theorem trace_payload {ports : List PortEntry} :
    ∀ (pl : Payload), PayloadWF ports pl → ∀ (data : Bytes) (off : Nat), data.drop off = payloadBytes pl →
    off ≤ data.length → ∀ (fuel : Nat), (stackPayload pl).length + 2 ≤ fuel →
    ∀ (enc : Bool) (li : Nat), (enc = true ∨ (30 ≤ li ∧ li < 40)) →
    layerTrace ports data fuel (nextParserProto (payloadProto pl)) off
      (enc || encapTrig li (nextParserProto (payloadProto pl)).encapSkip (nextParserProto (payloadProto pl)).layerIndex) li =
      payloadTrace off enc pl
  | .l4 l, hl => by
    intro data off hd ho fuel hf enc li hli
    rw [show payloadProto (.l4 l) = l4Proto l from rfl,
      or_trig_of_enc enc _ (hli.imp_right fun h => l4_noencap hl li h.2)]
    exact trace_l4 l hl hd ho (by omega) enc li
  | .ipip p, hp => by
    intro data off hd ho fuel hf enc li hli
    rw [ipip_next' p, show (enc || _) = true from by
      rcases hli with h | h
      · rw [h]; rfl
      · rw [ip_encap p _ li h.1]; exact Bool.or_true enc]
    exact trace_ip p hp data off hd ho fuel hf _ true li
  | .gre inner, hin => by
    intro data off hd ho fuel hf enc li hli
    have het := hi_lo (etherType_lt inner hin)
    simp only [stackPayload, List.length_cons] at hf
    obtain ⟨fuel, rfl⟩ : ∃ f, fuel = f + 2 := ⟨fuel - 2, by omega⟩
    simp only [payloadBytes, Spec.Frame.u16, List.append_assoc] at hd
    rw [encBE_two (etherType inner)] at hd
    obtain ⟨hd', ho'⟩ := drop_etype (n := 4) hd ho (by rw [encBE_length])
    rw [show nextParserProto (payloadProto (.gre inner)) = ⟨.gre, Parser.gre.keys ++ protoKeys 47, false⟩ from rfl,
      or_trig_of_enc enc _ (hli.imp_right fun h => gre_noencap _ li h.2)]
    refine trace_cons (parseGRE_spec _ (encBE 2 0) _ _ _ ⟨false, 0, ports⟩ (by simp)) hd ho rfl ?_
    show layerTrace ports data (fuel + 1) _ (off + 4) (enc || encapTrig 40 _ _) 40 = _
    simp only [het.1, het.2, ep_next' inner hin]
    match inner, hin with
    | .raw t b, ht => exact trace_stop rfl
    | .ip p, hp =>
      simp only [epParser]
      rw [ip_encap p _ 40 (by omega), Bool.or_true]
      exact trace_ether (.ip p) hp data _ hd' ho' _ (by omega) true 40 (Or.inl rfl)
    | .mpls labels p, hp =>
      rw [show (enc || _) = true from by cases enc <;> rfl]
      exact trace_ether (.mpls labels p) hp data _ hd' ho' _ (by omega) true 40 (Or.inl rfl)
theorem trace_ether {ports : List PortEntry} :
    ∀ (ep : EtherPayload), EpWF ports ep → ∀ (data : Bytes) (off : Nat), data.drop off = etherPayloadBytes ep →
    off ≤ data.length → ∀ (fuel : Nat), (stackEther ep).length + 2 ≤ fuel →
    ∀ (enc : Bool) (idx : Nat), (enc = true ∨ idx < 30) →
    layerTrace ports data fuel ⟨epParser ep, (epParser ep).keys ++ etKeys (etherType ep), false⟩ off enc idx =
      etherTrace off enc ep
  | .ip p, hp => by
    intro data off hd ho fuel hf enc idx hidx
    exact trace_ip p hp data off hd ho fuel hf _ enc idx
  | .mpls labels p, hp => by
    intro data off hd ho fuel hf enc idx hidx
    obtain ⟨hne, hlen, hwf, hp⟩ := hp
    simp only [stackEther, List.length_cons] at hf
    obtain ⟨fuel, rfl⟩ : ∃ f, fuel = f + 1 := ⟨fuel - 1, by omega⟩
    simp only [etherPayloadBytes] at hd
    obtain ⟨hd', ho'⟩ := drop_step_app (s := 4 * labels.length) hd ho (mplsBytes_length labels)
    refine trace_cons (p := .mpls) (parseMPLS_spec _ labels (ipBytes p) _ _ _ hne hwf (peek_ip p hp) rfl) hd ho
      (or_trig_of_enc enc _ (hidx.imp_right fun h => ?_)) ?_
    · simp only [ip_next' p]
      exact ip_noencap p _ idx h
    · simp only [ip_next' p, etherType_ip]
      exact trace_ip p hp data _ hd' ho' fuel (by omega) _ enc idx
  | .raw t b, ht => by
    intro data off hd ho fuel hf enc idx hidx
    obtain ⟨fuel, rfl⟩ : ∃ f, fuel = f + 1 := ⟨fuel - 1, by omega⟩
    exact trace_stop rfl
end

theorem dot1q_next' :
    nextParserEtype (UInt8.ofNat (33024 / 256 % 256)).toNat (UInt8.ofNat (33024 % 256)).toNat =
      ⟨.dot1q, Parser.dot1q.keys ++ etKeys 0x8100, false⟩ := by
  simp only [UInt8.toNat_ofNat', Nat.reduceDiv, Nat.reduceMod, Nat.reducePow]
  rfl

theorem trace_vlans {ports : List PortEntry} (ep : EtherPayload) (hep : EpWF ports ep)
    (vs : List Nat) (v : Nat)
    {data : Bytes} {off : Nat} (hd : data.drop off = encBE 2 v ++ (vlanBytes (etherType ep) vs ++ etherPayloadBytes ep))
    (ho : off ≤ data.length) {fuel : Nat} (hf : vs.length + (stackEther ep).length + 3 ≤ fuel)
    (idx : Nat) (hidx : idx ≤ 25) :
    layerTrace ports data fuel ⟨.dot1q, Parser.dot1q.keys ++ etKeys 0x8100, false⟩ off false idx =
      ((List.range (vs.length + 1)).map fun i => ((Parser.dot1q.keys ++ etKeys 0x8100, off + 4 * i, false) : Layer)) ++
        etherTrace (off + 4 * (vs.length + 1)) false ep := by
  have het := hi_lo (etherType_lt ep hep)
  obtain ⟨fuel, rfl⟩ : ∃ f, fuel = f + 1 := ⟨fuel - 1, by omega⟩
  induction vs generalizing v data off fuel with
  | nil =>
    simp only [vlanBytes, Spec.Frame.u16, encBE_two (etherType ep), List.cons_append, List.nil_append] at hd
    obtain ⟨hd', ho'⟩ := drop_etype (n := 4) hd ho (by rw [encBE_length])
    refine trace_cons (parse8021Q_spec _ (encBE 2 v) _ _ _ _ (by simp) rfl) hd ho rfl ?_
    simp only [Bool.false_or, het.1, het.2, ep_next' ep hep]
    rw [show encapIdx idx _ _ = idx from rfl, ep_noencap ep hep _ idx hidx]
    exact trace_ether ep hep data _ hd' ho' fuel (by simp at hf; omega) false idx (Or.inr (by omega))
  | cons w ws ih =>
    simp only [vlanBytes, Spec.Frame.u16, List.append_assoc] at hd
    rw [encBE_two 33024] at hd
    simp only [List.cons_append, List.nil_append] at hd
    obtain ⟨hd', ho'⟩ := drop_etype (n := 4) hd ho (by rw [encBE_length])
    obtain ⟨fuel, rfl⟩ : ∃ f, fuel = f + 1 := ⟨fuel - 1, by simp at hf; omega⟩
    rw [List.length_cons, List.range_succ_eq_map, List.map_cons, List.map_map, List.cons_append]
    refine trace_cons (parse8021Q_spec _ (encBE 2 v) _ _ _ _ (by simp) rfl) hd ho rfl ?_
    simp only [Bool.false_or, dot1q_next']
    rw [show encapIdx idx _ _ = idx from rfl, dot1q_noencap _ idx hidx,
      ih w hd' ho' fuel (by simp at hf ⊢; omega)]
    congr 2
    · funext i
      simp only [Function.comp]
      congr 2
      omega
    · omega

theorem trace_eth {ports : List PortEntry} (ep : EtherPayload) (hep : EpWF ports ep)
    (vs : List Nat) (d s : Nat)
    {fuel : Nat} (hf : vs.length + (stackEther ep).length + 4 ≤ fuel) :
    layerTrace ports (encBE 6 d ++ (encBE 6 s ++ (vlanBytes (etherType ep) vs ++ etherPayloadBytes ep))) fuel
        ⟨.ethernet, Parser.ethernet.keys, false⟩ 0 false 20 = frameTrace ⟨d, s, vs, ep⟩ := by
  have het := hi_lo (etherType_lt ep hep)
  obtain ⟨fuel, rfl⟩ : ∃ f, fuel = f + 1 := ⟨fuel - 1, by omega⟩
  generalize hdata : encBE 6 d ++ (encBE 6 s ++ (vlanBytes (etherType ep) vs ++ etherPayloadBytes ep)) = data
  have hd0 : data.drop 0 = _ := hdata.symm
  have ho : 0 ≤ data.length := Nat.zero_le _
  unfold frameTrace
  cases vs with
  | nil =>
    simp only [vlanBytes, Spec.Frame.u16, encBE_two (etherType ep), List.cons_append, List.nil_append] at hd0
    obtain ⟨hd', ho'⟩ := drop_etype (hdr := encBE 6 d ++ encBE 6 s) (n := 14) (by rw [hd0, List.append_assoc]) ho (by simp)
    refine trace_cons (parseEthernet_spec _ _ _ _ _ _ _ (encBE_length 6 d) (encBE_length 6 s) rfl) hd0 ho rfl ?_
    simp only [Bool.false_or, het.1, het.2, ep_next' ep hep]
    rw [show encapIdx 20 _ _ = 20 from rfl, ep_noencap ep hep _ 20 (by omega)]
    exact trace_ether ep hep data _ hd' ho' fuel (by simp at hf; omega) false 20 (Or.inr (by omega))
  | cons v vs =>
    simp only [vlanBytes, Spec.Frame.u16, encBE_two 33024, List.append_assoc, List.cons_append, List.nil_append] at hd0
    obtain ⟨hd', ho'⟩ := drop_etype (hdr := encBE 6 d ++ encBE 6 s) (n := 14) (by rw [hd0, List.append_assoc]) ho (by simp)
    refine trace_cons (parseEthernet_spec _ _ _ _ _ _ _ (encBE_length 6 d) (encBE_length 6 s) rfl) hd0 ho rfl ?_
    simp only [Bool.false_or, dot1q_next']
    rw [show encapIdx 20 _ _ = 20 from rfl, dot1q_noencap _ 20 (by omega)]
    exact trace_vlans ep hep vs v hd' ho'
      (by simp at hf ⊢; omega) 20 (by omega)

theorem layerTrace_mono (ports : List PortEntry) (data : Bytes) (fuel : Nat) :
    ∀ (next : Next) (off : Nat) (enc : Bool) (idx : Nat), mu data.length next off + 1 ≤ fuel →
    ∀ k, layerTrace ports data (fuel + k) next off enc idx = layerTrace ports data fuel next off enc idx := by
  induction fuel with
  | zero => intro next off enc idx hf; omega
  | succ fuel ih =>
    intro next off enc idx hf k
    rw [show fuel + 1 + k = (fuel + k) + 1 by omega, layerTrace, layerTrace]
    by_cases hc : next.callable = true ∧ off ≤ data.length
    · have := mu_runParser_lt data.length next off FlowMsg.empty (data.drop off) ⟨enc, 0, ports⟩ hc.1 hc.2
      rw [if_pos hc, if_pos hc]
      dsimp only
      rw [ih _ _ _ _ (by omega)]
    · rw [if_neg hc, if_neg hc]

/-- The recognised layers of a well-formed, fully captured frame are the frame's layers: each with the keys of its
    parser and of the way it was reached, its byte offset, and the encapsulation flag (false up to and including a
    GRE header or the outer IP header, true behind them), for the whole grammar of `FrameWFIn`, nested tunnels
    included. -/
theorem packetTrace_frame (ports : List PortEntry) (f : Frame) (h : FrameWFIn ports f) :
    packetTrace ports (bytes f) = frameTrace f := by
  obtain ⟨d, s, vs, ep⟩ := f
  obtain ⟨hd, hs, hvs, hep⟩ := h
  simp only at hd hs hvs hep
  unfold packetTrace
  have hmu : mu (bytes ⟨d, s, vs, ep⟩).length ⟨.ethernet, Parser.ethernet.keys, false⟩ 0 + 1 ≤
      2 * (bytes ⟨d, s, vs, ep⟩).length + 4 := by
    unfold mu; split <;> simp <;> omega
  rw [← layerTrace_mono ports _ _ _ _ _ _ hmu (vs.length + (stackEther ep).length + 4)]
  unfold bytes
  simp only [List.append_assoc]
  exact trace_eth ep hep vs d s (by omega)

/-- A configuration whose layer statements all have destinations outside the message struct, a well-formed fully
    captured frame: every column is the frame's true value (`expectedMsg`), and the unknown section is, for each
    layer of the frame in order, for each statement whose layer name is one of the layer's keys and whose `encap`
    flag equals the layer's, the encoding of GetBytes(frame, 8·offset + e.offset, e.length) into the statement's
    destination, or the error of the first statement that fails. -/
theorem full_capture_mapped (cfg : Config) (hcfg : CustomLayers cfg) (f : Frame) (h : FrameWFIn cfg.ports f) :
    parsePacket cfg FlowMsg.empty (bytes f) =
      match traceEnc cfg.layers (bytes f) (frameTrace f) with
      | .error e => .error e
      | .ok ext => .ok { expectedMsg f with unk := ext } := by
  obtain ⟨m', hm', _, hp⟩ := parsePacket_layers_commute cfg hcfg FlowMsg.empty (bytes f)
  have hfull := full_capture_cfg (noLayers cfg) (noLayers_layers cfg) f h
  rw [hfull] at hm'
  have hm : m' = expectedMsg f := (Except.ok.inj hm').symm
  rw [hp, packetTrace_frame cfg.ports f h, hm]
  cases traceEnc cfg.layers (bytes f) (frameTrace f) with
  | error e => rfl
  | ok ext => simp [FlowMsg.empty]

/-- … with documented statements never an error, and the values are the bits `[8·offset + e.offset, + e.length)` of the
    frame (`Spec.Bits.extract`, right-aligned) under the statement's endianness -/
theorem full_capture_mapped_sane (cfg : Config) (hcfg : SaneLayers cfg) (f : Frame) (h : FrameWFIn cfg.ports f) :
    parsePacket cfg FlowMsg.empty (bytes f) =
      .ok { expectedMsg f with unk := traceBytes cfg.layers (bytes f) (frameTrace f) } := by
  rw [full_capture_mapped cfg hcfg.custom f h, traceEnc_sane cfg hcfg]

/-- frames no statement matches are reported as without any layer statements -/
theorem full_capture_unmatched (cfg : Config) (hcfg : CustomLayers cfg) (f : Frame) (h : FrameWFIn cfg.ports f)
    (hno : ∀ l ∈ frameTrace f, selected cfg.layers l = []) :
    parsePacket cfg FlowMsg.empty (bytes f) = .ok (expectedMsg f) := by
  rw [parsePacket_unmatched cfg hcfg FlowMsg.empty (bytes f) (by rw [packetTrace_frame cfg.ports f h]; exact hno)]
  exact full_capture_cfg (noLayers cfg) (noLayers_layers cfg) f h

end Frames

section File
open Goflow.Format Goflow.C14Compile Goflow.Spec.Frame Goflow.C10

theorem saneLayers_of_file (raw : RawConfig) (hacc : Accepted raw)
    (h : ∀ m ∈ raw.layers, ∃ p, declOf raw m.destination = some p ∧ NotMember m.destination ∧
      0 ≤ m.offset ∧ 0 ≤ m.length ∧ (p.type = "varint" → m.length ≤ 64)) :
    SaneLayers (cfgOf raw) := by
  intro e he
  obtain ⟨m, hm, rfl⟩ := List.mem_map.1 he
  obtain ⟨p, hp, hnm, ho, hl, hv⟩ := h m hm
  have hok := hacc.2.2.2.2.2.2 m hm
  obtain ⟨hty, _⟩ := destOf_declared_type raw m p hp hok
  have hdest : (destOf raw m).destination = m.destination := by rw [destOf_declared raw m p hp]
  refine ⟨by rw [hdest]; exact hnm, ho, hl, ?_⟩
  by_cases hvar : p.type = "varint"
  · exact Or.inr (Or.inr ⟨by rw [hty, if_pos hvar], hv hvar⟩)
  · exact Or.inr (Or.inl (by rw [hty, if_neg hvar]))

/-- From the file to the flow message: an accepted mapping file whose layer statements are documented ones
    (`saneLayers_of_file` gives `SaneLayers` from the file's text), a well-formed fully captured frame whose L4 ports
    hit none of the file's registered ports: all columns are the frame's true values and the custom fields are, in
    the order of the frame's layers and of the file, the configured bit ranges. -/
theorem file_full_capture (raw : RawConfig) (isSlice0 : List (String × Bool)) (c : Compiled)
    (h : compile raw isSlice0 = .ok c) (hl : SaneLayers (cfgOf raw)) (f : Frame) (hf : FrameWFIn (portsOf raw) f) :
    parsePacket c.cfg FlowMsg.empty (bytes f) =
      .ok { expectedMsg f with unk := traceBytes (cfgOf raw).layers (bytes f) (frameTrace f) } := by
  obtain ⟨_, rfl⟩ := (compile_ok_iff raw isSlice0 c).1 h
  exact full_capture_mapped_sane (cfgOf raw) hl f hf

end File

/-! the hypotheses are satisfiable -/

namespace Example
open Goflow.Format Goflow.C14Compile Goflow.Spec.Frame Goflow.C10

/-- exercises `encap` on and off, an array field, little-endian, a bytes field, and a destination nobody declared -/
def raw : RawConfig :=
  { protobuf := [⟨"ttl_outer", 2000, "varint", false⟩, ⟨"ttl_inner", 2001, "varint", false⟩, ⟨"ipver", 2002, "varint", true⟩,
                 ⟨"sport_le", 2003, "varint", false⟩, ⟨"label", 2004, "varint", true⟩, ⟨"vlan", 2005, "varint", false⟩,
                 ⟨"icmp_tc", 2006, "bytes", false⟩],
    layers := [{ layer := "ipv4", offset := 64, length := 8, destination := "ttl_outer" },
               { layer := "ipv4", encap := true, offset := 64, length := 8, destination := "ttl_inner" },
               { layer := "ip", offset := 0, length := 4, destination := "ipver" },
               { layer := "udp", offset := 0, length := 16, destination := "sport_le", endian := "little" },
               { layer := "mpls", encap := true, offset := 0, length := 20, destination := "label" },
               { layer := "dot1q", offset := 4, length := 12, destination := "vlan" },
               { layer := "icmp", encap := true, offset := 0, length := 16, destination := "icmp_tc" },
               { layer := "tcp", offset := 0, length := 16, destination := "no_such_field" }],
    ports := [⟨"udp", "both", 6081, "geneve"⟩] }

theorem raw_accepted : Accepted raw := by decide +kernel
theorem raw_sane : SaneLayers (cfgOf raw) := by decide +kernel

def frameA : Frame :=
  ⟨0x001122334455, 0x66778899aabb, [5], .ip (.v4 0 1 2 0 64 [10, 0, 0, 1] [10, 0, 0, 2] (.l4 (.udp 0x1234 53)))⟩

theorem frameA_wf : FrameWFIn (portsOf raw) frameA := by
  refine ⟨by decide, by decide, by decide, ?_⟩
  simp only [frameA, EpWF, IPWF, PayloadWF, L4WF]
  decide

theorem tunnel_wf : FrameWFIn (portsOf raw) sampleTunnel := by
  simp [sampleTunnel, FrameWFIn, EpWF, IPWF, ExtWF, PayloadWF, LabelsWF, L4WF]

example : frameTrace frameA =
    [(["ethernet", "2"], 0, false), (["dot1q", "etype33024", "etype0x8100"], 14, false),
     (["ipv4", "ip", "3", "etype2048", "etype0x0800"], 18, false), (["udp", "4", "proto17"], 38, false)] := by decide +kernel

/-- the layers behind GRE are encapsulated -/
example : frameTrace sampleTunnel =
    [(["ethernet", "2"], 0, false), (["ipv6", "ip", "3", "etype34525", "etype0x86dd"], 14, false),
     (["ipv6eh_fragment", "ipv6-frag", "ipv6eh", "proto44"], 54, false), (["gre", "proto47"], 62, false),
     (["mpls", "etype34887", "etype0x8847"], 66, true), (["ipv4", "ip", "3", "etype2048", "etype0x0800"], 74, true),
     (["icmp", "proto1"], 94, true)] := by decide +kernel

theorem frameA_bytes : traceBytes (cfgOf raw).layers (bytes frameA) (frameTrace frameA) =
    appendTag 2005 0 ++ [5] ++ (appendTag 2000 0 ++ [64]) ++ (appendTag 2002 0 ++ [4]) ++
      (appendTag 2003 0 ++ appendVarint 0x3412) := by decide +kernel

theorem tunnel_bytes : traceBytes (cfgOf raw).layers (bytes sampleTunnel) (frameTrace sampleTunnel) =
    appendTag 2002 0 ++ [6] ++ (appendTag 2004 0 ++ appendVarint 0x000100) ++ (appendTag 2001 0 ++ [64]) ++
      (appendTag 2006 2 ++ [2, 8, 0]) := by decide +kernel

example (c : Compiled) (h : compile raw initialIsSlice = .ok c) :
    parsePacket c.cfg FlowMsg.empty (bytes frameA) =
      .ok { expectedMsg frameA with
              unk := appendTag 2005 0 ++ [5] ++ (appendTag 2000 0 ++ [64]) ++ (appendTag 2002 0 ++ [4]) ++
                (appendTag 2003 0 ++ appendVarint 0x3412) } := by
  rw [file_full_capture raw initialIsSlice c h raw_sane frameA frameA_wf, frameA_bytes]

/-- the `ipv4` statement without `encap` and the `ip` statement do not apply to the tunnelled IPv4 header -/
example (c : Compiled) (h : compile raw initialIsSlice = .ok c) :
    parsePacket c.cfg FlowMsg.empty (bytes sampleTunnel) =
      .ok { expectedMsg sampleTunnel with
              unk := appendTag 2002 0 ++ [6] ++ (appendTag 2004 0 ++ appendVarint 0x000100) ++ (appendTag 2001 0 ++ [64]) ++
                (appendTag 2006 2 ++ [2, 8, 0]) } := by
  rw [file_full_capture raw initialIsSlice c h raw_sane sampleTunnel tunnel_wf, tunnel_bytes]

/-- a statement that fails (nine bytes into a varint field) fails the packet — `full_capture_mapped` -/
def cfgLong : Config :=
  { layers := [⟨"ipv4", false, 0, 72, ⟨"ttl_outer", false, 2000, .varint, false⟩⟩], present := true }

example : CustomLayers cfgLong ∧ ¬ SaneLayers cfgLong := by decide +kernel
example : traceEnc cfgLong.layers (bytes frameA) (frameTrace frameA) = .error .bad := by decide +kernel

def fByte : MapField := ⟨"firstbyte", false, 1000, .varint, false⟩

/- The per-packet ethertype keys carry the whole ethertype (after the `fix:` commit 366aae4; the tree before it kept only
   the low byte: a statement with layer `etype0x0800` selected no layer, `etype0x0000` selected the 802.1Q layer and
   the IPv4 layer alike — found by this proof, replay in corpus/C14/etype-key-low-byte.ops). -/

example : (frameTrace frameA).filter (fun l => selected [⟨"etype0x0800", false, 0, 8, fByte⟩] l != []) =
    [(["ipv4", "ip", "3", "etype2048", "etype0x0800"], 18, false)] := by decide +kernel

example : (frameTrace frameA).filter (fun l => selected [⟨"etype33024", false, 0, 8, fByte⟩] l != []) =
    [(["dot1q", "etype33024", "etype0x8100"], 14, false)] := by decide +kernel

example : ∀ l ∈ frameTrace frameA, selected [⟨"etype0x0000", false, 0, 8, fByte⟩, ⟨"etype0", false, 0, 8, fByte⟩] l = [] := by
  decide +kernel

example : traceBytes [⟨"etype0x0800", false, 0, 8, fByte⟩] (bytes frameA) (frameTrace frameA) =
    appendTag 1000 0 ++ [0x45] := by decide +kernel

end Example

end Goflow.C14Compose
