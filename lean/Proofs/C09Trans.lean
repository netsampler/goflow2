import Goflow.Generated.SflowProdT
import Goflow.Producer.Sflow
import Proofs.Lemmas.GoPrims
/-!
  C09 (translation tie) — the sFlow → flow message conversion of producer/proto/producer_sf.go.

  `Goflow/Generated/SflowProdT.lean` is regenerated from the Go source on every run of the extractor: the decoded sFlow
  packet as structures (one per Go struct), the `interface{}` values as sums (`RecordData`, `CounterData`, `Sample`), and
  the translated bodies of `ParseSampledHeaderConfig`, `SearchSFlowSampleConfig` (its record loop with one definition per
  arm of `switch recordData := record.Data.(type)`) and `GetSFlowFlowSamples`.

  Here: the mapping of the generated packet types to the generic terms of the hand-written model
  (`Goflow/Decoders/Sflow.lean`), and the proof that every translated function computes what the model
  (`Goflow/Producer/Sflow.lean`: `applyRecord`, `applyRecords`, `convertSample`) computes — for every message, every record,
  every sample and every configuration.

  The dissector: `config.ParsePacket(flowMessage, data)` is the prelude external `Go.ParsePacket`, which is the model's
  `parsePacket` and panics on the nil interface (Proofs/C10Trans.lean ties the 14 layer parsers and the two dispatchers
  to the source by translation, not `parsePacket` itself);
  `DefaultEnvironment` is `Go.DefaultEnvironment`, the dissector without a configuration.
-/
set_option linter.unusedSimpArgs false
namespace Goflow.C09Trans
open Goflow Goflow.Producer Goflow.Generated Goflow.Go

def ipBaseVals (b : TSP.SampledIPBase) (last : UInt32) : List Sflow.V :=
  [.n b.Length.toNat, .n b.Protocol.toNat, .b b.SrcIP, .b b.DstIP, .n b.SrcPort.toNat, .n b.DstPort.toNat,
   .n b.TcpFlags.toNat, .n last.toNat]

/-- `FlowRecord.Data` -/
def recordData : TSP.RecordData → Sflow.FlowData
  | .nil => .none
  | .SampledHeader v => .raw [v.Protocol.toNat, v.FrameLength.toNat, v.Stripped.toNat, v.OriginalLength.toNat] v.HeaderData
  | .SampledEthernet v => .fixed 2 [.n v.Length.toNat, .b v.SrcMac, .b v.DstMac, .n v.EthType.toNat]
  | .SampledIPv4 v => .fixed 3 (ipBaseVals v.SampledIPBase v.Tos)
  | .SampledIPv6 v => .fixed 4 (ipBaseVals v.SampledIPBase v.Priority)
  | .ExtendedSwitch v => .fixed 1001 [.n v.SrcVlan.toNat, .n v.SrcPriority.toNat, .n v.DstVlan.toNat, .n v.DstPriority.toNat]
  | .ExtendedRouter v => .router v.NextHopIPVersion.toNat v.NextHop v.SrcMaskLen.toNat v.DstMaskLen.toNat
  | .ExtendedGateway v =>
    .gateway v.NextHopIPVersion.toNat v.NextHop [v.AS.toNat, v.SrcAS.toNat, v.SrcPeerAS.toNat, v.ASDestinations.toNat]
      v.ASPathType.toNat v.ASPathLength.toNat (v.ASPath.map UInt32.toNat) v.CommunitiesLength.toNat
      (v.Communities.map UInt32.toNat) v.LocalPref.toNat
  | .EgressQueue v => .fixed 1036 [.n v.Queue.toNat]
  | .ExtendedACL v => .acl v.Number.toNat v.Name.toUTF8.toList v.Direction.toNat
  | .ExtendedFunction v => .function v.Symbol.toUTF8.toList
  | .RawRecord v => .unknown v.Data

def flowRecord (r : TSP.FlowRecord) : Sflow.FlowRecord :=
  ⟨r.Header.DataFormat.toNat, r.Header.Length.toNat, recordData r.Data⟩

/-- `CounterRecord.Data` -/
def counterData : TSP.CounterData → Sflow.CounterData
  | .nil => .none
  | .IfCounters v => .ifc [v.IfIndex.toNat, v.IfType.toNat, v.IfSpeed.toNat, v.IfDirection.toNat, v.IfStatus.toNat,
      v.IfInOctets.toNat, v.IfInUcastPkts.toNat, v.IfInMulticastPkts.toNat, v.IfInBroadcastPkts.toNat, v.IfInDiscards.toNat,
      v.IfInErrors.toNat, v.IfInUnknownProtos.toNat, v.IfOutOctets.toNat, v.IfOutUcastPkts.toNat, v.IfOutMulticastPkts.toNat,
      v.IfOutBroadcastPkts.toNat, v.IfOutDiscards.toNat, v.IfOutErrors.toNat, v.IfPromiscuousMode.toNat]
  | .EthernetCounters v => .eth [v.Dot3StatsAlignmentErrors.toNat, v.Dot3StatsFCSErrors.toNat,
      v.Dot3StatsSingleCollisionFrames.toNat, v.Dot3StatsMultipleCollisionFrames.toNat, v.Dot3StatsSQETestErrors.toNat,
      v.Dot3StatsDeferredTransmissions.toNat, v.Dot3StatsLateCollisions.toNat, v.Dot3StatsExcessiveCollisions.toNat,
      v.Dot3StatsInternalMacTransmitErrors.toNat, v.Dot3StatsCarrierSenseErrors.toNat, v.Dot3StatsFrameTooLongs.toNat,
      v.Dot3StatsInternalMacReceiveErrors.toNat, v.Dot3StatsSymbolErrors.toNat]
  | .RawRecord v => .unknown v.Data

def counterRecord (r : TSP.CounterRecord) : Sflow.CounterRecord :=
  ⟨r.Header.DataFormat.toNat, r.Header.Length.toNat, counterData r.Data⟩

def sampleHeader (h : TSP.SampleHeader) : Sflow.SampleHeader :=
  ⟨h.Format.toNat, h.Length.toNat, h.SampleSequenceNumber.toNat, h.SourceIdType.toNat, h.SourceIdValue.toNat⟩

/-- an element of `Packet.Samples` -/
def sample : TSP.Sample → Sflow.Sample
  | .nil => .none
  | .FlowSample v =>
    .flow (sampleHeader v.Header)
      [v.SamplingRate.toNat, v.SamplePool.toNat, v.Drops.toNat, v.Input.toNat, v.Output.toNat, v.FlowRecordsCount.toNat]
      (v.Records.map flowRecord)
  | .CounterSample v => .counter (sampleHeader v.Header) v.CounterRecordsCount.toNat (v.Records.map counterRecord)
  | .ExpandedFlowSample v =>
    .expFlow (sampleHeader v.Header)
      [v.SamplingRate.toNat, v.SamplePool.toNat, v.Drops.toNat, v.InputIfFormat.toNat, v.InputIfValue.toNat,
       v.OutputIfFormat.toNat, v.OutputIfValue.toNat, v.FlowRecordsCount.toNat]
      (v.Records.map flowRecord)
  | .DropSample v =>
    .drop (sampleHeader v.Header)
      [v.Drops.toNat, v.Input.toNat, v.Output.toNat, v.Reason.toNat, v.FlowRecordsCount.toNat] (v.Records.map flowRecord)

def packet (p : TSP.Packet) : Sflow.Packet :=
  ⟨p.Version.toNat, p.IPVersion.toNat, p.AgentIP,
   [p.SubAgentId.toNat, p.SequenceNumber.toNat, p.Uptime.toNat, p.SamplesCount.toNat], p.Samples.map sample⟩

@[simp] theorem ok_bind {α β : Type} (a : α) (f : α → Res β) : ((Except.ok a : Res α) >>= f) = f a := rfl
@[simp] theorem err_bind {α β : Type} (e : Err) (f : α → Res β) : ((Except.error e : Res α) >>= f) = .error e := rfl

@[simp] theorem bind_ok {α : Type} (r : Res α) : (r >>= fun t => (Except.ok t : Res α)) = r := by
  cases r <;> rfl

theorem u32_toNat_ofNat_toNat (x : UInt32) : (UInt64.ofNat x.toNat).toNat = x.toNat := by
  have := x.toNat_lt
  simp only [UInt64.toNat_ofNat']
  omega

/-- `ParseSampledHeaderConfig(flowMessage, &h, config)`: protocol 1 (Ethernet) goes to the dissector, with the default
    environment when `config` is the nil interface; everything else leaves the message alone. What is dissected is the
    header data cut to the announced length (`if n := int(OriginalLength); n < len(data) { data = data[:n] }`: the XDR
    padding the decoder keeps is not dissected) -/
theorem parseSampledHeaderConfig_eq (m : FlowMsg) (h : TSP.SampledHeader) (cfg : Option Config) :
    TSP.ParseSampledHeaderConfig m h cfg =
      if h.Protocol.toNat = 1 then parsePacket (cfg.getD {}) m (h.HeaderData.take h.OriginalLength.toNat) else .ok m := by
  unfold TSP.ParseSampledHeaderConfig
  -- `if n < len(data) { data = data[:n] }` then the rest `k` on `data`: the rest on `data.take n`
  have hcut : ∀ (k : Bytes → Res FlowMsg) (d : Bytes) (n : Nat),
      (if decide (n < d.length) then Go.sliceTo d n >>= fun t => k t else k d) = k (d.take n) := by
    intro k d n
    by_cases hn : n < d.length
    · simp [hn, Go.sliceTo, Nat.le_of_lt hn]
    · simp [hn, List.take_of_length_le (Nat.le_of_not_lt hn)]
  simp only [hcut]
  by_cases hp : h.Protocol = 1
  · have : h.Protocol.toNat = 1 := by rw [hp]; rfl
    cases cfg with
    | none => simp [hp, this, Go.ParsePacket, Go.DefaultEnvironment]
    | some c => simp [hp, this, Go.ParsePacket]
  · have : ¬ h.Protocol.toNat = 1 := fun hh => hp (UInt32.toNat_inj.mp (by rw [hh]; rfl))
    simp [hp, this]

/-- what the loop carries: the message, the three address locals (never read), the hidden range counter -/
abbrev St := FlowMsg × Bytes × Bytes × Bytes × Int
abbrev Step := Res (Go.Ctl St FlowMsg)

def stepOf (r : Res FlowMsg) (nh src dst : Bytes) (i : Int) : Step :=
  r >>= fun m' => .ok (.next (m', nh, src, dst, i + 1))

theorem case_sampledHeader (cfg : Option Config) (m : FlowMsg) (nh src dst : Bytes) (i : Int) (hd : TSP.RecordHeader)
    (v : TSP.SampledHeader) :
    TSP.SearchSFlowSampleConfig_case_SampledHeader m cfg nh src dst i v =
      stepOf (applyRecord cfg m (flowRecord ⟨hd, .SampledHeader v⟩)) nh src dst i := by
  simp only [TSP.SearchSFlowSampleConfig_case_SampledHeader, parseSampledHeaderConfig_eq, stepOf, applyRecord, flowRecord,
    recordData, u32_toNat_ofNat_toNat, List.getD_cons_zero, List.getD_cons_succ]

theorem case_sampledIPv4 (cfg : Option Config) (m : FlowMsg) (nh src dst : Bytes) (i : Int) (hd : TSP.RecordHeader)
    (v : TSP.SampledIPv4) :
    TSP.SearchSFlowSampleConfig_case_SampledIPv4 m nh src dst i v =
      stepOf (applyRecord cfg m (flowRecord ⟨hd, .SampledIPv4 v⟩)) nh v.SampledIPBase.SrcIP v.SampledIPBase.DstIP i := by
  simp [TSP.SearchSFlowSampleConfig_case_SampledIPv4, stepOf, applyRecord, flowRecord, recordData, ipBaseVals, vNat, vBytes,
    Sflow.V.nat, Sflow.V.bytes, u32_toNat_ofNat_toNat]

theorem case_sampledIPv6 (cfg : Option Config) (m : FlowMsg) (nh src dst : Bytes) (i : Int) (hd : TSP.RecordHeader)
    (v : TSP.SampledIPv6) :
    TSP.SearchSFlowSampleConfig_case_SampledIPv6 m nh src dst i v =
      stepOf (applyRecord cfg m (flowRecord ⟨hd, .SampledIPv6 v⟩)) nh v.SampledIPBase.SrcIP v.SampledIPBase.DstIP i := by
  simp [TSP.SearchSFlowSampleConfig_case_SampledIPv6, stepOf, applyRecord, flowRecord, recordData, ipBaseVals, vNat, vBytes,
    Sflow.V.nat, Sflow.V.bytes, u32_toNat_ofNat_toNat]

theorem case_extendedRouter (cfg : Option Config) (m : FlowMsg) (nh src dst : Bytes) (i : Int) (hd : TSP.RecordHeader)
    (v : TSP.ExtendedRouter) :
    TSP.SearchSFlowSampleConfig_case_ExtendedRouter m nh src dst i v =
      stepOf (applyRecord cfg m (flowRecord ⟨hd, .ExtendedRouter v⟩)) v.NextHop src dst i := by
  simp [TSP.SearchSFlowSampleConfig_case_ExtendedRouter, stepOf, applyRecord, flowRecord, recordData]

theorem case_extendedSwitch (cfg : Option Config) (m : FlowMsg) (nh src dst : Bytes) (i : Int) (hd : TSP.RecordHeader)
    (v : TSP.ExtendedSwitch) :
    TSP.SearchSFlowSampleConfig_case_ExtendedSwitch m nh src dst i v =
      stepOf (applyRecord cfg m (flowRecord ⟨hd, .ExtendedSwitch v⟩)) nh src dst i := by
  simp [TSP.SearchSFlowSampleConfig_case_ExtendedSwitch, stepOf, applyRecord, flowRecord, recordData, vNat, Sflow.V.nat]

theorem case_extendedGateway (cfg : Option Config) (m : FlowMsg) (nh src dst : Bytes) (i : Int) (hd : TSP.RecordHeader)
    (v : TSP.ExtendedGateway) :
    TSP.SearchSFlowSampleConfig_case_ExtendedGateway m nh src dst i v =
      stepOf (applyRecord cfg m (flowRecord ⟨hd, .ExtendedGateway v⟩)) v.NextHop src dst i := by
  have hsrc : (v.SrcAS > 0) ↔ (v.SrcAS.toNat > 0) := by
    show (0 : UInt32) < v.SrcAS ↔ _
    rw [UInt32.lt_iff_toNat_lt]; rfl
  cases hp : v.ASPath with
  | nil =>
    simp only [TSP.SearchSFlowSampleConfig_case_ExtendedGateway, stepOf, applyRecord, flowRecord, recordData, hp,
      List.length_nil, List.map_nil, List.getLast?_nil, List.getD_cons_zero, List.getD_cons_succ, ok_bind, hsrc, decide_eq_true_eq]
    by_cases h : v.SrcAS.toNat > 0 <;> simp [h]
  | cons x xs =>
    have hlen : (((x :: xs).length : Nat) : Int) - 1 = ((xs.length : Nat) : Int) := by simp
    have hpos : (((x :: xs).length : Nat) : Int) > 0 := by simp
    have hlast : ((x :: xs).map UInt32.toNat).getLast? = some ((x :: xs)[xs.length]'(by simp)).toNat := by
      rw [List.getLast?_map, List.getLast?_eq_getElem?]
      simp [List.getElem?_eq_getElem]
    have hhead : ((x :: xs).map UInt32.toNat).headD 0 = x.toNat := rfl
    have h0 : Go.idxLI (x :: xs) (0 : Int) = .ok x := idxLI_nat (l := x :: xs) (k := 0) (by simp)
    simp only [TSP.SearchSFlowSampleConfig_case_ExtendedGateway, stepOf, applyRecord, flowRecord, recordData, hp, hlen,
      hpos, decide_true, if_true, idxLI_nat (l := x :: xs) (k := xs.length) (by simp), h0, hlast, hhead, ok_bind,
      List.getD_cons_zero, List.getD_cons_succ, hsrc, decide_eq_true_eq]
    by_cases h : v.SrcAS.toNat > 0 <;> simp only [h, ↓reduceIte]

theorem loop1_body_eq (cfg : Option Config) (recs : List TSP.FlowRecord) (m : FlowMsg) (nh src dst : Bytes) (k : Nat)
    (hk : k < recs.length) :
    ∃ nh' src' dst', TSP.SearchSFlowSampleConfig_loop1_body cfg recs (recs.length : Int) m nh src dst (k : Int) =
      stepOf (applyRecord cfg m (flowRecord recs[k])) nh' src' dst' (k : Int) := by
  have hlt : ((k : Int) < (recs.length : Int)) := by omega
  simp only [TSP.SearchSFlowSampleConfig_loop1_body, hlt, decide_true, if_true, idxLI_nat hk, ok_bind]
  generalize recs[k] = r
  obtain ⟨hd, d⟩ := r
  cases d with
  | SampledHeader v => exact ⟨_, _, _, case_sampledHeader cfg m nh src dst k hd v⟩
  | SampledIPv4 v => exact ⟨_, _, _, case_sampledIPv4 cfg m nh src dst k hd v⟩
  | SampledIPv6 v => exact ⟨_, _, _, case_sampledIPv6 cfg m nh src dst k hd v⟩
  | ExtendedRouter v => exact ⟨_, _, _, case_extendedRouter cfg m nh src dst k hd v⟩
  | ExtendedGateway v => exact ⟨_, _, _, case_extendedGateway cfg m nh src dst k hd v⟩
  | ExtendedSwitch v => exact ⟨_, _, _, case_extendedSwitch cfg m nh src dst k hd v⟩
  | nil => exact ⟨nh, src, dst, rfl⟩
  | SampledEthernet v => exact ⟨nh, src, dst, rfl⟩
  | EgressQueue v => exact ⟨nh, src, dst, rfl⟩
  | ExtendedACL v => exact ⟨nh, src, dst, rfl⟩
  | ExtendedFunction v => exact ⟨nh, src, dst, rfl⟩
  | RawRecord v => exact ⟨nh, src, dst, rfl⟩

theorem loop1_body_done (cfg : Option Config) (recs : List TSP.FlowRecord) (m : FlowMsg) (nh src dst : Bytes) (k : Nat)
    (hk : recs.length ≤ k) :
    TSP.SearchSFlowSampleConfig_loop1_body cfg recs (recs.length : Int) m nh src dst (k : Int) =
      .ok (.brk (m, nh, src, dst, (k : Int))) := by
  have hlt : ¬ ((k : Int) < (recs.length : Int)) := by omega
  simp only [TSP.SearchSFlowSampleConfig_loop1_body, hlt, decide_false, Bool.false_eq_true, if_false]

theorem loop1_eq (cfg : Option Config) (recs : List TSP.FlowRecord) :
    ∀ (fuel k : Nat) (m : FlowMsg) (nh src dst : Bytes), k ≤ recs.length → recs.length - k < fuel →
      (∃ e, applyRecords cfg ((recs.drop k).map flowRecord) m = .error e ∧
        TSP.SearchSFlowSampleConfig_loop1 cfg recs (recs.length : Int) fuel m nh src dst (k : Int) = .error e) ∨
      (∃ m' nh' src' dst', applyRecords cfg ((recs.drop k).map flowRecord) m = .ok m' ∧
        TSP.SearchSFlowSampleConfig_loop1 cfg recs (recs.length : Int) fuel m nh src dst (k : Int) =
          .ok (.brk (m', nh', src', dst', (recs.length : Int)))) := by
  intro fuel
  induction fuel with
  | zero => intro k m nh src dst _ h; omega
  | succ fuel ih =>
    intro k m nh src dst hk hf
    by_cases hlt : k < recs.length
    · obtain ⟨nh', src', dst', hb⟩ := loop1_body_eq cfg recs m nh src dst k hlt
      have hdrop : recs.drop k = recs[k] :: recs.drop (k + 1) := List.drop_eq_getElem_cons hlt
      simp only [TSP.SearchSFlowSampleConfig_loop1, hb, hdrop, List.map_cons, applyRecords, stepOf]
      cases hr : applyRecord cfg m (flowRecord recs[k]) with
      | error e => exact Or.inl ⟨e, rfl, rfl⟩
      | ok m1 =>
        have hc : ((k : Int) + 1) = ((k + 1 : Nat) : Int) := by omega
        simp only [ok_bind, hc]
        exact ih (k + 1) m1 nh' src' dst' (by omega) (by omega)
    · have hkeq : k = recs.length := by omega
      subst hkeq
      refine Or.inr ⟨m, nh, src, dst, ?_, ?_⟩
      · simp [applyRecords]
      · simp only [TSP.SearchSFlowSampleConfig_loop1, loop1_body_done cfg recs m nh src dst recs.length (Nat.le_refl _),
          ok_bind]

/-- the model's conversion of one sample on an arbitrary message (the hand model `convertSample` starts from the
    `Reset()` message, see `searchModel_convertSample`): the sample-level assignments, then the records; a sample that is
    neither a flow sample nor an expanded flow sample has no records to go through -/
def searchModel (cfg : Option Config) (m : FlowMsg) : Sflow.Sample → Res FlowMsg
  | .flow _ vals recs =>
    applyRecords cfg recs
      { m with type_ := 1, samplingRate := vals.getD 0 0, inIf := vals.getD 3 0, outIf := vals.getD 4 0, packets := 1 }
  | .expFlow _ vals recs =>
    applyRecords cfg recs
      { m with type_ := 1, samplingRate := vals.getD 0 0, inIf := vals.getD 4 0, outIf := vals.getD 6 0, packets := 1 }
  | _ => .ok { m with type_ := 1, packets := 1 }

theorem searchModel_convertSample (cfg : Option Config) (s : Sflow.Sample) (r : Res FlowMsg)
    (h : convertSample cfg s = some r) : searchModel cfg FlowMsg.empty s = r := by
  cases s <;> simp [convertSample] at h <;> subst h <;> rfl

/-- the tail of SearchSFlowSampleConfig after the sample-level switch: `Packets = 1`, the loop, `return nil` -/
theorem search_tail (cfg : Option Config) (recs : List TSP.FlowRecord) (m : FlowMsg) :
    (TSP.SearchSFlowSampleConfig_loop1 cfg recs (recs.length : Int) ((recs.length : Int).toNat + 1) m [] [] [] (0 : Int) >>=
      fun t => Go.Ctl.elim t (fun x => .ok x) fun c => (.ok c.1 : Res FlowMsg)) =
    applyRecords cfg (recs.map flowRecord) m := by
  have hfuel : recs.length - 0 < (recs.length : Int).toNat + 1 := by simp
  rcases loop1_eq cfg recs ((recs.length : Int).toNat + 1) 0 m [] [] [] (Nat.zero_le _) hfuel with
    ⟨e, h1, h2⟩ | ⟨m', nh', src', dst', h1, h2⟩
  · simp only [List.drop_zero] at h1
    have h2' : TSP.SearchSFlowSampleConfig_loop1 cfg recs (recs.length : Int) ((recs.length : Int).toNat + 1) m [] [] []
        (0 : Int) = .error e := h2
    rw [h1, h2']; rfl
  · simp only [List.drop_zero] at h1
    have h2' : TSP.SearchSFlowSampleConfig_loop1 cfg recs (recs.length : Int) ((recs.length : Int).toNat + 1) m [] [] []
        (0 : Int) = .ok (.brk (m', nh', src', dst', (recs.length : Int))) := h2
    rw [h1, h2']; rfl

theorem searchSFlowSampleConfig_eq (m : FlowMsg) (s : TSP.Sample) (cfg : Option Config) :
    TSP.SearchSFlowSampleConfig m s cfg = searchModel cfg m (sample s) := by
  cases s with
  | FlowSample v =>
    simp only [TSP.SearchSFlowSampleConfig, sample, searchModel, List.getD_cons_zero, List.getD_cons_succ,
      u32_toNat_ofNat_toNat]
    exact search_tail cfg v.Records _
  | ExpandedFlowSample v =>
    simp only [TSP.SearchSFlowSampleConfig, sample, searchModel, List.getD_cons_zero, List.getD_cons_succ,
      u32_toNat_ofNat_toNat]
    exact search_tail cfg v.Records _
  | nil => rfl
  | CounterSample v => rfl
  | DropSample v => rfl

/-- on the `Reset()` message (`FlowMsg.empty`) the translated function is the hand model's `convertSample` -/
theorem searchSFlowSampleConfig_convertSample (s : TSP.Sample) (cfg : Option Config) (r : Res FlowMsg)
    (h : convertSample cfg (sample s) = some r) : TSP.SearchSFlowSampleConfig FlowMsg.empty s cfg = r := by
  rw [searchSFlowSampleConfig_eq]; exact searchModel_convertSample cfg _ r h

/-- `case sflow.FlowSample, case sflow.ExpandedFlowSample` -/
def isFlow : TSP.Sample → Bool
  | .FlowSample _ => true
  | .ExpandedFlowSample _ => true
  | _ => false

theorem idxL_nat {α : Type} {l : List α} {k : Nat} (h : k < l.length) : Go.idxL l k = .ok l[k] := by
  simp [Go.idxL, List.getElem?_eq_getElem h]

theorem getSFlowFlowSamples_loop (ss : List TSP.Sample) :
    ∀ (fuel k : Nat) (acc : List TSP.Sample), k ≤ ss.length → ss.length - k < fuel →
      TSP.GetSFlowFlowSamples_loop1 ss ss.length fuel acc k = .ok (acc ++ (ss.drop k).filter isFlow, ss.length) := by
  intro fuel
  induction fuel with
  | zero => intro k acc _ h; omega
  | succ fuel ih =>
    intro k acc hk hf
    by_cases hlt : k < ss.length
    · have hdrop : ss.drop k = ss[k] :: ss.drop (k + 1) := List.drop_eq_getElem_cons hlt
      simp only [TSP.GetSFlowFlowSamples_loop1, hlt, decide_true, if_true, idxL_nat hlt, ok_bind, hdrop]
      cases hs : ss[k] <;>
        simp only [ih (k + 1) _ (by omega) (by omega), List.filter_cons, isFlow, if_true, Bool.false_eq_true, if_false,
          List.append_assoc, List.cons_append, List.nil_append]
    · have hkeq : k = ss.length := by omega
      subst hkeq
      simp [TSP.GetSFlowFlowSamples_loop1]

theorem getSFlowFlowSamples_eq (p : TSP.Packet) : TSP.GetSFlowFlowSamples p = .ok (p.Samples.filter isFlow) := by
  simp only [TSP.GetSFlowFlowSamples, getSFlowFlowSamples_loop p.Samples (p.Samples.length + 1) 0 [] (Nat.zero_le _)
    (by omega), ok_bind, List.drop_zero, List.nil_append]

theorem isFlow_convertSample (cfg : Option Config) (s : TSP.Sample) : (convertSample cfg (sample s)).isSome = isFlow s := by
  cases s <;> rfl

/-!
  `SearchSFlowSamplesConfig` itself (pool `Get`, `Reset`, `append` of the producer message) is outside the translated
  subset. What is proved: the hand model's `convertSamples` is the translated `SearchSFlowSampleConfig`, run on a `Reset()`
  message for every sample the translated `GetSFlowFlowSamples` keeps, the first error ending everything. -/

/-- `for … { if err := f(…); err != nil { return nil, err }; set = append(set, msg) }` -/
def collect : List (Res FlowMsg) → Res (List FlowMsg)
  | [] => .ok []
  | r :: rs =>
    match r with
    | .error e => .error e
    | .ok m =>
      match collect rs with
      | .error e => .error e
      | .ok ms => .ok (m :: ms)

theorem convertSamples_translated (cfg : Option Config) (ss : List TSP.Sample) :
    convertSamples cfg (ss.map sample) =
      collect ((ss.filter isFlow).map fun s => TSP.SearchSFlowSampleConfig FlowMsg.empty s cfg) := by
  induction ss with
  | nil => rfl
  | cons s ss ih =>
    cases hs : s with
    | nil => simpa [convertSamples, sample, convertSample, isFlow] using ih
    | CounterSample v => simpa [convertSamples, sample, convertSample, isFlow] using ih
    | DropSample v => simpa [convertSamples, sample, convertSample, isFlow] using ih
    | FlowSample v =>
      have h := searchSFlowSampleConfig_convertSample (.FlowSample v) cfg _ rfl
      simp only [List.map_cons, List.filter_cons, isFlow, if_true, collect, h, ← ih]
      simp only [convertSamples, sample, convertSample]
      cases applyRecords cfg _ _ <;> rfl
    | ExpandedFlowSample v =>
      have h := searchSFlowSampleConfig_convertSample (.ExpandedFlowSample v) cfg _ rfl
      simp only [List.map_cons, List.filter_cons, isFlow, if_true, collect, h, ← ih]
      simp only [convertSamples, sample, convertSample]
      cases applyRecords cfg _ _ <;> rfl

end Goflow.C09Trans
