import Goflow.Generated.NetflowT
import Goflow.Producer.Netflow
import Proofs.C08Trans
import Proofs.Lemmas.Numbers
/-!
  C08 (translation tie, part 2) — the per-element conversion of NetFlow v9 / IPFIX records.
  `ConvertNetFlowDataSet` of producer/proto/producer_nf.go (with `addrReplaceCheck`, `allZeroes`, and `MapCustomNetFlow`
  of reflect.go) is regenerated into Lean on every run by extract/translate.go + translate3.go
  (Goflow/Generated/NetflowT.lean): the body of the loop over the fields of a record is
  `TF.ConvertNetFlowDataSet_loop1_body`, and every `case` of `switch df.Type` is a definition `TF.ConvertNetFlowDataSet_case_<id>`.

  Every case body is the model's `applyAction` on the `Action` of its table entry: one lemma per shape of body, stated
  for any continuation of that shape, and `case_<id>` where an element has a body of its own. The model's lookup in
  `caseTable` is read as a Go `switch` (`switchTbl`: the outer cases, with the cases of the version as default), so that
  `convertField_eq` compares the translated switch with the table one `case` at a time, in source order. From there the
  loop is `convertFields` and the function `convertNetFlowDataSet`.

  The model's `FlowMsg` keeps every column as an unbounded `Nat`; the Go message keeps them in uint32 / uint64. Where a
  case reads a column back (Etype through `&(flowMessage.Etype)`, MplsLabel when it grows, Bytes after ParsePacket) the
  statement carries the width fact as a hypothesis (`StepOK`); it holds for every message the Go code can hold.
-/
set_option linter.unusedSimpArgs false
namespace Goflow.C08Trans2
open Goflow Goflow.Producer Goflow.Generated Goflow.Go

theorem allZeroes_loop (v : Bytes) : ∀ (fuel rng : Nat), rng ≤ v.length → v.length - rng < fuel →
    TF.allZeroes_loop1 v v.length fuel rng =
      .ok (if (v.drop rng).all (· == 0) then .brk v.length else .ret false) := by
  intro fuel
  induction fuel with
  | zero => intro rng _ h; omega
  | succ fuel ih =>
    intro rng h1 h2
    rw [TF.allZeroes_loop1, TF.allZeroes_loop1_body]
    by_cases hr : rng < v.length
    · have hd : v.drop rng = v[rng] :: v.drop (rng + 1) := List.drop_eq_getElem_cons hr
      rw [hd]
      by_cases hz : v[rng] = 0
      · simp [hr, idx_getElem hr, hz, ih (rng + 1) (by omega) (by omega)]
      · simp [hr, idx_getElem hr, hz]
        exact ⟨v[rng], by rw [hd]; exact List.mem_cons_self, hz⟩
    · have : rng = v.length := by omega
      subst this
      simp

theorem allZeroes_eq (v : Bytes) : TF.allZeroes v = .ok (v.all (· == 0)) := by
  unfold TF.allZeroes
  simp only [allZeroes_loop v (v.length + 1) 0 (by omega) (by omega), List.drop_zero, ok_bind]
  by_cases h : v.all (· == 0) <;> simp [h, Go.Ctl.elim]

theorem addrReplaceCheck_raw (cur v : Bytes) (et : UInt32) (v6 : Bool) :
    TF.addrReplaceCheck cur v et v6 =
      .ok (if (cur.length = 0 ∧ v.length > 0) ∨ (cur.length ≠ 0 ∧ v.length > 0 ∧ !(v.all (· == 0)))
           then (v, if v6 then 0x86dd else 0x800) else (cur, et)) := by
  unfold TF.addrReplaceCheck
  by_cases h1 : cur.length = 0 <;> by_cases h2 : v.length > 0 <;> by_cases h3 : v.all (· == 0) <;> cases v6 <;>
    simp [h1, h2, h3, allZeroes_eq]

/-- addrReplaceCheck on the bytes column `c` of the message, whose value is `cur`: what is done with the pair the Go
    function returns (`P`) is what is done with the message the model's function returns (`Q`), if it is so for the
    replaced and for the untouched column -/
theorem addrReplaceCheck_col (m : FlowMsg) (c : String) (cur v : Bytes) (v6 : Bool) {β : Type} (P : Bytes × UInt32 → β)
    (Q : FlowMsg → β) (hcur : (m.getBytes c).getD [] = cur)
    (hnew : P (v, if v6 then 0x86dd else 0x800) = Q { m.setBytes c v with etype := if v6 then 0x86dd else 0x800 })
    (hold : P (cur, UInt32.ofNat m.etype) = Q m) :
    ∃ t, TF.addrReplaceCheck cur v (UInt32.ofNat m.etype) v6 = .ok t ∧ P t = Q (Producer.addrReplaceCheck m c v v6) := by
  refine ⟨_, addrReplaceCheck_raw cur v _ v6, ?_⟩
  simp only [Producer.addrReplaceCheck, hcur]
  split
  · exact hnew
  · exact hold

theorem addrReplaceCheck_eq_src (m : FlowMsg) (v : Bytes) (v6 : Bool) :
    TF.addrReplaceCheck m.srcAddr v (UInt32.ofNat m.etype) v6 =
      .ok ((Producer.addrReplaceCheck m "SrcAddr" v v6).srcAddr, UInt32.ofNat (Producer.addrReplaceCheck m "SrcAddr" v v6).etype) := by
  obtain ⟨t, ht, h⟩ := addrReplaceCheck_col m "SrcAddr" m.srcAddr v v6 id (fun m' => (m'.srcAddr, UInt32.ofNat m'.etype)) rfl
    (by cases v6 <;> rfl) rfl
  rw [ht, ← h]; rfl

theorem addrReplaceCheck_eq_dst (m : FlowMsg) (v : Bytes) (v6 : Bool) :
    TF.addrReplaceCheck m.dstAddr v (UInt32.ofNat m.etype) v6 =
      .ok ((Producer.addrReplaceCheck m "DstAddr" v v6).dstAddr, UInt32.ofNat (Producer.addrReplaceCheck m "DstAddr" v v6).etype) := by
  obtain ⟨t, ht, h⟩ := addrReplaceCheck_col m "DstAddr" m.dstAddr v v6 id (fun m' => (m'.dstAddr, UInt32.ofNat m'.etype)) rfl
    (by cases v6 <;> rfl) rfl
  rw [ht, ← h]; rfl

def dfOf (df : TF.DataField) : Netflow.DataField := ⟨df.PenProvided, df.Type.toNat, df.Pen.toNat, df.Value⟩

/-- the custom-mapping step of the model's `convertFields` -/
def mapStep (mapper : Option (List NetflowMapEntry)) (df : Netflow.DataField) (v : Bytes) (m : FlowMsg) : Res FlowMsg :=
  match mapper with
  | none => .ok m
  | some es =>
    match lookupNetflow es df.penProvided df.pen df.type with
    | some f => mapCustom m v f
    | none => .ok m

theorem mapCustomNetFlow_eq (m : FlowMsg) (df : TF.DataField) (v : Bytes) (mp : Go.TemplateMapper) (hv : df.Value = some v) :
    TF.MapCustomNetFlow m df mp = mapStep mp (dfOf df) v m := by
  unfold TF.MapCustomNetFlow mapStep
  cases mp with
  | none => simp
  | some es =>
    simp only [Go.mapperMap, dfOf]
    cases h : lookupNetflow es df.PenProvided df.Pen.toNat df.Type.toNat with
    | none => simp
    | some f =>
      simp only [hv, Go.assertBytes, Go.MapCustom, ok_bind, if_true]
      cases mapCustom m v f <;> rfl

/-- one iteration of the model's `convertFields` -/
def modelStep (cfg : Option Config) (version baseTimeNs uptime : Nat) (df : Netflow.DataField) (m : FlowMsg) : Res FlowMsg :=
  match df.value with
  | none => .ok m
  | some v =>
    match mapStep (cfg.map fun c => if version = 10 then c.ipfix else c.v9) df v m with
    | .error e => .error e
    | .ok m1 =>
      if df.penProvided then .ok m1
      else
        match lookupAction version df.type with
        | none => .ok m1
        | some a => applyAction cfg baseTimeNs uptime m1 v a

/-- what an iteration of the translated loop hands to the next one, without the scratch variable `time` -/
def stepOut : Go.Ctl (FlowMsg × UInt64 × Nat) FlowMsg → Option (FlowMsg × Nat)
  | .next (m, _, r) => some (m, r)
  | _ => none

theorem dec32 (v : Bytes) (a : UInt32) :
    TN.DecodeUNumber v (.u32 a) = (decodeUNumber 32 v).map fun n => .u32 (UInt32.ofNat n) :=
  (Goflow.C08Trans.decodeUNumber_trans_eq v).2.2.1 a
theorem dec64 (v : Bytes) (a : UInt64) :
    TN.DecodeUNumber v (.u64 a) = (decodeUNumber 64 v).map fun n => .u64 (UInt64.ofNat n) :=
  (Goflow.C08Trans.decodeUNumber_trans_eq v).2.2.2.1 a
theorem dec16 (v : Bytes) (a : UInt16) :
    TN.DecodeUNumber v (.u16 a) = (decodeUNumber 16 v).map fun n => .u16 (UInt16.ofNat n) :=
  (Goflow.C08Trans.decodeUNumber_trans_eq v).2.1 a


abbrev Step := Res (Go.Ctl (FlowMsg × UInt64 × Nat) FlowMsg)

/-- the model's case body, as an iteration of the loop returns it -/
abbrev caseOut (cfg : Option Config) (bt up : Nat) (m : FlowMsg) (rng : Nat) (v : Bytes) (a : Action) :
    Res (Option (FlowMsg × Nat)) :=
  (applyAction cfg bt up m v a).map fun m' => some (m', rng + 1)

/-- `DecodeUNumber(v, &x)` followed by `k`: the continuation sees the model's number, as a machine integer `u` -/
theorem decode_step (rng : Nat) {v : Bytes} {α : Type} (toNat : α → Nat) (ofNat : Nat → α) (mk : α → Go.Cell) (bits : Nat) {c : Go.Cell}
    (hdec : TN.DecodeUNumber v c = (decodeUNumber bits v).map fun n => mk (ofNat n))
    (hto : ∀ n, n < 2 ^ bits → toNat (ofNat n) = n) (k : Go.Cell → Step) (F : Nat → Res FlowMsg)
    (hk : ∀ u : α, (k (mk u)).map stepOut = (F (toNat u)).map fun m' => some (m', rng + 1)) :
    (TN.DecodeUNumber v c >>= k).map stepOut = (decodeUNumber bits v >>= F).map fun m' => some (m', rng + 1) := by
  rw [hdec]
  cases hd : decodeUNumber bits v with
  | error e => rfl
  | ok x =>
    have h := hk (ofNat x)
    rw [hto x (decodeUNumber_lt hd)] at h
    exact h

theorem decode16 (rng : Nat) {v : Bytes} (a : UInt16) (k : Go.Cell → Step) (F : Nat → Res FlowMsg)
    (hk : ∀ u : UInt16, (k (.u16 u)).map stepOut = (F u.toNat).map fun m' => some (m', rng + 1)) :
    (TN.DecodeUNumber v (.u16 a) >>= k).map stepOut = (decodeUNumber 16 v >>= F).map fun m' => some (m', rng + 1) :=
  decode_step rng UInt16.toNat UInt16.ofNat .u16 16 (dec16 v a)
    (fun n hn => by rw [UInt16.toNat_ofNat']; exact Nat.mod_eq_of_lt hn) k F hk

theorem decode32 (rng : Nat) {v : Bytes} (a : UInt32) (k : Go.Cell → Step) (F : Nat → Res FlowMsg)
    (hk : ∀ u : UInt32, (k (.u32 u)).map stepOut = (F u.toNat).map fun m' => some (m', rng + 1)) :
    (TN.DecodeUNumber v (.u32 a) >>= k).map stepOut = (decodeUNumber 32 v >>= F).map fun m' => some (m', rng + 1) :=
  decode_step rng UInt32.toNat UInt32.ofNat .u32 32 (dec32 v a)
    (fun n hn => by rw [UInt32.toNat_ofNat']; exact Nat.mod_eq_of_lt hn) k F hk

theorem decode64 (rng : Nat) {v : Bytes} (a : UInt64) (k : Go.Cell → Step) (F : Nat → Res FlowMsg)
    (hk : ∀ u : UInt64, (k (.u64 u)).map stepOut = (F u.toNat).map fun m' => some (m', rng + 1)) :
    (TN.DecodeUNumber v (.u64 a) >>= k).map stepOut = (decodeUNumber 64 v >>= F).map fun m' => some (m', rng + 1) :=
  decode_step rng UInt64.toNat UInt64.ofNat .u64 64 (dec64 v a)
    (fun n hn => by rw [UInt64.toNat_ofNat']; exact Nat.mod_eq_of_lt hn) k F hk

section cases
variable {cfg : Option Config} {bt up : Nat} {m : FlowMsg} {time : UInt64} {rng : Nat} {v : Bytes}

/-- `DecodeUNumber(v, &(flowMessage.X))` on a 32-bit column -/
theorem unum32 (c : String) {a : UInt32} {k : Go.Cell → Step} (hb : colBits c = 32)
    (hk : ∀ u : UInt32, k (.u32 u) = .ok (.next (m.setNum c u.toNat, time, rng + 1))) :
    (TN.DecodeUNumber v (.u32 a) >>= k).map stepOut = caseOut cfg bt up m rng v (.unum c) := by
  refine (decode32 rng a k (fun x => .ok (m.setNum c x)) fun u => by rw [hk]; rfl).trans ?_
  simp only [caseOut, applyAction, hb]
  cases decodeUNumber 32 v <;> rfl

theorem unum64 (c : String) {a : UInt64} {k : Go.Cell → Step} (hb : colBits c = 64)
    (hk : ∀ u : UInt64, k (.u64 u) = .ok (.next (m.setNum c u.toNat, time, rng + 1))) :
    (TN.DecodeUNumber v (.u64 a) >>= k).map stepOut = caseOut cfg bt up m rng v (.unum c) := by
  refine (decode64 rng a k (fun x => .ok (m.setNum c x)) fun u => by rw [hk]; rfl).trans ?_
  simp only [caseOut, applyAction, hb]
  cases decodeUNumber 64 v <;> rfl

/-- two columns decoded from the same value (element 58) -/
theorem unum32_twice (c₁ c₂ : String) {a : UInt32} {a' : Go.Cell → UInt32} {k : Go.Cell → Go.Cell → Step}
    (hb₁ : colBits c₁ = 32) (hb₂ : colBits c₂ = 32)
    (hk : ∀ u u' : UInt32, k (.u32 u) (.u32 u') = .ok (.next ((m.setNum c₁ u.toNat).setNum c₂ u'.toNat, time, rng + 1))) :
    (TN.DecodeUNumber v (.u32 a) >>= fun t => TN.DecodeUNumber v (.u32 (a' t)) >>= k t).map stepOut =
      caseOut cfg bt up m rng v (.unum2 c₁ c₂) := by
  refine (decode32 rng _ _ (fun x => decodeUNumber 32 v >>= fun y => .ok ((m.setNum c₁ x).setNum c₂ y)) fun u =>
    decode32 rng _ _ _ fun u' => by rw [hk]; rfl).trans ?_
  simp only [caseOut, applyAction, hb₁, hb₂]
  cases decodeUNumber 32 v <;> rfl

theorem case_60 : (TF.ConvertNetFlowDataSet_case_60 m time rng v).map stepOut =
    caseOut cfg bt up m rng v .ipVersion := by
  cases v with
  | nil => rfl
  | cons x xs =>
    by_cases h4 : x = 4
    · subst h4; rfl
    · by_cases h6 : x = 6
      · subst h6; rfl
      · simp [TF.ConvertNetFlowDataSet_case_60, caseOut, applyAction, stepOut, Except.map, Go.idx, h4, h6]

theorem toNat_etype {m : FlowMsg} (he : m.etype < 4294967296) : (UInt32.ofNat m.etype).toNat = m.etype := by
  rw [UInt32.toNat_ofNat']; exact Nat.mod_eq_of_lt he

/-- `addrReplaceCheck(&(flowMessage.SrcAddr), v, &(flowMessage.Etype), v6)` (elements 8, 27) -/
theorem addr_src (v6 : Bool) (he : m.etype < 4294967296) :
    (TF.addrReplaceCheck m.srcAddr v (UInt32.ofNat m.etype) v6 >>= fun t =>
      (.ok (.next ({ ({ m with srcAddr := t.1 } : FlowMsg) with etype := t.2.toNat }, time, rng + 1)) : Step)).map stepOut =
      caseOut cfg bt up m rng v (.addr "SrcAddr" v6) := by
  obtain ⟨t, ht, h⟩ := addrReplaceCheck_col m "SrcAddr" m.srcAddr v v6
    (fun t => ({ ({ m with srcAddr := t.1 } : FlowMsg) with etype := t.2.toNat } : FlowMsg)) id rfl (by cases v6 <;> rfl)
    (by simp only [toNat_etype he]; rfl)
  rw [ht, ok_bind, h]; rfl

/-- the same on DstAddr (elements 12, 28) -/
theorem addr_dst (v6 : Bool) (he : m.etype < 4294967296) :
    (TF.addrReplaceCheck m.dstAddr v (UInt32.ofNat m.etype) v6 >>= fun t =>
      (.ok (.next ({ ({ m with dstAddr := t.1 } : FlowMsg) with etype := t.2.toNat }, time, rng + 1)) : Step)).map stepOut =
      caseOut cfg bt up m rng v (.addr "DstAddr" v6) := by
  obtain ⟨t, ht, h⟩ := addrReplaceCheck_col m "DstAddr" m.dstAddr v v6
    (fun t => ({ ({ m with dstAddr := t.1 } : FlowMsg) with etype := t.2.toNat } : FlowMsg)) id rfl (by cases v6 <;> rfl)
    (by simp only [toNat_etype he]; rfl)
  rw [ht, ok_bind, h]; rfl

theorem icmp_split (u : UInt16) :
    (UInt32.ofNat (Go.shr16 u 8).toNat).toNat = u.toNat / 256 ∧ (UInt32.ofNat (u &&& 255).toNat).toNat = u.toNat % 256 := by
  have hu := u.toNat_lt
  constructor
  · rw [UInt32.toNat_ofNat', shr16_toNat]; omega
  · rw [UInt32.toNat_ofNat', UInt16.toNat_and, show (255 : UInt16).toNat = 255 from rfl, and_255]; omega

/-- elements 32 and 139 have the same body -/
theorem case_32 : (TF.ConvertNetFlowDataSet_case_32 m time rng v).map stepOut = caseOut cfg bt up m rng v .icmpTypeCode := by
  refine (decode16 rng _ _ (fun x => .ok { m with icmpType := x / 256, icmpCode := x % 256 }) fun u => ?_).trans ?_
  · obtain ⟨h1, h2⟩ := icmp_split u
    simp only [Go.Cell.getU16, h1, h2]
    rfl
  · simp only [caseOut, applyAction]
    cases decodeUNumber 16 v <;> rfl

theorem case_88 : (TF.ConvertNetFlowDataSet_case_88 m time rng v).map stepOut = caseOut cfg bt up m rng v .fragOffset := by
  refine (decode32 rng _ _ (fun x => .ok { m with fragmentOffset := x }) fun _ => rfl).trans ?_
  simp only [caseOut, applyAction]
  cases decodeUNumber 32 v <;> rfl

theorem case_197 : (TF.ConvertNetFlowDataSet_case_197 m time rng v).map stepOut = caseOut cfg bt up m rng v .ipFlags := by
  refine (decode32 rng _ _ (fun x => .ok { m with ipFlags := x / 32 }) fun u => ?_).trans ?_
  · simp only [Go.Cell.getU32, shr32_toNat]
    rfl
  · simp only [caseOut, applyAction]
    cases decodeUNumber 32 v <;> rfl

theorem case_312 : (TF.ConvertNetFlowDataSet_case_312 m time rng v).map stepOut = caseOut cfg bt up m rng v .frameSize := by
  refine (decode64 rng _ _ (fun x => .ok { m with bytes := x, packets := 1 }) fun _ => rfl).trans ?_
  simp only [caseOut, applyAction]
  cases decodeUNumber 64 v <;> rfl

/-- `flowMessage.TimeFlow{Start,End}Ns = time * mult` (elements 150–157); `g` is the multiplication as the case has it -/
theorem ipfixTime_case (s : Bool) (mult : Nat) (g : UInt64 → UInt64) {a : UInt64} {k : Go.Cell → Step}
    (hg : ∀ u, (g u).toNat = u.toNat * mult % U64)
    (hk : ∀ u : UInt64, k (.u64 u) = .ok (.next
      (if s then { m with timeFlowStartNs := (g u).toNat } else { m with timeFlowEndNs := (g u).toNat }, u, rng + 1))) :
    (TN.DecodeUNumber v (.u64 a) >>= k).map stepOut = caseOut cfg bt up m rng v (.ipfixTime s mult) := by
  refine (decode64 rng a k (fun x => .ok
    (if s then { m with timeFlowStartNs := x * mult % U64 } else { m with timeFlowEndNs := x * mult % U64 })) fun u => by
      rw [hk, hg]; rfl).trans ?_
  simp only [caseOut, applyAction]
  cases decodeUNumber 64 v <;> rfl

theorem toNat_mul_one (u : UInt64) : (id u).toNat = u.toNat * 1 % U64 := by
  rw [Nat.mul_one]; exact (Nat.mod_eq_of_lt u.toNat_lt).symm

/-- `flowMessage.TimeFlow{Start,End}Ns = baseTimeNs - time*1000` (elements 158, 159) -/
theorem ipfixDelta_case (s : Bool) (btw : UInt64) {a : UInt64} {k : Go.Cell → Step}
    (hk : ∀ u : UInt64, k (.u64 u) = .ok (.next
      (if s then { m with timeFlowStartNs := (btw - u * 1000).toNat } else { m with timeFlowEndNs := (btw - u * 1000).toNat },
        u, rng + 1))) :
    (TN.DecodeUNumber v (.u64 a) >>= k).map stepOut = caseOut cfg btw.toNat up m rng v (.ipfixDelta s) := by
  refine (decode64 rng a k (fun x => .ok
    (if s then { m with timeFlowStartNs := (btw.toNat + U64 - x * 1000 % U64) % U64 }
     else { m with timeFlowEndNs := (btw.toNat + U64 - x * 1000 % U64) % U64 })) fun u => by
      rw [hk, C08Trans.toNat_sub64, UInt64.toNat_mul]; rfl).trans ?_
  simp only [caseOut, applyAction]
  cases decodeUNumber 64 v <;> rfl

/-- `baseTimeNs - (uptimeNs - uint64(t)*1e6)` of NetFlow v9, for the decoded 32-bit `t` -/
theorem v9_time_u (btw : UInt64) (up32 t : UInt32) :
    (btw - (UInt64.ofNat up32.toNat * 1000000 - UInt64.ofNat t.toNat * 1000000)).toNat =
      (btw.toNat + U64 - (up32.toNat * 1000000 + U64 - t.toNat * 1000000 % U64) % U64) % U64 := by
  have ht : t.toNat * 1000000 % 2 ^ 64 = t.toNat * 1000000 := by
    rw [← C08Trans.toNat_ms _ t.toNat_lt]; exact Nat.mod_eq_of_lt (UInt64.toNat_lt _)
  rw [U64, C08Trans.toNat_sub64, C08Trans.toNat_sub64, C08Trans.toNat_ms _ up32.toNat_lt, C08Trans.toNat_ms _ t.toNat_lt, ht]

theorem v9_time (btw : UInt64) (up32 : UInt32) (x : Nat) (hx : x < 4294967296) :
    (btw - (UInt64.ofNat up32.toNat * 1000000 - UInt64.ofNat (UInt32.ofNat x).toNat * 1000000)).toNat =
      (btw.toNat + U64 - (up32.toNat * 1000000 + U64 - x * 1000000 % U64) % U64) % U64 :=
  (v9_time_u btw up32 (UInt32.ofNat x)).trans (by rw [UInt32.toNat_ofNat', Nat.mod_eq_of_lt hx])

theorem case_22 (btw : UInt64) (up32 : UInt32) :
    (TF.ConvertNetFlowDataSet_case_22 m time btw rng v (UInt64.ofNat up32.toNat * 1000000)).map stepOut =
      caseOut cfg btw.toNat up32.toNat m rng v .v9First := by
  refine (decode32 rng _ _ (fun x => .ok { m with timeFlowStartNs :=
    (btw.toNat + U64 - (up32.toNat * 1000000 + U64 - x * 1000000 % U64) % U64) % U64 }) fun u => ?_).trans ?_
  · simp only [Go.Cell.getU32, v9_time_u]
    rfl
  · simp only [caseOut, applyAction]
    cases decodeUNumber 32 v <;> rfl

theorem case_21 (btw : UInt64) (up32 : UInt32) :
    (TF.ConvertNetFlowDataSet_case_21 m time btw rng v (UInt64.ofNat up32.toNat * 1000000)).map stepOut =
      caseOut cfg btw.toNat up32.toNat m rng v .v9Last := by
  refine (decode32 rng _ _ (fun x => .ok { m with timeFlowEndNs :=
    (btw.toNat + U64 - (up32.toNat * 1000000 + U64 - x * 1000000 % U64) % U64) % U64 }) fun u => ?_).trans ?_
  · simp only [Go.Cell.getU32, v9_time_u]
    rfl
  · simp only [caseOut, applyAction]
    cases decodeUNumber 32 v <;> rfl

theorem map_roundtrip (l : List Nat) (h : ∀ x ∈ l, x < 4294967296) : (l.map UInt32.ofNat).map UInt32.toNat = l := by
  induction l with
  | nil => rfl
  | cons a as ih =>
    have ha : a < 4294967296 := h a (List.mem_cons_self)
    simp only [List.map_cons, UInt32.toNat_ofNat', Nat.reducePow, Nat.mod_eq_of_lt ha]
    rw [ih (fun x hx => h x (List.mem_cons_of_mem _ hx))]

/-- `tmpLabels := make([]uint32, n); copy(tmpLabels, flowMessage.MplsLabel)` on a shorter column of 32-bit labels -/
theorem copy_grow (l : List Nat) (n : Nat) (hl : ∀ x ∈ l, x < 4294967296) (hn : l.length < n) :
    (Go.copyList (List.replicate n (0 : UInt32)) (l.map UInt32.ofNat)).map UInt32.toNat =
      l ++ List.replicate (n - l.length) 0 := by
  have ht : (l.map UInt32.ofNat).take n = l.map UInt32.ofNat := List.take_of_length_le (by rw [List.length_map]; omega)
  rw [Go.copyList, List.length_replicate, ht, List.length_map, List.drop_replicate, List.map_append, map_roundtrip l hl,
    List.map_replicate]
  rfl

/-- `flowMessage.MplsLabel[i] = mplsLabel >> 4` once the column holds `i + 1` labels; `grown` is what the case stores
    when it is shorter -/
theorem mplsLabel_case (i : Nat) (grown : List Nat) {a : UInt32} {k : Go.Cell → Step}
    (hg : m.mplsLabel.length < i + 1 → grown = m.mplsLabel ++ List.replicate (i + 1 - m.mplsLabel.length) 0)
    (hk : ∀ u : UInt32, k (.u32 u) =
      let store := fun (fm : FlowMsg) => Go.setIdxNat fm.mplsLabel i (Go.shr32 u 4).toNat >>= fun l =>
        (.ok (.next ({ fm with mplsLabel := l }, time, rng + 1)) : Step)
      if decide ((m.mplsLabel.map UInt32.ofNat).length < i + 1) then store { m with mplsLabel := grown } else store m) :
    (TN.DecodeUNumber v (.u32 a) >>= k).map stepOut = caseOut cfg bt up m rng v (.mplsLabel i) := by
  let cur := if m.mplsLabel.length < i + 1 then m.mplsLabel ++ List.replicate (i + 1 - m.mplsLabel.length) 0 else m.mplsLabel
  refine (decode32 rng a k (fun x => .ok { m with mplsLabel := setAt cur i (x / 16) }) fun u => ?_).trans ?_
  · rw [hk, shr32_toNat, List.length_map]
    by_cases hl : m.mplsLabel.length < i + 1
    · have hi : i < (m.mplsLabel ++ List.replicate (i + 1 - m.mplsLabel.length) 0).length := by
        rw [List.length_append, List.length_replicate]; omega
      simp only [cur, hl, decide_true, if_true, hg hl, Go.setIdxNat, hi, ok_bind]
      rfl
    · have hi : i < m.mplsLabel.length := by omega
      simp only [cur, hl, decide_false, Bool.false_eq_true, if_false, Go.setIdxNat, hi, if_true, ok_bind]
      rfl
  · simp only [caseOut, applyAction]
    cases decodeUNumber 32 v <;> rfl

theorem case_70 : (TF.ConvertNetFlowDataSet_case_70 m time rng v).map stepOut =
    caseOut cfg bt up m rng v (.mplsLabel 0) :=
  mplsLabel_case 0 ((List.replicate 1 (0 : UInt32)).map UInt32.toNat)
    (fun h => by rw [List.eq_nil_of_length_eq_zero (Nat.lt_one_iff.1 h)]; rfl) fun _ => rfl

theorem case_71 (hml : ∀ x ∈ m.mplsLabel, x < 4294967296) : (TF.ConvertNetFlowDataSet_case_71 m time rng v).map stepOut =
    caseOut cfg bt up m rng v (.mplsLabel 1) :=
  mplsLabel_case 1 _ (copy_grow m.mplsLabel 2 hml) fun _ => rfl

theorem case_72 (hml : ∀ x ∈ m.mplsLabel, x < 4294967296) : (TF.ConvertNetFlowDataSet_case_72 m time rng v).map stepOut =
    caseOut cfg bt up m rng v (.mplsLabel 2) :=
  mplsLabel_case 2 _ (copy_grow m.mplsLabel 3 hml) fun _ => rfl

theorem case_315 (hv : v.length < 18446744073709551616)
    (hb : ∀ c m1, cfg = some c → parsePacket c m v = .ok m1 → m1.bytes < 18446744073709551616) :
    (TF.ConvertNetFlowDataSet_case_315 m cfg time rng v).map stepOut =
    caseOut cfg bt up m rng v .frameSection := by
  unfold TF.ConvertNetFlowDataSet_case_315
  cases cfg with
  | none => rfl
  | some c =>
    simp only [caseOut, applyAction, Go.ParsePacket]
    cases hp : parsePacket c m v with
    | error e => rfl
    | ok m1 =>
      have e1 : (UInt64.ofNat m1.bytes = 0) ↔ m1.bytes = 0 := by
        rw [← UInt64.toNat_inj, UInt64.toNat_ofNat_of_lt' (hb c m1 rfl hp)]; rfl
      by_cases h0 : m1.bytes = 0
      · simp [Except.map, stepOut, h0, Nat.mod_eq_of_lt hv]
      · simp [Except.map, stepOut, e1, h0]

end cases

/-- the facts about the message the width-less `FlowMsg` of the model cannot express: they hold for every message the
    Go code can hold (`Etype` is a uint32, the labels are uint32s, `Bytes` is a uint64, a slice is shorter than 2^64) -/
def StepOK (cfg : Option Config) (v : Bytes) (m : FlowMsg) : Prop :=
  m.etype < 4294967296 ∧ (∀ x ∈ m.mplsLabel, x < 4294967296) ∧ v.length < 18446744073709551616 ∧
    ∀ c m1, cfg = some c → parsePacket c m v = .ok m1 → m1.bytes < 18446744073709551616

theorem lookupAction_none_of (ver id : Nat) (h9 : ver ≠ 9) (h10 : ver ≠ 10)
    (h0 : caseTable.find? (fun e => e.1 == 0 && e.2.1.contains id) = none) : lookupAction ver id = none := by
  unfold lookupAction
  rw [h0]
  have hver : ∀ e ∈ caseTable, e.1 = 0 ∨ e.1 = 9 ∨ e.1 = 10 := by decide
  have h2 : caseTable.find? (fun e => e.1 == ver && e.2.1.contains id) = none := by
    rw [List.find?_eq_none] at h0 ⊢
    intro e he
    rcases hver e he with h | h | h
    · have := h0 e he
      by_cases hv : ver = 0
      · subst hv; simpa [h] using this
      · simp [h, Ne.symm hv]
    · simp [h, Ne.symm h9]
    · simp [h, Ne.symm h10]
  rw [h2]

/-- a Go `switch` over element ids read off a case table: the first entry of scope `s` that lists `id` -/
def switchTbl {γ : Type} (f : Action → γ) (d : γ) (s id : Nat) : List (Nat × List Nat × Action) → γ
  | [] => d
  | e :: tbl => if e.1 == s && e.2.1.contains id then f e.2.2 else switchTbl f d s id tbl

section
variable {γ : Type} (f : Action → γ) (d : γ) (s id : Nat)

theorem switchTbl_find (tbl : List (Nat × List Nat × Action)) :
    switchTbl f d s id tbl =
      match tbl.find? (fun e => e.1 == s && e.2.1.contains id) with
      | some e => f e.2.2
      | none => d := by
  induction tbl with
  | nil => rfl
  | cons e tbl ih =>
    rw [switchTbl, List.find?_cons]
    cases e.1 == s && e.2.1.contains id
    · simpa using ih
    · rfl

theorem switchTbl_append (l₁ l₂ : List (Nat × List Nat × Action)) :
    switchTbl f d s id (l₁ ++ l₂) = switchTbl f (switchTbl f d s id l₂) s id l₁ := by
  induction l₁ with
  | nil => rfl
  | cons e l ih => simp only [List.cons_append, switchTbl, ih]

theorem switchTbl_skip {l : List (Nat × List Nat × Action)} (h : ∀ e ∈ l, e.1 ≠ s) : switchTbl f d s id l = d := by
  induction l with
  | nil => rfl
  | cons e l ih =>
    have he : (e.1 == s) = false := by simpa using h e List.mem_cons_self
    rw [switchTbl, he, Bool.false_and, if_neg Bool.false_ne_true, ih fun x hx => h x (List.mem_cons_of_mem _ hx)]

theorem switchTbl_idem (l : List (Nat × List Nat × Action)) :
    switchTbl f (switchTbl f d s id l) s id l = switchTbl f d s id l := by
  rw [switchTbl_find f (switchTbl f d s id l), switchTbl_find f d]
  cases l.find? fun e => e.1 == s && e.2.1.contains id <;> rfl

/-- a table of outer cases `O` followed by the cases `N` of version 9 and `T` of version 10 -/
theorem switchTbl_scopes {O N T : List (Nat × List Nat × Action)} (hO : ∀ e ∈ O, e.1 = 0) (hN : ∀ e ∈ N, e.1 = 9)
    (hT : ∀ e ∈ T, e.1 = 10) (ver : Nat) :
    switchTbl f (switchTbl f d ver id (O ++ (N ++ T))) 0 id (O ++ (N ++ T)) =
      switchTbl f (if ver = 9 then switchTbl f d 9 id N else if ver = 10 then switchTbl f d 10 id T else d) 0 id O := by
  have hO' : ∀ {s}, s ≠ 0 → ∀ e ∈ O, e.1 ≠ s := fun h e he => hO e he ▸ h.symm
  have hN' : ∀ {s}, s ≠ 9 → ∀ e ∈ N, e.1 ≠ s := fun h e he => hN e he ▸ h.symm
  have hT' : ∀ {s}, s ≠ 10 → ∀ e ∈ T, e.1 ≠ s := fun h e he => hT e he ▸ h.symm
  simp only [switchTbl_append]
  rw [switchTbl_skip f _ 0 id (hT' (by decide)), switchTbl_skip f _ 0 id (hN' (by decide))]
  by_cases h9 : ver = 9
  · subst h9
    rw [if_pos rfl, switchTbl_skip f _ 9 id (hO' (by decide)), switchTbl_skip f d 9 id (hT' (by decide))]
  by_cases h10 : ver = 10
  · subst h10
    rw [if_neg (by decide), if_pos rfl, switchTbl_skip f _ 10 id (hO' (by decide)), switchTbl_skip f _ 10 id (hN' (by decide))]
  rw [if_neg h9, if_neg h10, switchTbl_skip f _ ver id (hN' h9), switchTbl_skip f d ver id (hT' h10)]
  by_cases h0 : ver = 0
  · subst h0; exact switchTbl_idem f d 0 id O
  · rw [switchTbl_skip f d ver id (hO' h0)]
end

/-- `caseTable` lists the 50 outer cases, then the 2 of NetFlow v9, then the 12 of IPFIX -/
theorem lookupAction_switch {γ : Type} (f : Action → γ) (d : γ) (ver id : Nat) :
    (match lookupAction ver id with | none => d | some a => f a) =
      switchTbl f (if ver = 9 then switchTbl f d 9 id ((caseTable.drop 50).take 2)
        else if ver = 10 then switchTbl f d 10 id (caseTable.drop 52) else d) 0 id (caseTable.take 50) := by
  have hs : caseTable = caseTable.take 50 ++ ((caseTable.drop 50).take 2 ++ caseTable.drop 52) := rfl
  rw [← switchTbl_scopes f d id (by decide) (by decide) (by decide), ← hs, switchTbl_find, switchTbl_find, lookupAction]
  cases caseTable.find? fun e => e.1 == 0 && e.2.1.contains id with
  | some e => rfl
  | none => cases caseTable.find? fun e => e.1 == ver && e.2.1.contains id <;> rfl

section
variable {cfg : Option Config} {bt up : Nat} {m : FlowMsg} {rng : Nat} {v : Bytes}

/-- one `case k:` of the translated switch against the table entry `(s, [k], a)` -/
theorem switch_case {t k : UInt16} {s : Nat} {a : Action} {tbl : List (Nat × List Nat × Action)} {A R : Step}
    {d : Res (Option (FlowMsg × Nat))}
    (hA : A.map stepOut = caseOut cfg bt up m rng v a)
    (hR : R.map stepOut = switchTbl (caseOut cfg bt up m rng v) d s t.toNat tbl) :
    (if decide (t = k) then A else R).map stepOut =
      switchTbl (caseOut cfg bt up m rng v) d s t.toNat ((s, [k.toNat], a) :: tbl) := by
  by_cases h : t = k
  · simp [switchTbl, h, hA]
  · have : t.toNat ≠ k.toNat := fun e => h (UInt16.toNat_inj.1 e)
    simp [switchTbl, h, this, hR]

/-- the default branch of the outer switch: `if version == 9 { switch … } else if version == 10 { switch … }` -/
theorem version_split {version : UInt16} {G9 G10 X : Step} {d9 d10 d : Res (Option (FlowMsg × Nat))}
    (h9 : G9.map stepOut = d9) (h10 : G10.map stepOut = d10) (hX : X.map stepOut = d) :
    (if decide (version = 9) then G9 else if decide (version = 10) then G10 else X).map stepOut =
      if version.toNat = 9 then d9 else if version.toNat = 10 then d10 else d := by
  by_cases v9 : version = 9
  · subst v9; exact h9
  by_cases v10 : version = 10
  · subst v10; exact h10
  have n9 : version.toNat ≠ 9 := fun e => v9 (UInt16.toNat_inj.1 e)
  have n10 : version.toNat ≠ 10 := fun e => v10 (UInt16.toNat_inj.1 e)
  rw [if_neg n9, if_neg n10, decide_eq_false v9, decide_eq_false v10]
  exact hX

end

/-- One iteration of the loop of ConvertNetFlowDataSet (the whole `switch df.Type`, the custom mapping, the
    enterprise skip) is one step of the model's `convertFields`, for every element id and every version. -/
theorem convertField_eq (version : UInt16) (uptime : UInt32) (record : List TF.DataField) (cfg : Option Config)
    (baseTimeNs time : UInt64) (m : FlowMsg) (rng : Nat) (df : TF.DataField) (hr : rng < record.length) (hdf : record[rng] = df)
    (hok : ∀ v m1, df.Value = some v →
      mapStep (cfg.map fun c => if version.toNat = 10 then c.ipfix else c.v9) (dfOf df) v m = .ok m1 → StepOK cfg v m1) :
    (TF.ConvertNetFlowDataSet_loop1_body version uptime record (cfg.map fun c => if version.toNat = 10 then c.ipfix else c.v9) cfg
        baseTimeNs record.length m time rng).map stepOut =
      (modelStep cfg version.toNat baseTimeNs.toNat uptime.toNat (dfOf df) m).map fun m' => some (m', rng + 1) := by
  -- the body is rewritten at its head only: `simp` would walk through the whole switch at every call
  have hidx : Go.idxL record rng = .ok df := by simp [Go.idxL, hr, hdf]
  rw [TF.ConvertNetFlowDataSet_loop1_body]
  conv => lhs; zeta
  rw [if_pos (decide_eq_true hr), hidx, ok_bind]
  cases hv : df.Value with
  | none =>
    conv => rhs; simp only [modelStep, show (dfOf df).value = df.Value from rfl, hv]
    rfl
  | some v =>
    conv => rhs; simp only [modelStep, show (dfOf df).value = df.Value from rfl, show (dfOf df).penProvided = df.PenProvided from rfl,
      show (dfOf df).type = df.Type.toNat from rfl, hv]
    rw [show Go.anyIsBytes (some v) = true from rfl, Bool.not_true, if_neg Bool.false_ne_true, mapCustomNetFlow_eq m df v _ hv]
    cases hm : mapStep (cfg.map fun c => if version.toNat = 10 then c.ipfix else c.v9) (dfOf df) v m with
    | error e => rfl
    | ok m1 =>
      rw [ok_bind]
      cases hp : df.PenProvided with
      | true => rfl
      | false =>
        obtain ⟨he, hml, hv64, hb⟩ := hok v m1 hv hm
        rw [if_neg Bool.false_ne_true]
        refine Eq.trans ?_ (Eq.trans
          (lookupAction_switch (caseOut cfg baseTimeNs.toNat uptime.toNat m1 rng v) (.ok (some (m1, rng + 1)))
            version.toNat df.Type.toNat).symm
          (by cases lookupAction version.toNat df.Type.toNat <;> rfl))
        -- the cases in source order, against `caseTable`
        exact
          switch_case (unum32 "ObservationPointId" rfl fun _ => rfl) <|
          switch_case (unum64 "Bytes" rfl fun _ => rfl) <|
          switch_case (unum64 "Packets" rfl fun _ => rfl) <|
          switch_case (unum64 "Bytes" rfl fun _ => rfl) <|
          switch_case (unum64 "Packets" rfl fun _ => rfl) <|
          switch_case (unum32 "SrcPort" rfl fun _ => rfl) <|
          switch_case (unum32 "DstPort" rfl fun _ => rfl) <|
          switch_case (unum32 "Proto" rfl fun _ => rfl) <|
          switch_case (unum32 "SrcAs" rfl fun _ => rfl) <|
          switch_case (unum32 "DstAs" rfl fun _ => rfl) <|
          switch_case (unum32 "InIf" rfl fun _ => rfl) <|
          switch_case (unum32 "OutIf" rfl fun _ => rfl) <|
          switch_case (unum32 "ForwardingStatus" rfl fun _ => rfl) <|
          switch_case (unum32 "IpTos" rfl fun _ => rfl) <|
          switch_case (unum32 "TcpFlags" rfl fun _ => rfl) <|
          switch_case (unum32 "IpTtl" rfl fun _ => rfl) <|
          switch_case case_60 <|
          switch_case (addr_src false he) <|
          switch_case (addr_dst false he) <|
          switch_case (unum32 "SrcNet" rfl fun _ => rfl) <|
          switch_case (unum32 "DstNet" rfl fun _ => rfl) <|
          switch_case (addr_src true he) <|
          switch_case (addr_dst true he) <|
          switch_case (unum32 "SrcNet" rfl fun _ => rfl) <|
          switch_case (unum32 "DstNet" rfl fun _ => rfl) <|
          switch_case rfl <|
          switch_case rfl <|
          switch_case rfl <|
          switch_case rfl <|
          switch_case case_32 <|
          switch_case case_32 <|
          switch_case (unum32 "IcmpType" rfl fun _ => rfl) <|
          switch_case (unum32 "IcmpType" rfl fun _ => rfl) <|
          switch_case (unum32 "IcmpCode" rfl fun _ => rfl) <|
          switch_case (unum32 "IcmpCode" rfl fun _ => rfl) <|
          switch_case (unum64 "SrcMac" rfl fun _ => rfl) <|
          switch_case (unum64 "DstMac" rfl fun _ => rfl) <|
          switch_case (unum64 "SrcMac" rfl fun _ => rfl) <|
          switch_case (unum64 "DstMac" rfl fun _ => rfl) <|
          switch_case (unum32_twice "VlanId" "SrcVlan" rfl rfl fun _ _ => rfl) <|
          switch_case (unum32 "DstVlan" rfl fun _ => rfl) <|
          switch_case (unum32 "FragmentId" rfl fun _ => rfl) <|
          switch_case case_88 <|
          switch_case case_197 <|
          switch_case (unum32 "Ipv6FlowLabel" rfl fun _ => rfl) <|
          switch_case case_70 <|
          switch_case (case_71 hml) <|
          switch_case (case_72 hml) <|
          switch_case rfl <|
          switch_case rfl <|
          version_split
            (switch_case (case_22 baseTimeNs uptime) <|
             switch_case (case_21 baseTimeNs uptime) rfl)
            (switch_case (ipfixTime_case true 1000000000 (· * 1000000000) (fun u => UInt64.toNat_mul u _) fun _ => rfl) <|
             switch_case (ipfixTime_case true 1000000 (· * 1000000) (fun u => UInt64.toNat_mul u _) fun _ => rfl) <|
             switch_case (ipfixTime_case true 1000 (· * 1000) (fun u => UInt64.toNat_mul u _) fun _ => rfl) <|
             switch_case (ipfixTime_case true 1 id toNat_mul_one fun _ => rfl) <|
             switch_case (ipfixTime_case false 1000000000 (· * 1000000000) (fun u => UInt64.toNat_mul u _) fun _ => rfl) <|
             switch_case (ipfixTime_case false 1000000 (· * 1000000) (fun u => UInt64.toNat_mul u _) fun _ => rfl) <|
             switch_case (ipfixTime_case false 1000 (· * 1000) (fun u => UInt64.toNat_mul u _) fun _ => rfl) <|
             switch_case (ipfixTime_case false 1 id toNat_mul_one fun _ => rfl) <|
             switch_case (ipfixDelta_case true baseTimeNs fun _ => rfl) <|
             switch_case (ipfixDelta_case false baseTimeNs fun _ => rfl) <|
             switch_case case_312 <|
             switch_case (case_315 hv64 hb) rfl)
            rfl

/-- `modelStep` is the body of the loop of `convertFields`: by cases on a value being present, a custom
    mapping matching, the field being an enterprise one, and an action being known for its type -/
theorem convertFields_cons (cfg : Option Config) (ver bt up : Nat) (df : Netflow.DataField) (rest : List Netflow.DataField) (m : FlowMsg) :
    convertFields cfg ver bt up (df :: rest) m =
      match modelStep cfg ver bt up df m with
      | .error e => .error e
      | .ok m' => convertFields cfg ver bt up rest m' := by
  cases cfg with
  | none =>
    rw [convertFields, modelStep]
    cases hv : df.value with
    | none => simp
    | some v =>
      have hl0 : lookupNetflow [] df.penProvided df.pen df.type = none := rfl
      simp only [mapStep, Option.map_none, hl0]
      by_cases hp : df.penProvided = true
      · simp [hp]
      · cases hl : lookupAction ver df.type with
        | none => simp [hp]
        | some a => simp [hp]; cases applyAction none bt up m v a <;> rfl
  | some c =>
    rw [convertFields, modelStep]
    cases hv : df.value with
    | none => simp
    | some v =>
      simp only [mapStep, Option.map_some]
      cases hm : lookupNetflow (if ver = 10 then c.ipfix else c.v9) df.penProvided df.pen df.type with
      | none =>
        by_cases hp : df.penProvided = true
        · simp [hp]
        · cases hl : lookupAction ver df.type with
          | none => simp [hp]
          | some a => simp [hp]; cases applyAction (some c) bt up m v a <;> rfl
      | some f =>
        cases hmc : mapCustom m v f with
        | error e => simp [hmc]
        | ok m1 =>
          by_cases hp : df.penProvided = true
          · simp [hp, hmc]
          · cases hl : lookupAction ver df.type with
            | none => simp [hp, hmc]
            | some a => simp [hp, hmc]; cases applyAction (some c) bt up m1 v a <;> rfl

def loopOut : Go.Ctl (FlowMsg × UInt64 × Nat) FlowMsg → FlowMsg
  | .next c => c.1
  | .brk c => c.1
  | .ret m => m

/-- an iteration that agrees with a step of the model either fails with it or goes on with its message -/
theorem step_inv {c : Step} {r : Res FlowMsg} {n : Nat} (h : c.map stepOut = r.map fun m' => some (m', n)) :
    match (generalizing := false) r with
    | .error e => c = .error e
    | .ok m' => ∃ t', c = .ok (.next (m', t', n)) := by
  cases r with
  | error e =>
    cases c with
    | error e' => cases h; rfl
    | ok x => cases h
  | ok m' =>
    cases c with
    | error e' => cases h
    | ok x =>
      cases x with
      | next a => obtain ⟨a1, a2, a3⟩ := a; cases h; exact ⟨a2, rfl⟩
      | brk a => cases h
      | ret x => cases h

/-- The loop of ConvertNetFlowDataSet over the record is the model's `convertFields`, given an invariant `Inv` of the
    message under which the width facts of `StepOK` hold (the model's `FlowMsg` has unbounded columns). -/
theorem convertLoop_eq (version : UInt16) (uptime : UInt32) (record : List TF.DataField) (cfg : Option Config) (baseTimeNs : UInt64)
    (Inv : FlowMsg → Prop)
    (hstep : ∀ m (i : Nat) (hi : i < record.length) v m1, Inv m → record[i].Value = some v →
      mapStep (cfg.map fun c => if version.toNat = 10 then c.ipfix else c.v9) (dfOf record[i]) v m = .ok m1 → StepOK cfg v m1)
    (hpres : ∀ m (i : Nat) (hi : i < record.length) m', Inv m →
      modelStep cfg version.toNat baseTimeNs.toNat uptime.toNat (dfOf record[i]) m = .ok m' → Inv m') :
    ∀ (fuel rng : Nat) (m : FlowMsg) (time : UInt64), Inv m → rng ≤ record.length → record.length - rng < fuel →
      (TF.ConvertNetFlowDataSet_loop1 version uptime record (cfg.map fun c => if version.toNat = 10 then c.ipfix else c.v9) cfg
          baseTimeNs record.length fuel m time rng).map loopOut =
        convertFields cfg version.toNat baseTimeNs.toNat uptime.toNat ((record.drop rng).map dfOf) m := by
  intro fuel
  induction fuel with
  | zero => intro rng m time _ _ h; omega
  | succ fuel ih =>
    intro rng m time hinv h1 h2
    rw [TF.ConvertNetFlowDataSet_loop1]
    by_cases hr : rng < record.length
    · have hd : record.drop rng = record[rng] :: record.drop (rng + 1) := List.drop_eq_getElem_cons hr
      have hs := step_inv (convertField_eq version uptime record cfg baseTimeNs time m rng record[rng] hr rfl
        (fun v m1 hv hm => hstep m rng hr v m1 hinv hv hm))
      rw [hd, List.map_cons, convertFields_cons]
      cases hms : modelStep cfg version.toNat baseTimeNs.toNat uptime.toNat (dfOf record[rng]) m with
      | error e =>
        rw [hms] at hs
        rw [hs]; rfl
      | ok m' =>
        rw [hms] at hs
        obtain ⟨t', hb⟩ := hs
        rw [hb, ok_bind]
        exact ih (rng + 1) m' t' (hpres m rng hr m' hinv hms) (by omega) (by omega)
    · have hrl : rng = record.length := by omega
      subst hrl
      have hb : TF.ConvertNetFlowDataSet_loop1_body version uptime record (cfg.map fun c => if version.toNat = 10 then c.ipfix else c.v9) cfg
          baseTimeNs record.length m time record.length = .ok (.brk (m, time, record.length)) := by
        unfold TF.ConvertNetFlowDataSet_loop1_body
        simp
      simp [hb, Except.map, loopOut, convertFields]

/-- ConvertNetFlowDataSet on a Reset() message is the model's `convertNetFlowDataSet` -/
theorem convertNetFlowDataSet_eq (version : UInt16) (baseTime uptime : UInt32) (record : List TF.DataField) (cfg : Option Config)
    (Inv : FlowMsg → Prop)
    (hinit : ∀ m : FlowMsg, m.etype = 0 → m.mplsLabel = [] → m.bytes = 0 → Inv m)
    (hstep : ∀ m (i : Nat) (hi : i < record.length) v m1, Inv m → record[i].Value = some v →
      mapStep (cfg.map fun c => if version.toNat = 10 then c.ipfix else c.v9) (dfOf record[i]) v m = .ok m1 → StepOK cfg v m1)
    (hpres : ∀ m (i : Nat) (hi : i < record.length) m', Inv m →
      modelStep cfg version.toNat (baseTime.toNat * 1000000000) uptime.toNat (dfOf record[i]) m = .ok m' → Inv m') :
    TF.ConvertNetFlowDataSet FlowMsg.empty version baseTime uptime record
        (cfg.map fun c => if version.toNat = 10 then c.ipfix else c.v9) cfg =
      convertNetFlowDataSet cfg version.toNat baseTime.toNat uptime.toNat (record.map dfOf) := by
  have hbt : (UInt64.ofNat baseTime.toNat * 1000000000).toNat = baseTime.toNat * 1000000000 := by
    have hb := baseTime.toNat_lt
    have h1 : baseTime.toNat * 1000000000 < 4294967296000000000 :=
      Nat.mul_lt_mul_of_pos_right (show baseTime.toNat < 4294967296 from hb) (by decide)
    rw [UInt64.toNat_mul, UInt64.toNat_ofNat', Nat.mod_eq_of_lt (Nat.lt_trans hb (by decide))]
    exact Nat.mod_eq_of_lt (Nat.lt_trans h1 (by decide))
  have hafter : ∀ r : Res (Go.Ctl (FlowMsg × UInt64 × Nat) FlowMsg),
      (r >>= fun t => Go.Ctl.elim t (fun x => (.ok x : Res FlowMsg)) fun c => .ok c.1) = r.map loopOut := by
    intro r
    cases r with
    | error e => rfl
    | ok c => cases c <;> rfl
  have key := fun m0 (h0 : Inv m0) => convertLoop_eq version uptime record cfg (UInt64.ofNat baseTime.toNat * 1000000000) Inv hstep
    (by rw [hbt]; exact hpres) (record.length + 1) 0 m0 0 h0 (by omega) (by omega)
  simp only [List.drop_zero, hbt] at key
  unfold TF.ConvertNetFlowDataSet convertNetFlowDataSet
  by_cases h9 : version = 9
  · subst h9
    simp only [decide_true, if_true, hafter, hbt]
    rw [key _ (hinit _ rfl rfl rfl)]
    rfl
  · by_cases h10 : version = 10
    · subst h10
      simp only [show decide ((10 : UInt16) = 9) = false from rfl, show decide ((10 : UInt16) = 10) = true from rfl,
        if_true, if_false, Bool.false_eq_true, hafter, hbt]
      rw [key _ (hinit _ rfl rfl rfl)]
      rfl
    · have hn9 : version.toNat ≠ 9 := fun h => h9 (UInt16.toNat_inj.1 h)
      have hn10 : version.toNat ≠ 10 := fun h => h10 (UInt16.toNat_inj.1 h)
      simp only [h9, h10, decide_false, if_false, Bool.false_eq_true, hafter, hbt]
      rw [key _ (hinit _ rfl rfl rfl)]
      simp only [hn9, hn10, if_false]
      rfl

end Goflow.C08Trans2
