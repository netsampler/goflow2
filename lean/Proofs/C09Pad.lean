import Goflow.Spec.Sflow
import Goflow.Producer.Sflow
import Proofs.C04Roundtrip
/-!
  C09 (padding) — the dissector never sees the XDR padding of a raw header record.

  The sFlow decoder keeps the sampled header as it is on the wire, padded to four bytes (`expData`:
  `.raw [p, fl, st, h.length] (h ++ pad h.length)`); the announced length is the fourth word of the record.
  `ParseSampledHeaderConfig` cuts the header data to the announced length before it dissects
  (`if n := int(OriginalLength); n < len(data) { data = data[:n] }`, model: `hd.take (vals.getD 3 0)`), so for every
  encoded raw header record what is dissected is the captured header `h`, byte for byte — a capture cut in the middle of a
  field is not completed with zero bytes.
-/
namespace Goflow.C09Pad
open Goflow Goflow.Sflow Goflow.Spec.Sflow

theorem take_append_pad (h : Bytes) : (h ++ pad h.length).take h.length = h :=
  List.take_left' rfl

theorem take_append_length (h rest : Bytes) : (h ++ rest).take h.length = h :=
  List.take_left' rfl

theorem expRecord_dissects_capture (cfg : Option Producer.Config) (m : FlowMsg) (p fl st : Nat) (h : Bytes) :
    Producer.applyRecord cfg m (expRecord (.rawHeader p fl st h)) =
      if p = 1 then Producer.parsePacket (cfg.getD {}) { m with bytes := fl } h else .ok { m with bytes := fl } := by
  simp only [Producer.applyRecord, expRecord, expData, List.getD_cons_zero, List.getD_cons_succ, take_append_pad]

/-- the record the decoder produces for an encoded raw header record with header `h` is dissected as exactly `h`:
    the frame length goes to `bytes`, and for header protocol 1 (Ethernet) the dissector runs on `h`, not on
    `h ++ pad h.length`, which is what the decoder keeps in `HeaderData` -/
theorem raw_header_dissects_capture (cfg : Option Producer.Config) (m : FlowMsg) (p fl st : Nat) (h : Bytes)
    (hw : C04.RecordFieldsWF (.rawHeader p fl st h)) (len : Nat) :
    ∃ r, decodeFlowRecord 1 len (recBody (.rawHeader p fl st h)) = .ok r ∧
      r.data = .raw [p, fl, st, h.length] (h ++ pad h.length) ∧
      Producer.applyRecord cfg m r =
        if p = 1 then Producer.parsePacket (cfg.getD {}) { m with bytes := fl } h else .ok { m with bytes := fl } := by
  refine ⟨_, C04.rawHeader_roundtrip p fl st h hw len, rfl, ?_⟩
  simp only [Producer.applyRecord, expData, List.getD_cons_zero, List.getD_cons_succ, take_append_pad]

/-- the record handed exactly its body, as the record loop of the decoder does -/
theorem raw_header_record_dissects_capture (cfg : Option Producer.Config) (m : FlowMsg) (p fl st : Nat) (h : Bytes)
    (hw : C04.RecordFieldsWF (.rawHeader p fl st h)) :
    ∃ r, decodeFlowRecord (recFormat (.rawHeader p fl st h)) (recBody (.rawHeader p fl st h)).length
          (recBody (.rawHeader p fl st h)) = .ok r ∧
      Producer.applyRecord cfg m r =
        if p = 1 then Producer.parsePacket (cfg.getD {}) { m with bytes := fl } h else .ok { m with bytes := fl } :=
  ⟨_, C04.flowRecord_roundtrip _ hw, expRecord_dissects_capture cfg m p fl st h⟩

/-- a record that announces less than it carries (a sloppy agent, or a four-byte-aligned capture announced shorter):
    only the announced bytes are dissected -/
theorem short_announced_length (cfg : Option Producer.Config) (m : FlowMsg) (fmt len fl st n : Nat) (hd : Bytes) :
    Producer.applyRecord cfg m ⟨fmt, len, .raw [1, fl, st, n] hd⟩ =
      Producer.parsePacket (cfg.getD {}) { m with bytes := fl } (hd.take n) := by
  simp [Producer.applyRecord]

/-- a record that announces at least what it carries is dissected whole (Go: `n < len(data)` is false) -/
theorem long_announced_length (cfg : Option Producer.Config) (m : FlowMsg) (fmt len fl st n : Nat) (hd : Bytes)
    (hn : hd.length ≤ n) :
    Producer.applyRecord cfg m ⟨fmt, len, .raw [1, fl, st, n] hd⟩ =
      Producer.parsePacket (cfg.getD {}) { m with bytes := fl } hd := by
  simp [Producer.applyRecord, List.take_of_length_le hn]

end Goflow.C09Pad
