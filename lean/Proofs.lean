import Proofs.C01
import Proofs.C01Any
import Proofs.C01Sane
import Proofs.C02
import Proofs.C02Cost
import Proofs.C03
import Proofs.C03Trans
import Proofs.C03Trans2
import Proofs.C03Trans3
import Proofs.C04
import Proofs.C04Roundtrip
import Proofs.C04Trans
import Proofs.C04Trans2
import Proofs.C04Trans2Map
import Proofs.C05
import Proofs.C05Trans
import Proofs.C06
import Proofs.C07
import Proofs.C07E2E
import Proofs.C08
import Proofs.C08Full
import Proofs.C08Trans
import Proofs.C08Trans2
import Proofs.C09
import Proofs.C09Pad
import Proofs.C09Trans
import Proofs.C10
import Proofs.C10Full
import Proofs.C10Loop
import Proofs.C10Parsers
import Proofs.C10Trans
import Proofs.C10Trunc
import Proofs.C11
import Proofs.C12
import Proofs.C12Commit
import Proofs.C12Pool
import Proofs.C13
import Proofs.C13Agree
import Proofs.C13Grammar
import Proofs.C13Json
import Proofs.C13Object
import Proofs.C13Proto
import Proofs.C13Valid
import Proofs.C14
import Proofs.C14Bits
import Proofs.C14BitsFull
import Proofs.C14Compile
import Proofs.C14Compose
import Proofs.C14Map
import Proofs.C14Trans
import Proofs.C15
import Proofs.C15Locks
import Proofs.C15Refresh
import Proofs.C15Writes
import Proofs.C16
import Proofs.C16Multi
import Proofs.C17
import Proofs.C17Faults
import Proofs.C18
import Proofs.C18Faults
import Proofs.C19
import Proofs.C19Faults
import Proofs.C20
import Proofs.C20Faults
import Proofs.Findings.C16
import Proofs.Findings.C19
import Proofs.Findings.C19Faults
import Proofs.Findings.C20
import Proofs.Lemmas.Assoc
import Proofs.Lemmas.Bytes
import Proofs.Lemmas.Count
import Proofs.Lemmas.Fields
import Proofs.Lemmas.GoPrims
import Proofs.Lemmas.Netflow
import Proofs.Lemmas.Numbers
import Proofs.Lemmas.Run
import Proofs.Lemmas.Safety
import Proofs.Lemmas.SafetyPacket
import Proofs.Lemmas.SafetySflow
import Proofs.Lemmas.SflowModel
import Proofs.Lemmas.ThenR
import Proofs.RawJson
